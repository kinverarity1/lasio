import LasioModel.Data
import LasioProofs.Lemmas.DataLemmas
/-
C02 — the numpy engine and the normal engine give the same curves on plain data sections.

Domain (`PlainData`): the file is `pre ++ title :: (body ++ after)`, the ~A window is `(first, last) = (|pre|, |pre| + |body|)`
(what `find_sections_in_file` returns: title line and inclusive last line), every body line is a blank line, a `#` comment
line, or `c ≥ 1` *quiet* tokens separated/padded by blanks (any Python whitespace, so blanks, TABs, `\r`), at least one row,
default delimiter; the window ends at the end of the file or right before a line whose first token is not a number
(a section title: `float()` rejects every token starting with `~`).

A *quiet* token (`QuietTok`, Lemmas/DataLemmas.lean) contains no blank, quote, `#`, ctrl-Z and none of the three read substitutions
matches inside it; `subs_id_on_plain` / `quietTok_of_simple` show that every token made of the characters `0-9 + - . e E` with at
most one `.` and no digit immediately before a `-` is quiet — this covers every plain decimal number
`[+-]?(\d+\.?\d*|\.\d+)([eE][+-]?\d+)?`.

The theorems about `readData` are the instances for the default delimiter of `readData_plain_normal`, `_agree`, `_numpy`,
`_fallback` (Lemmas/DataLemmas.lean), which hold for any delimiter.
-/
namespace Lasio.Dt

/-! ### the window -/

/-- what the two engines are given: the normal engine visits exactly the body; the numpy engine gets everything after the title
and `max_rows = |body|` (`Body`, `PlainData`, `Numeric` are defined in Lemmas/DataLemmas.lean) -/
theorem C02_window (pre : List Str) (title : Str) (body after : List Str) :
    bodyLines (pre ++ title :: (body ++ after)) pre.length (pre.length + body.length) = body ∧
    (pre ++ title :: (body ++ after)).drop (pre.length + 1) = body ++ after ∧
    (pre.length + body.length) - pre.length = body.length :=
  ⟨Tf.bodyLines_at pre title body after, Tf.drop_at pre title (body ++ after), Nat.add_sub_cancel_left _ _⟩

/-- On the body given explicitly both engines give the r × c token matrix (numeric tokens, `n_columns = c`,
`max_rows ≥ r`). -/
theorem C02_engines_agree_body (ft : FloatTable) (sb : Subs) {body : List Str} {c : Nat} {rows : List (List Str)}
    (h : Body c body rows) (hc : 0 < c) (hr : rows ≠ []) (hnum : Numeric ft rows) :
    normalEngineLines ft sb .space c body = .ok (matrixColumns ft c rows) ∧
    numpyEngineLines ft body.length body = some (matrixColumns ft c rows) := by
  refine ⟨normalEngineLines_matrix ft sb .space body rows c hc hr (body_rows_len h) (body_normalTokens sb h), ?_⟩
  have hp : PlainData ft body [] c rows := ⟨h, hc, hr, Or.inl rfl⟩
  have := numpy_plain_ok hp hnum (Or.inr rfl)
  simpa using this

/-! ### `readData` -/

/-- what the normal engine returns on plain data (WRAP ≠ YES) -/
theorem C02_normal_value (ft : FloatTable) (e : Engine) (p : NullPolicy) (st : Steer) (d : Nat) (pre : List Str) (title : Str)
    {body after : List Str} {c : Nat} {rows : List (List Str)} (h : PlainData ft body after c rows)
    (hdlm : st.delimiter = .space) (hw : st.wrapped ≠ yesTxt)
    (heng : effectiveEngine ⟨e, p⟩ st = .normal) :
    readData ⟨e, p⟩ (pre ++ title :: (body ++ after)) pre.length (pre.length + body.length) st d ft =
      .ok (.normal, plainResult ft p st d c rows) :=
  readData_plain_normal ft e p st d pre title after (by rw [hdlm]; exact h.body.lineRows) h.cpos h.rne hw heng

/-- **Engines agree**: on plain data the default fast engine and the pure-Python engine give the same curves. -/
theorem C02_engines_agree (ft : FloatTable) (p : NullPolicy) (st : Steer) (d : Nat) (pre : List Str) (title : Str)
    {body after : List Str} {c : Nat} {rows : List (List Str)} (h : PlainData ft body after c rows)
    (hdlm : st.delimiter = .space) :
    (readData ⟨.numpy, p⟩ (pre ++ title :: (body ++ after)) pre.length (pre.length + body.length) st d ft).map Prod.snd =
    (readData ⟨.normal, p⟩ (pre ++ title :: (body ++ after)) pre.length (pre.length + body.length) st d ft).map Prod.snd :=
  readData_plain_agree ft p st d pre title h (by rw [hdlm]; exact h.body.lineRows)

/-- **No silent fallback**: numeric plain data, WRAP ≠ YES, strict policy, and no blank/comment line in the body or nothing after
the window ⇒ the numpy engine itself produced the curves. -/
theorem C02_numpy_path (ft : FloatTable) (st : Steer) (d : Nat) (pre : List Str) (title : Str)
    {body after : List Str} {c : Nat} {rows : List (List Str)} (h : PlainData ft body after c rows) (hnum : Numeric ft rows)
    (hdlm : st.delimiter = .space) (hw : st.wrapped ≠ yesTxt)
    (hpath : body.length = rows.length ∨ after = []) :
    readData ⟨.numpy, .strict⟩ (pre ++ title :: (body ++ after)) pre.length (pre.length + body.length) st d ft =
      .ok (.numpy, plainResult ft .strict st d c rows) :=
  readData_plain_numpy ft st d pre title h hnum hw hpath

/-- **Fallback**: a blank/comment line inside the body and a following section ⇒ genfromtxt (whose `max_rows` counts rows, not
lines) runs into the next title line and raises; the normal engine produces the (same) curves. -/
theorem C02_fallback (ft : FloatTable) (st : Steer) (d : Nat) (pre : List Str) (title : Str)
    {body after : List Str} {c : Nat} {rows : List (List Str)} (h : PlainData ft body after c rows)
    (hdlm : st.delimiter = .space) (hw : st.wrapped ≠ yesTxt)
    (hskip : rows.length < body.length) (hafter : after ≠ []) :
    numpyEngine ft (pre ++ title :: (body ++ after)) pre.length (pre.length + body.length) = none ∧
    readData ⟨.numpy, .strict⟩ (pre ++ title :: (body ++ after)) pre.length (pre.length + body.length) st d ft =
      .ok (.normal, plainResult ft .strict st d c rows) :=
  readData_plain_fallback ft st d pre title h (by rw [hdlm]; exact h.body.lineRows) hw hskip hafter

/-! ### plain decimal numbers are in the domain -/

/-- The read substitutions (any subset of them) are the identity on a plain decimal token: characters `0-9 + - . e E`, at most
one `.`, no digit immediately before a `-`. -/
theorem subs_id_on_plain (sb : Subs) (t : Str) (h : simplePlain t = true) : applySubs sb t = t :=
  applySubs_core sb (Core.one (quietTok_of_simple t h))

/-- every plain decimal number `[+-]?(\d+\.?\d*|\.\d+)([eE][+-]?\d+)?` (recognised by the automaton `isPlainDecimal`, which the
harness compares with lasio's `numeric_literal_regex.fullmatch`) is a quiet token: the read substitutions leave it alone -/
theorem C02_plain_decimal_quiet (t : Str) (h : isPlainDecimal t = true) : QuietTok t ∧ ∀ sb, applySubs sb t = t :=
  ⟨quietTok_of_simple t (simplePlain_of_grammar t h), fun sb => subs_id_on_plain sb t (simplePlain_of_grammar t h)⟩

/-- the spellings the property text lists, and some more -/
example : ∀ t ∈ ["5", "5.", ".5", "+3", "-4e2", "1E+2", "-999.25", "-9.9925E2", "007", "1e-3", "-.5", "6.02e+23"].map String.toList,
    simplePlain t = true := by decide +kernel

/-- dates and run-on numbers are outside the domain: a substitution fires -/
example : simplePlain "2018-05-22".toList = false ∧ simplePlain "1.5-2.5".toList = false ∧ simplePlain "1.2.3".toList = false := by
  decide +kernel

/-! ### non-vacuity and necessity of the hypotheses -/

def c02s (s : String) : Str := s.toList

def ft4 : FloatTable := [(c02s "1", c02s "a1"), (c02s "2", c02s "a2"), (c02s "3", c02s "a3"), (c02s "4", c02s "a4")]

/-- `"1 2\n"`, a blank line, `" 3\t4 \r\n"`: a plain body with rows [1,2],[3,4] -/
theorem C02_example_body : Body 2 [c02s "1 2\n", c02s "\n", c02s " 3\t4 \r\n"] [[c02s "1", c02s "2"], [c02s "3", c02s "4"]] := by
  apply Body.row (toks := [c02s "1", c02s "2"])
  · exact ⟨[], c02s "1" ++ (c02s " " ++ c02s "2"), c02s "\n", allWs_dec _ (by decide +kernel), allWs_dec _ (by decide +kernel),
      Core.cons (quiet_digit "1" (by decide +kernel)) (by decide +kernel) (allWs_dec _ (by decide +kernel))
        (Core.one (quiet_digit "2" (by decide +kernel))), by decide +kernel⟩
  · rfl
  apply Body.skip
  · exact Or.inl (allWs_dec _ (by decide +kernel))
  apply Body.row (toks := [c02s "3", c02s "4"])
  · exact ⟨c02s " ", c02s "3" ++ (c02s "\t" ++ c02s "4"), c02s " \r\n", allWs_dec _ (by decide +kernel), allWs_dec _ (by decide +kernel),
      Core.cons (quiet_digit "3" (by decide +kernel)) (by decide +kernel) (allWs_dec _ (by decide +kernel))
        (Core.one (quiet_digit "4" (by decide +kernel))), by decide +kernel⟩
  · rfl
  exact Body.nil

/-- `PlainData` is inhabited: the body of `C02_example_body` as the last section of the file -/
theorem C02_example_last : PlainData ft4 [c02s "1 2\n", c02s "\n", c02s " 3\t4 \r\n"] [] 2 [[c02s "1", c02s "2"], [c02s "3", c02s "4"]] :=
  ⟨C02_example_body, by decide +kernel, by decide +kernel, Or.inl rfl⟩

/-- `PlainData` with something behind the window: the body of `C02_example_body` followed by a ~P section -/
theorem C02_example_inner :
    PlainData ft4 [c02s "1 2\n", c02s "\n", c02s " 3\t4 \r\n"] [c02s "~P\n", c02s "X. 5 : d\n"] 2 [[c02s "1", c02s "2"], [c02s "3", c02s "4"]] :=
  ⟨C02_example_body, by decide +kernel, by decide +kernel, Or.inr ⟨c02s "~P\n", [c02s "X. 5 : d\n"], c02s "~P", [], rfl, by decide +kernel, by decide +kernel⟩⟩

def stNo : Steer := ⟨true, c02s "NO", none, .space⟩

/-- last section with a blank line: the numpy engine itself answers (instance of `C02_numpy_path`) -/
example : readData ⟨.numpy, .strict⟩ ([c02s "~V\n"] ++ c02s "~A\n" :: ([c02s "1 2\n", c02s "\n", c02s " 3\t4 \r\n"] ++ [])) 1 (1 + 3) stNo 2 ft4 =
    .ok (.numpy, [(.declared 0, .floats [c02s "a1", c02s "a3"]), (.declared 1, .floats [c02s "a2", c02s "a4"])]) :=
  C02_numpy_path ft4 stNo 2 [c02s "~V\n"] (c02s "~A\n") C02_example_last (by unfold Numeric; decide +kernel) rfl (by decide +kernel) (Or.inr rfl)

/-- the same body followed by ~P: genfromtxt raises, the normal engine answers — the silent fallback inside the domain
(instance of `C02_fallback`; so `body.length = rows.length ∨ after = []` is necessary in `C02_numpy_path`) -/
theorem C02_numpy_path_needs_hypothesis :
    readData ⟨.numpy, .strict⟩ ([c02s "~V\n"] ++ c02s "~A\n" :: ([c02s "1 2\n", c02s "\n", c02s " 3\t4 \r\n"] ++ [c02s "~P\n", c02s "X. 5 : d\n"]))
      1 (1 + 3) stNo 2 ft4 =
    .ok (.normal, [(.declared 0, .floats [c02s "a1", c02s "a3"]), (.declared 1, .floats [c02s "a2", c02s "a4"])]) :=
  (C02_fallback ft4 stNo 2 [c02s "~V\n"] (c02s "~A\n") C02_example_inner rfl (by decide +kernel) (by decide +kernel) (by decide +kernel)).2

/-- `Numeric` is necessary in `C02_numpy_path`: a text cell makes genfromtxt raise (the curves still agree) -/
theorem C02_numeric_needed :
    readData ⟨.numpy, .strict⟩ [c02s "~A\n", c02s "1 abc\n"] 0 1 stNo 2 ft4 =
      .ok (.normal, [(.declared 0, .floats [c02s "a1"]), (.declared 1, .text [c02s "abc"])]) := by decide +kernel

/-- `PlainData.next` is necessary in `C02_engines_agree`: if the line after the window were one more numeric row (impossible for a
window computed by `find_sections_in_file`, which ends right before a `~` line) genfromtxt would read it after a blank line -/
theorem C02_next_needed :
    readData ⟨.numpy, .strict⟩ [c02s "~A\n", c02s "1 2\n", c02s "\n", c02s "3 4\n"] 0 2 stNo 2 ft4 =
      .ok (.numpy, [(.declared 0, .floats [c02s "a1", c02s "a3"]), (.declared 1, .floats [c02s "a2", c02s "a4"])]) ∧
    readData ⟨.normal, .strict⟩ [c02s "~A\n", c02s "1 2\n", c02s "\n", c02s "3 4\n"] 0 2 stNo 2 ft4 =
      .ok (.normal, [(.declared 0, .floats [c02s "a1"]), (.declared 1, .floats [c02s "a2"])]) := by decide +kernel

/-- Zero data rows (`PlainData.rne` fails): the engines agree here as well — a section of blank/comment lines only gives no
columns with either engine (since lasio 627c42f the numpy engine reshapes an empty genfromtxt result to (0, 0); before, it gave
one empty column and an extra unnamed curve when no curve was declared). -/
theorem C02_engines_agree_empty (ft : FloatTable) (p : NullPolicy) (st : Steer) (d : Nat) (pre : List Str) (title : Str)
    (body after : List Str) (hskips : ∀ ln ∈ body, SkipLine ln)
    (next : after = [] ∨ ∃ ln rest t ts, after = ln :: rest ∧ npTokens ln = t :: ts ∧ toFloat ft t = none)
    (hdlm : st.delimiter = .space) :
    (readData ⟨.numpy, p⟩ (pre ++ title :: (body ++ after)) pre.length (pre.length + body.length) st d ft).map Prod.snd =
    (readData ⟨.normal, p⟩ (pre ++ title :: (body ++ after)) pre.length (pre.length + body.length) st d ft).map Prod.snd := by
  have hn : ∀ o, Tf.normalRead o st d ft body = .ok (Tf.finishCols o st d .normal []) := fun o => by
    rw [Tf.normalRead, hdlm, normal_empty ft _ _ body hskips]
    rfl
  rw [Tf.readData_window, Tf.readData_window, Tf.readBody, Tf.readBody, effectiveEngine_normal, hn, hn]
  cases effectiveEngine ⟨.numpy, p⟩ st with
  | normal => rfl
  | numpy => rcases Tf.numpy_cases_empty ft body after next (body_npRows (body_of_skips 1 body hskips) Nat.one_pos) with h | h <;> rw [h] <;> rfl

/-- concrete instance: blank line only, no declared curve — both engines return no curve at all -/
theorem C02_rows_needed :
    readData ⟨.numpy, .strict⟩ [c02s "~A\n", c02s "\n"] 0 1 stNo 0 ft4 = .ok (.numpy, []) ∧
    readData ⟨.normal, .strict⟩ [c02s "~A\n", c02s "\n"] 0 1 stNo 0 ft4 = .ok (.normal, []) := by decide +kernel

end Lasio.Dt

#print axioms Lasio.Dt.C02_window
#print axioms Lasio.Dt.C02_engines_agree_body
#print axioms Lasio.Dt.C02_normal_value
#print axioms Lasio.Dt.C02_engines_agree
#print axioms Lasio.Dt.C02_numpy_path
#print axioms Lasio.Dt.C02_fallback
#print axioms Lasio.Dt.subs_id_on_plain
#print axioms Lasio.Dt.C02_plain_decimal_quiet
#print axioms Lasio.Dt.C02_numpy_path_needs_hypothesis
#print axioms Lasio.Dt.C02_numeric_needed
#print axioms Lasio.Dt.C02_next_needed
#print axioms Lasio.Dt.C02_engines_agree_empty
#print axioms Lasio.Dt.C02_rows_needed
