import LasioModel.Data
import LasioProofs.Lemmas.DataLemmas
import LasioProofs.Lemmas.RoundTripData
/-
C06 — NULL handling on read.  Statements about `applyNull` (the step of `LASFile.read` that replaces the ~Well NULL
value by NaN), for an arbitrary float service: cells are canonical float texts, `feq` is IEEE `==` on them.

* `C06_iff_strict`     : under the strict policy a cell is NaN afterwards iff it was NaN before, or it lies in a float column
                         other than column 0 and is `==` the (numeric) header NULL;
* `C06_other_cells`    : a cell that is not turned into NaN is unchanged;
* `C06_none`           : with `null_policy="none"` nothing changes;
* `C06_index_kept`     : column 0 is never changed;
* `C06_text_untouched` : text columns are never changed;
* `C06_shape`          : number of columns, kind and length of every column are kept.
-/
namespace Lasio.Dt

/-! ### the property -/

/-- with `null_policy="none"` no sample is changed -/
theorem C06_none (null : Option Str) (cols : List Column) : applyNull false null cols = cols := by
  apply List.ext_getElem?
  intro j
  rw [applyNull_getElem?]
  cases cols[j]? <;> simp [applyNullCol_none]

/-- a NULL that is not a number (text, or absent) changes nothing -/
theorem C06_nonnumeric_null (u : Bool) (cols : List Column) : applyNull u none cols = cols := by
  apply List.ext_getElem?
  intro j
  rw [applyNull_getElem?]
  cases cols[j]? <;> simp [applyNullCol_nonnumeric]

/-- index samples equal to NULL are kept: column 0 is unchanged under every policy -/
theorem C06_index_kept (u : Bool) (null : Option Str) (cols : List Column) :
    (applyNull u null cols)[0]? = cols[0]? := by
  rw [applyNull_getElem?]
  cases cols[0]? <;> simp [applyNullCol_zero]

/-- text columns are untouched -/
theorem C06_text_untouched (u : Bool) (null : Option Str) (cols : List Column) (j : Nat) (cells : List Str)
    (h : cols[j]? = some (.text cells)) : (applyNull u null cols)[j]? = some (.text cells) := by
  rw [applyNull_getElem?, h]
  simp [applyNullCol_text]

/-- a column that is a text column afterwards was that text column before -/
theorem C06_text_untouched_conv (u : Bool) (null : Option Str) (cols : List Column) (j : Nat) (cells : List Str)
    (h : (applyNull u null cols)[j]? = some (.text cells)) : cols[j]? = some (.text cells) := by
  rw [applyNull_getElem?] at h
  cases hc : cols[j]? with
  | none => simp [hc] at h
  | some c =>
    cases c with
    | text t => simpa [hc, applyNullCol_text] using h
    | floats f =>
      simp only [hc, Option.map_some, applyNullCol] at h
      split at h <;> (try split at h) <;> simp_all

/-- number of columns is kept -/
theorem C06_length (u : Bool) (null : Option Str) (cols : List Column) : (applyNull u null cols).length = cols.length :=
  applyNull_length u null cols

/-- the length of every column is kept -/
theorem C06_shape (u : Bool) (null : Option Str) (cols : List Column) (j : Nat) :
    ((applyNull u null cols)[j]?).map Column.length = (cols[j]?).map Column.length := by
  rw [applyNull_getElem?]
  cases cols[j]? <;> simp [applyNullCol_length]

/-- Strict policy: a float cell is NaN after the read **iff** it was NaN in the data, or it lies in a float column
other than the index column and is numerically equal to the header NULL. -/
theorem C06_iff_strict (null : Option Str) (cols : List Column) (j i : Nat) :
    floatCell (applyNull true null cols) j i = some nanTxt ↔
      floatCell cols j i = some nanTxt ∨
      (j ≠ 0 ∧ ∃ nv v, null = some nv ∧ floatCell cols j i = some v ∧ feq v nv = true) := by
  rw [floatCell_applyNull]
  cases floatCell cols j i with
  | none => simp
  | some v =>
    cases null with
    | none => simp
    | some nv =>
      by_cases hf : feq v nv = true
      · by_cases hj : j = 0 <;> simp [hf, hj]
      · simp [hf]

/-- a cell that does not become NaN keeps its value (no other value is ever written) -/
theorem C06_other_cells (u : Bool) (null : Option Str) (cols : List Column) (j i : Nat) (v : Str)
    (h : floatCell (applyNull u null cols) j i = some v) (hv : v ≠ nanTxt) : floatCell cols j i = some v := by
  rw [floatCell_applyNull] at h
  cases hc : floatCell cols j i with
  | none => rw [hc] at h; cases h
  | some x =>
    rw [hc, Option.map_some, Option.some.injEq] at h
    split at h
    · exact absurd h.symm hv
    · rw [h]

/-- the NaN positions of the data themselves survive (NaN is `==` nothing, so NaN is only ever added) -/
theorem C06_nan_kept (u : Bool) (null : Option Str) (cols : List Column) (j i : Nat)
    (h : floatCell cols j i = some nanTxt) : floatCell (applyNull u null cols) j i = some nanTxt := by
  rw [floatCell_applyNull, h, Option.map_some, ite_self]

/-! ### hypotheses are necessary, non-vacuity -/

def c06s (s : String) : Str := s.toList

/-- −999.25 as `float.hex()` -/
def nullHex : Str := c06s "-0x1.f3a0000000000p+9"

/-- the index column keeps a NULL-equal sample while the same value in column 1 becomes NaN (so `j ≠ 0` is necessary) -/
theorem C06_index_exception :
    applyNull true (some nullHex) [.floats [nullHex], .floats [nullHex, c06s "0x1.0000000000000p+0"], .text [c06s "-999.25"]]
      = [.floats [nullHex], .floats [nanTxt, c06s "0x1.0000000000000p+0"], .text [c06s "-999.25"]] := by decide +kernel

/-- `==` is numeric: a NULL of 0 also catches −0.0 -/
example : applyNull true (some zeroPos) [.floats [zeroPos], .floats [zeroNeg, zeroPos]] =
    [.floats [zeroPos], .floats [nanTxt, nanTxt]] := by decide +kernel

example : floatCell (applyNull true (some nullHex) [.floats [nullHex], .floats [nullHex]]) 1 0 = some nanTxt := by decide +kernel

/-! ### the NaN mask through a write -> read cycle (writer model `Dw`, bridge lemmas `Rt` in Lemmas/RoundTripData.lean)

`Rt.tokenRows c null rows` is the matrix of written tokens; by `C01_roundtrip_normal` / `C01_roundtrip_numpy`
(Props/C01.lean) the engines return `matrixColumns ft n (Rt.tokenRows c null rows)` from the written body.
`Rt.TableOK ft null nv c rows`: the NULL text converts to the header NULL value `nv`, `nv == nv`, every written token
converts, and the `%.Nf` rendering of a value that is not NaN is not read as NaN.
`Rt.NoNullClash ft nv c rows`: no cell outside column 0 that is not NaN is printed to a token whose float is `==` `nv`. -/

/-- **The NaN mask survives write -> read** (strict policy, numeric header NULL `nv`): for every cell (i, j) = `x` of the
r × n matrix, outside column 0 the cell read back is NaN **iff** `x` was NaN, and a cell that was not NaN reads back as the
float of its printed token `'%.Nf' % x`; in column 0 every cell reads back as the float of its token (a NaN index sample
comes back as the NULL value, not as NaN). -/
theorem C06_roundtrip_mask (ft : FloatTable) (null nv : Str) (c : Dw.RowCfg) (rows : List (List Dw.F64)) (n : Nat)
    (hrect : ∀ r ∈ rows, r.length = n) (htab : Rt.TableOK ft null nv c rows) (hclash : Rt.NoNullClash ft nv c rows)
    (i j : Nat) (row : List Dw.F64) (x : Dw.F64) (hi : rows[i]? = some row) (hx : row[j]? = some x) :
    (j ≠ 0 → (floatCell (applyNull true (some nv) (matrixColumns ft n (Rt.tokenRows c null rows))) j i = some nanTxt
        ↔ x.isNaN = true)) ∧
    (j ≠ 0 → x.isNaN = false →
      floatCell (applyNull true (some nv) (matrixColumns ft n (Rt.tokenRows c null rows))) j i =
        toFloat ft (Dw.fmtFixed (c.colFmt j).prec x)) ∧
    (j = 0 → floatCell (applyNull true (some nv) (matrixColumns ft n (Rt.tokenRows c null rows))) j i =
        toFloat ft (Dw.cellToken null (c.colFmt 0) x)) :=
  Rt.roundtrip_mask ft null nv c rows n hrect htab hclash i j row x hi hx

/-- before NULL handling, cell (i, j) of what the engines return is the float of the written token of cell (i, j) -/
theorem C06_roundtrip_cell (ft : FloatTable) (null : Str) (c : Dw.RowCfg) (rows : List (List Dw.F64)) (n : Nat)
    (hrect : ∀ r ∈ rows, r.length = n) (hnum : Numeric ft (Rt.tokenRows c null rows))
    (i j : Nat) (row : List Dw.F64) (x : Dw.F64) (hi : rows[i]? = some row) (hx : row[j]? = some x) :
    floatCell (matrixColumns ft n (Rt.tokenRows c null rows)) j i = toFloat ft (Dw.cellToken null (c.colFmt j) x) :=
  Rt.floatCell_written ft null c rows n hrect hnum i j row x hi hx

/-- COUNTER-EXAMPLE (`NoNullClash` is needed): NULL −9999.25, the sample −9999.2501 (binary64 `Rt.cxSample`) in column 1
written with `%.2f` prints as `-9999.25`, the NULL text; read back it is NaN although the sample was not.  All other
hypotheses of `C06_roundtrip_mask` hold. -/
theorem C06_roundtrip_mask_needs_noNullClash :
    Rt.TableOK Rt.cxFt Rt.cxNull Rt.cxNv Rt.cxCfg Rt.cxRows ∧ Rt.cxSample.isNaN = false ∧
    Dw.fmtFixed 2 Rt.cxSample = Rt.cxNull ∧
    floatCell (applyNull true (some Rt.cxNv) (matrixColumns Rt.cxFt 2 (Rt.tokenRows Rt.cxCfg Rt.cxNull Rt.cxRows))) 1 0
      = some nanTxt ∧
    ¬ Rt.NoNullClash Rt.cxFt Rt.cxNv Rt.cxCfg Rt.cxRows := by
  refine ⟨Rt.cx_table, rfl, by decide +kernel, by decide +kernel, fun h => ?_⟩
  exact absurd (h _ List.mem_cons_self 1 Rt.cxSample (by decide) rfl rfl Rt.cxNv (by decide +kernel)) (by decide +kernel)

/-- non-vacuity: the section with the sample −124990.75 in place of −9999.2501, and a NaN cell below it, satisfies every
hypothesis of `C06_roundtrip_mask`, `NoNullClash` included; the sample reads back as itself, the NaN cell as NaN -/
theorem C06_roundtrip_mask_example :
    Rt.TableOK Rt.exFt Rt.cxNull Rt.cxNv Rt.cxCfg Rt.exRows ∧ Rt.NoNullClash Rt.exFt Rt.cxNv Rt.cxCfg Rt.exRows ∧
    Rt.tokenRows Rt.cxCfg Rt.cxNull Rt.exRows =
      [["1.00".toList, "-124990.75".toList], ["2.00".toList, "-9999.25".toList]] ∧
    floatCell (applyNull true (some Rt.cxNv) (matrixColumns Rt.exFt 2 (Rt.tokenRows Rt.cxCfg Rt.cxNull Rt.exRows))) 1 0
      = some "-0x1.e83ec00000000p+16".toList ∧
    floatCell (applyNull true (some Rt.cxNv) (matrixColumns Rt.exFt 2 (Rt.tokenRows Rt.cxCfg Rt.cxNull Rt.exRows))) 1 1
      = some nanTxt := by
  refine ⟨Rt.ex_table, Rt.ex_noClash, Rt.ex_tokens, ?_, ?_⟩
  · exact ((C06_roundtrip_mask _ _ _ _ _ 2 (by decide +kernel) Rt.ex_table Rt.ex_noClash 0 1 _ _ rfl rfl).2.1 (by decide +kernel) rfl).trans
      (by decide +kernel)
  · exact ((C06_roundtrip_mask _ _ _ _ _ 2 (by decide +kernel) Rt.ex_table Rt.ex_noClash 1 1 _ _ rfl rfl).1 (by decide +kernel)).mpr rfl

end Lasio.Dt

#print axioms Lasio.Dt.C06_iff_strict
#print axioms Lasio.Dt.C06_other_cells
#print axioms Lasio.Dt.C06_none
#print axioms Lasio.Dt.C06_nonnumeric_null
#print axioms Lasio.Dt.C06_index_kept
#print axioms Lasio.Dt.C06_text_untouched
#print axioms Lasio.Dt.C06_text_untouched_conv
#print axioms Lasio.Dt.C06_shape
#print axioms Lasio.Dt.C06_length
#print axioms Lasio.Dt.C06_nan_kept
#print axioms Lasio.Dt.C06_index_exception
#print axioms Lasio.Dt.C06_roundtrip_mask
#print axioms Lasio.Dt.C06_roundtrip_cell
#print axioms Lasio.Dt.C06_roundtrip_mask_needs_noNullClash
#print axioms Lasio.Dt.C06_roundtrip_mask_example
