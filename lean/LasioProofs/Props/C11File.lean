import LasioProofs.Lemmas.CycleLemmas
/-
C11 (file level) — the header `write` emits is a fixed point of  read -> write -> read.

`C03_file` says: the header lines `write` emits for a conformant object `las`, read by the whole-file reader model
(`Rd.readLines`), give back exactly the written items in every section (`Cy.firstRead`).  Here it is used TWICE:

  L1   := the sections obtained by reading `headerLines version wrap w las`                       (first re-read)
  las1 := `Cy.lasOfRead rv o L1`, the LASFile that holds exactly the items of L1                    (what `read` builds)
  L2   := the sections obtained by reading `headerLines version wrap w2 las1`                     (second re-read)

  `C11_file_fixed_point`        L2 = L1  (and the second write succeeds), any header widths `w`, `w2`
  `C11_file_fixed_point_text`   the same with every re-read value kept as the `str` that was read (`rv = WVal.str`)
  `C11_file_recycle`, `C11_file_iterate`   L1 is a fixed point of the cycle `recycle`; any number of further
                                load/save cycles (any header widths) returns L1: nothing drifts
  `C11_file_invariant`          the hypotheses themselves hold again for `las1` (so the theorem can be re-applied)

VALUES.  The reader model keeps the value TEXT (`num()` is applied later in the code); the second `write` sees the re-read
value through `str()`, `not v`, `v == 0`, `v is None`.  `rv : Str → WVal` is that re-typing (`num()` as the writer sees it).  The
theorems hold for every `rv` with `Cy.Retype rv` (never `None`; falsy-but-not-zero only for the empty string — true of `num()`,
whose results are numbers and strings) and every `las` with `hsp : Cy.SpeltConf rv … las`: every value `write` prints for `las`
is spelt as its re-typed re-read prints, `str(num(t)) = t`.  That covers
  * `rv = WVal.str` (every re-read value kept as the `str` that was read): `hsp` holds for every `las` (`C11_file_fixed_point_text`);
  * `rv = num()` and every `las` whose values are `str()`s of Python numbers / strings that are no numeric literals — in particular
    every `las` that `lasio.read` built (its numeric values are `np.float64` / `np.int64`; `str(num(str(x))) = str(x)` is the
    round-trip property of `float.__repr__`, a runtime service: it enters as the hypothesis `hsp`, it is not proved here).
NOT covered: a `las` built by a program that holds the `str` `"1670.00"` (or `"1e3"`) as a value: the first re-read has the text
`1670.00`, `num()` makes it the float 1670.0, the second re-read has the text `1670.0` — equal as numbers, not as text
(`C11_file_counterexample_respelt`); from the second re-read on `hsp` holds and the theorem applies (L3 = L2).
NOT modelled here (outside `Wr.headerLines`, which starts from the LASFile AFTER `update_start_stop_step` and
`update_units_from_index_curve`): a second `write` that refreshes STRT/STOP/STEP or copies the index unit because the re-read
DATA differ from the header (the known findings `sss-shift-after-lossy-index-format`, `unit-leading-period`); the data section.

EXTRA HYPOTHESES (each forced, see the counter-example theorems):
  `hwrap : Cy.WrapOK`      exactly one item of the written ~Version section is WRAP for the reader  (`…_duplicate_wrap`)
  `hvw`, `hvp : Cy.ValueShown`   a ~Well / ~Parameter item with a unit shows a value                  (`…_value_hidden`)
  `hol : Cy.OtherLast`     the last ~Other line is not blank                                         (`…_other_blank_tail`)
  `hsp : Cy.SpeltConf`     the written values are spelt as their re-typed re-reads print             (`…_respelt`)
  the same `mnemonic_case` in both reads                                                             (`…_case_change`)
and two of the `TextConf` conditions inherited from `C03_file` are shown to be needed for the FIXED POINT too (not only for
the round trip): `unit_notnum` (`…_numeric_unit`) and `mnem_ne` (`…_blank_mnemonic`, drifts on every cycle).
The known drift "unit starting with '.'" (`DEPT..1IN`) is NOT a header-level drift in this model: the first re-read
(`DEPT.` / `1IN`) is already a fixed point of the header cycle (`C11_file_unit_leading_period_stable`); in lasio the drift
comes from `update_units_from_index_curve` copying the changed unit into STRT/STOP/STEP, which is outside `headerLines`.
-/
namespace Lasio.C11
open Lasio Lasio.Wr Lasio.Cy

abbrev Sections := List (Rd.RKey × Rd.SecVal)

/-- write the header of `las`, read it back: the sections (`none` = `write` or `read` raises) -/
def reread (o : Rd.ReadOpts) (version : String) (wrap : Option Bool) (w : Nat) (las : WLas) : Option Sections :=
  match headerLines version wrap w las with
  | .error _ => none
  | .ok (lines, _) =>
    match Rd.readLines o lines with
    | .ok hd => some hd.sections
    | .error _ => none

/-- one load/save cycle on re-read sections: build the LASFile (`lasOfRead`), write it, read it -/
def recycle (rv : Str → WVal) (o : Rd.ReadOpts) (version : String) (wrap : Option Bool) (w : Nat) (secs : Sections) :
    Option Sections :=
  reread o version wrap w (lasOfRead rv o secs)

/-- one cycle per header width in the list -/
def recycleAll (rv : Str → WVal) (o : Rd.ReadOpts) (version : String) (wrap : Option Bool) : List Nat → Sections → Option Sections
  | [], s => some s
  | w :: ws, s => (recycle rv o version wrap w s).bind (recycleAll rv o version wrap ws)

/-! ## the fixed point -/

/-- **File-level fixed point (header).**  `las` satisfies the hypotheses of `C03_file` (+ `hdlm`, which `readLines` needs) and
the extra ones `hwrap`, `hvw`, `hvp`, `hol`, `hsp` (`rv` any re-typing of the re-read value texts with `Retype rv`).  Then: the written header reads back (`hd`, first re-read); `write` succeeds again on
the LASFile `lasOfRead rv o hd.sections` built from it, with any header width `w2`; and reading THAT header gives the same
sections — every item of every section with the same mnemonic, unit, value text and description, in the same order, the same
~Other text — the same version and no data section: second re-read = first re-read. -/
theorem C11_file_fixed_point (o : Rd.ReadOpts) (rv : Str → WVal) (hrv : Retype rv) (version : String)
    (wrap : Option Bool) (w w2 : Nat) (las las' : WLas) (lines : List Str)
    (h : headerLines version wrap w las = .ok (lines, las'))
    (hcv : ∀ it ∈ RH.versionCopy version wrap las, TextConf .version it)
    (hcw : ∀ it ∈ standardizeItems las.well, TextConf .well it)
    (hcc : ∀ it ∈ las.curves, TextConf .curves it)
    (hcp : ∀ it ∈ standardizeItems las.params, TextConf .parameter it)
    (hmv : ∀ it ∈ RH.versionCopy version wrap las, it.orig.head? ≠ some '#' ∧ it.orig.head? ≠ some '~')
    (hmw : ∀ it ∈ las.well, it.orig.head? ≠ some '#' ∧ it.orig.head? ≠ some '~')
    (hmc : ∀ it ∈ las.curves, it.orig.head? ≠ some '#' ∧ it.orig.head? ≠ some '~')
    (hmp : ∀ it ∈ las.params, it.orig.head? ≠ some '#' ∧ it.orig.head? ≠ some '~')
    (hvers : VersOK o version (RH.versionCopy version wrap las))
    (ho : OtherOK las.other)
    (hdlm : ∀ it ∈ RH.versionCopy version wrap las, upper it.orig ≠ "DLM".toList)
    (hwrap : WrapOK o (RH.versionCopy version wrap las))
    (hvw : ∀ it ∈ standardizeItems las.well, ValueShown it)
    (hvp : ∀ it ∈ standardizeItems las.params, ValueShown it)
    (hol : OtherLast las.other)
    (hsp : SpeltConf rv version wrap las) :
    ∃ hd, Rd.readLines o lines = .ok hd ∧ hd.sections = firstRead o version wrap las ∧
      ∃ lines2 las2', headerLines version wrap w2 (lasOfRead rv o hd.sections) = .ok (lines2, las2') ∧
        ∃ hd2, Rd.readLines o lines2 = .ok hd2 ∧ hd2.sections = hd.sections ∧ hd2.steer.vers = hd.steer.vers ∧
          hd2.data = hd.data := by
  have hc : FileConf o version wrap las := ⟨hcv, hcw, hcc, hcp, hmv, hmw, hmc, hmp, hvers, ho, hdlm⟩
  have hx : CycleConf o version wrap las := ⟨hwrap, hvw, hvp, hol⟩
  have hver := headerLines_version version wrap w las las' lines h
  obtain ⟨steer, hr, hsv⟩ := read_written o version wrap w las las' lines h hc
  obtain ⟨hc1, _, _, hfix, htot⟩ := cycle_core o hrv version wrap las hver hc hx hsp
  obtain ⟨lines2, las2', h2⟩ := htot w2
  obtain ⟨steer2, hr2, hsv2⟩ := read_written o version wrap w2 _ las2' lines2 h2 hc1
  refine ⟨_, hr, rfl, lines2, las2', h2, _, hr2, ?_, ?_, rfl⟩
  · exact hfix
  · simp only [hsv, hsv2]

/-- the same, every re-read value kept as the text that was read -/
theorem C11_file_fixed_point_text (o : Rd.ReadOpts) (version : String)
    (wrap : Option Bool) (w w2 : Nat) (las las' : WLas) (lines : List Str)
    (h : headerLines version wrap w las = .ok (lines, las'))
    (hcv : ∀ it ∈ RH.versionCopy version wrap las, TextConf .version it)
    (hcw : ∀ it ∈ standardizeItems las.well, TextConf .well it)
    (hcc : ∀ it ∈ las.curves, TextConf .curves it)
    (hcp : ∀ it ∈ standardizeItems las.params, TextConf .parameter it)
    (hmv : ∀ it ∈ RH.versionCopy version wrap las, it.orig.head? ≠ some '#' ∧ it.orig.head? ≠ some '~')
    (hmw : ∀ it ∈ las.well, it.orig.head? ≠ some '#' ∧ it.orig.head? ≠ some '~')
    (hmc : ∀ it ∈ las.curves, it.orig.head? ≠ some '#' ∧ it.orig.head? ≠ some '~')
    (hmp : ∀ it ∈ las.params, it.orig.head? ≠ some '#' ∧ it.orig.head? ≠ some '~')
    (hvers : VersOK o version (RH.versionCopy version wrap las))
    (ho : OtherOK las.other)
    (hdlm : ∀ it ∈ RH.versionCopy version wrap las, upper it.orig ≠ "DLM".toList)
    (hwrap : WrapOK o (RH.versionCopy version wrap las))
    (hvw : ∀ it ∈ standardizeItems las.well, ValueShown it)
    (hvp : ∀ it ∈ standardizeItems las.params, ValueShown it)
    (hol : OtherLast las.other) :
    ∃ hd, Rd.readLines o lines = .ok hd ∧ hd.sections = firstRead o version wrap las ∧
      ∃ lines2 las2', headerLines version wrap w2 (lasOfRead WVal.str o hd.sections) = .ok (lines2, las2') ∧
        ∃ hd2, Rd.readLines o lines2 = .ok hd2 ∧ hd2.sections = hd.sections ∧ hd2.steer.vers = hd.steer.vers ∧
          hd2.data = hd.data :=
  C11_file_fixed_point o WVal.str retype_str version wrap w w2 las las' lines h hcv hcw hcc hcp hmv hmw hmc hmp hvers ho
    hdlm hwrap hvw hvp hol (speltConf_str version wrap las)

/-- **The hypotheses are an invariant of the cycle**: the LASFile of the first re-read satisfies every hypothesis of
`C11_file_fixed_point` again (so the theorem, and `C03_file`, apply to it, to the LASFile of ITS re-read, and so on). -/
theorem C11_file_invariant (o : Rd.ReadOpts) (rv : Str → WVal) (hrv : Retype rv) (version : String)
    (wrap : Option Bool) (las : WLas) (hver : version = "1.2" ∨ version = "2.0")
    (hc : FileConf o version wrap las) (hx : CycleConf o version wrap las) (hsp : SpeltConf rv version wrap las) :
    FileConf o version wrap (lasOfRead rv o (firstRead o version wrap las)) ∧
    CycleConf o version wrap (lasOfRead rv o (firstRead o version wrap las)) ∧
    SpeltConf rv version wrap (lasOfRead rv o (firstRead o version wrap las)) :=
  ⟨(cycle_core o hrv version wrap las hver hc hx hsp).1, (cycle_core o hrv version wrap las hver hc hx hsp).2.1,
   (cycle_core o hrv version wrap las hver hc hx hsp).2.2.1⟩

/-- the first re-read is a fixed point of the load/save cycle, whatever the header width -/
theorem C11_file_recycle (o : Rd.ReadOpts) (rv : Str → WVal) (hrv : Retype rv) (version : String)
    (wrap : Option Bool) (w2 : Nat) (las : WLas) (hver : version = "1.2" ∨ version = "2.0")
    (hc : FileConf o version wrap las) (hx : CycleConf o version wrap las) (hsp : SpeltConf rv version wrap las) :
    recycle rv o version wrap w2 (firstRead o version wrap las) = some (firstRead o version wrap las) := by
  obtain ⟨hc1, _, _, hfix, htot⟩ := cycle_core o hrv version wrap las hver hc hx hsp
  obtain ⟨lines2, las2', h2⟩ := htot w2
  obtain ⟨steer2, hr2, _⟩ := read_written o version wrap w2 _ las2' lines2 h2 hc1
  unfold recycle reread
  rw [h2]
  simp only [hr2, hfix]

/-- the first re-read itself, as a value of `reread` -/
theorem C11_file_reread (o : Rd.ReadOpts) (version : String) (wrap : Option Bool) (w : Nat) (las : WLas)
    (hver : version = "1.2" ∨ version = "2.0")
    (hwk : wrap = none → ∃ i, findFirst (fun x : WItem => cmpStr las.versionTr x.session "WRAP".toList) las.version = some i)
    (hc : FileConf o version wrap las) :
    reread o version wrap w las = some (firstRead o version wrap las) := by
  obtain ⟨lines, las', h⟩ := headerLines_total version wrap w las hver hwk
  obtain ⟨steer, hr, _⟩ := read_written o version wrap w las las' lines h hc
  unfold reread
  rw [h]
  simp only [hr]

/-- **Nothing drifts over repeated load/save cycles**: any number of further cycles (one per header width in `ws`) after the
first re-read returns the first re-read. -/
theorem C11_file_iterate (o : Rd.ReadOpts) (rv : Str → WVal) (hrv : Retype rv) (version : String)
    (wrap : Option Bool) (las : WLas) (hver : version = "1.2" ∨ version = "2.0")
    (hc : FileConf o version wrap las) (hx : CycleConf o version wrap las) (hsp : SpeltConf rv version wrap las)
    (ws : List Nat) :
    recycleAll rv o version wrap ws (firstRead o version wrap las) = some (firstRead o version wrap las) := by
  induction ws with
  | nil => rfl
  | cons w ws ih =>
    simp only [recycleAll, C11_file_recycle o rv hrv version wrap w las hver hc hx hsp, Option.bind_some, ih]

/-! ## the extra hypotheses hold for ordinary objects -/

/-- `hvw` / `hvp` hold by themselves for the values Python programs put there: after `standardize_value` a `str`, `None` or a
number (whose `str()` is not empty) on an item with a unit always shows a value -/
theorem C11_file_valueShown_plain (it : WItem)
    (hv : (∃ s, it.value = .str s) ∨ it.value = .none ∨ (∃ t z, it.value = .num t z ∧ t ≠ [])) :
    ValueShown { it with value := standardizeValue it.value it.unit } := by
  intro hu
  have hue : it.unit.isEmpty = false := by
    cases h : it.unit with
    | nil => exact absurd h hu
    | cons a t => rfl
  rcases hv with ⟨s, e⟩ | e | ⟨t, z, e, ht⟩
  · rw [e]
    cases s with
    | nil => simp [standardizeValue, hue, WVal.str, WVal.intZero]
    | cons a s => simp [standardizeValue, hue, WVal.str]
  · rw [e]
    simp [standardizeValue, hue, WVal.none, WVal.intZero]
  · rw [e]
    cases z <;> simpa [standardizeValue, hue, WVal.num] using ht

/-! ## the hypotheses are needed -/

def exVers : WItem := mkWItem "VERS".toList [] (.num "2.0".toList false) "old".toList
def optsU : Rd.ReadOpts := ⟨false, .upper⟩
def optsL : Rd.ReadOpts := ⟨false, .lower⟩

/-- `hwrap` is needed: a ~Version section with two WRAP items (session mnemonics WRAP:1, WRAP:2, as `read` builds them from a
file with two WRAP lines): `version["WRAP"] = …` finds no item called WRAP and appends one — on every cycle (the known finding
`dup-wrap-grows`): the ~Version section has 4 items (VERS + 3 WRAP) in the first re-read, 5 in the second -/
theorem C11_file_counterexample_duplicate_wrap :
    let las : WLas := ⟨[exVers, { wrapItem true with session := "WRAP:1".toList },
      { wrapItem true with session := "WRAP:2".toList }], true, [], [], [], []⟩
    ((reread optsU "2.0" (some false) 20 las).map fun s => (secItems Rd.kVersion s).length) = some 4 ∧
    (((reread optsU "2.0" (some false) 20 las).bind (recycle WVal.str optsU "2.0" (some false) 20)).map
      fun s => (secItems Rd.kVersion s).length) = some 5 := by
  decide +kernel

/-- `hvw` is needed: a value that is truthy but prints as the empty string, on an item with a unit, is written as nothing; it is
re-read as the `str` `""`, which the next `write` normalises to 0 -/
theorem C11_file_counterexample_value_hidden :
    let las : WLas := ⟨[exVers, wrapItem false], true,
      [⟨"A".toList, "A".toList, "M".toList, ⟨[], false, false, false⟩, "d".toList⟩], [], [], []⟩
    ((reread optsU "2.0" (some false) 20 las).map (secItems Rd.kWell)) =
      some [⟨"A".toList, "M".toList, [], "d".toList⟩] ∧
    (((reread optsU "2.0" (some false) 20 las).bind (recycle WVal.str optsU "2.0" (some false) 20)).map
      (secItems Rd.kWell)) = some [⟨"A".toList, "M".toList, "0".toList, "d".toList⟩] := by
  decide +kernel

/-- `hol` is needed: `"\n".join` / `splitlines` lose one trailing blank line of ~Other per cycle -/
theorem C11_file_counterexample_other_blank_tail :
    let las : WLas := ⟨[exVers, wrapItem false], true, [], [], [], "a\n ".toList⟩
    ((reread optsU "2.0" (some false) 20 las).map (secText Rd.kOther)) = some "a\n".toList ∧
    (((reread optsU "2.0" (some false) 20 las).bind (recycle WVal.str optsU "2.0" (some false) 20)).map
      (secText Rd.kOther)) = some "a".toList := by
  decide +kernel

/-- a re-typing that respells one value: `num("1670.00")` is the float that prints as `1670.0` -/
def rvToy (t : Str) : WVal := if t = "1670.00".toList then .num "1670.0".toList false else .str t

/-- `hsp` is needed for a fixed point of the TEXT: the `str` value `"1670.00"` is re-read, becomes a float, and is printed as
`1670.0` by the second `write` (numerically the same value) -/
theorem C11_file_counterexample_respelt :
    let las : WLas := ⟨[exVers, wrapItem false], true,
      [mkWItem "STRT".toList "M".toList (.str "1670.00".toList) []], [], [], []⟩
    ((reread optsU "2.0" (some false) 20 las).map (secItems Rd.kWell)) =
      some [⟨"STRT".toList, "M".toList, "1670.00".toList, []⟩] ∧
    (((reread optsU "2.0" (some false) 20 las).bind (recycle rvToy optsU "2.0" (some false) 20)).map
      (secItems Rd.kWell)) = some [⟨"STRT".toList, "M".toList, "1670.0".toList, []⟩] := by
  decide +kernel

/-- the same `mnemonic_case` in both reads is needed -/
theorem C11_file_counterexample_case_change :
    let las : WLas := ⟨[exVers, wrapItem false], true, [], [mkWItem "Dept".toList "M".toList (.str []) []], [], []⟩
    ((reread optsU "2.0" (some false) 20 las).map (secItems Rd.kCurves)) =
      some [⟨"DEPT".toList, "M".toList, [], []⟩] ∧
    (((reread optsU "2.0" (some false) 20 las).bind (recycle WVal.str optsL "2.0" (some false) 20)).map
      (secItems Rd.kCurves)) = some [⟨"dept".toList, "M".toList, [], []⟩] := by
  decide +kernel

/-- `TextConf.unit_notnum` is needed for the fixed point: an all-digit unit followed by exactly one blank and a value
(`STRT.1000 1.0 :`) re-reads as unit `1000 1.0`, value `""` (the known finding `numeric-unit-swallows-value`); in ~Well the
next `write` puts 0 there -/
theorem C11_file_counterexample_numeric_unit :
    let las : WLas := ⟨[exVers, wrapItem false], true,
      [mkWItem "STRT".toList "1000".toList (.str "1.0".toList) []], [], [], []⟩
    ((reread optsU "2.0" (some false) 20 las).map (secItems Rd.kWell)) =
      some [⟨"STRT".toList, "1000 1.0".toList, [], []⟩] ∧
    (((reread optsU "2.0" (some false) 20 las).bind (recycle WVal.str optsU "2.0" (some false) 20)).map
      (secItems Rd.kWell)) = some [⟨"STRT".toList, "1000 1.0".toList, "0".toList, []⟩] := by
  decide +kernel

/-- `TextConf.mnem_ne` is needed for the fixed point: a blank mnemonic on a line with another period (the known finding
`blank-mnemonic-period`) moves fields on EVERY cycle -/
theorem C11_file_counterexample_blank_mnemonic :
    let las : WLas := ⟨[exVers, wrapItem false], true,
      [⟨[], "UNKNOWN".toList, [], .str "1.5".toList, "a.b".toList⟩], [], [], []⟩
    let c := recycle WVal.str optsU "2.0" (some false) 20
    ((reread optsU "2.0" (some false) 20 las).map (secItems Rd.kWell)) =
      some [⟨"1".toList, "5".toList, [], "a.b".toList⟩] ∧
    (((reread optsU "2.0" (some false) 20 las).bind c).map (secItems Rd.kWell)) =
      some [⟨"1".toList, "5 0".toList, [], "a.b".toList⟩] ∧
    ((((reread optsU "2.0" (some false) 20 las).bind c).bind c).map (secItems Rd.kWell)) =
      some [⟨"1".toList, "5 0".toList, "0".toList, "a.b".toList⟩] := by
  decide +kernel

/-- the known drift "unit starting with '.'": the round trip fails (`DEPT..1IN` re-reads as `DEPT.` / `1IN`, outside
`TextConf.unit_first`), but the first re-read is already a fixed point of the HEADER cycle -/
theorem C11_file_unit_leading_period_stable :
    let las : WLas := ⟨[exVers, wrapItem false], true, [], [mkWItem "DEPT".toList ".1IN".toList (.str []) []], [], []⟩
    ((reread optsU "2.0" (some false) 20 las).map (secItems Rd.kCurves)) =
      some [⟨"DEPT.".toList, "1IN".toList, [], []⟩] ∧
    ((reread optsU "2.0" (some false) 20 las).bind (recycle WVal.str optsU "2.0" (some false) 20)) =
      reread optsU "2.0" (some false) 20 las := by
  decide +kernel

/-! ## non-vacuity -/

def exDept : WItem :=
  ⟨"DEPT".toList, "DEPT".toList, "M".toList, .str "1670.0".toList, "start (depth) \"x\"".toList⟩
def exNull : WItem := mkWItem "Null".toList [] (.num "-999.25".toList false) "null value".toList
def exLas : WLas := ⟨[exVers, wrapItem true], true, [exDept, exNull], [exDept, exDept], [exDept], "hello\n\n world ".toList⟩

theorem exConf (kind : SecName) (it : WItem) (h : it = exDept ∨ it = exNull ∨ it = exVers) : TextConf kind it :=
  textConf_of_forall [exDept, exNull, exVers] (by decide +kernel) kind it
    (by simpa only [List.mem_cons, List.not_mem_nil, or_false] using h)

theorem exFileConf : FileConf optsL "1.2" (some false) exLas ∧ CycleConf optsL "1.2" (some false) exLas :=
  ⟨Fd.fileConf_of_check _ _ _ _ (by decide +kernel)
    ⟨mkWItem "VERS".toList [] (.num "1.2".toList false) "CWLS LOG ASCII STANDARD - VERSION 1.2".toList, by decide +kernel⟩
    (by decide +kernel),
   ⟨wrapItem false, by decide +kernel⟩, by decide +kernel, by decide +kernel, by decide +kernel⟩

/-- a LASFile header that satisfies every hypothesis, written as version 1.2 (description-first ~Well lines, `Null` value-first),
read with `mnemonic_case="lower"`: three further cycles with header widths 60, 5 and 33 return the first re-read, which is -/
example :
    reread optsL "1.2" (some false) 20 exLas = some (firstRead optsL "1.2" (some false) exLas) ∧
    recycleAll WVal.str optsL "1.2" (some false) [60, 5, 33] (firstRead optsL "1.2" (some false) exLas) =
      some (firstRead optsL "1.2" (some false) exLas) ∧
    secItems Rd.kWell (firstRead optsL "1.2" (some false) exLas) =
      [⟨"dept".toList, "M".toList, "1670.0".toList, "start (depth) \"x\"".toList⟩,
       ⟨"null".toList, [], "-999.25".toList, "null value".toList⟩] ∧
    secText Rd.kOther (firstRead optsL "1.2" (some false) exLas) = "hello\n\nworld".toList :=
  ⟨C11_file_reread optsL "1.2" (some false) 20 exLas (Or.inl rfl) (fun h => nomatch h) exFileConf.1,
   C11_file_iterate optsL WVal.str retype_str "1.2" (some false) exLas (Or.inl rfl) exFileConf.1 exFileConf.2
     (speltConf_str _ _ _) _,
   by decide +kernel, by decide +kernel⟩

/-- the same fixed point by running the model (no theorem involved) -/
example : (reread optsL "1.2" (some false) 20 exLas).bind (recycle WVal.str optsL "1.2" (some false) 60) =
    reread optsL "1.2" (some false) 20 exLas := by
  decide +kernel

end Lasio.C11

#print axioms Lasio.C11.C11_file_fixed_point
#print axioms Lasio.C11.C11_file_fixed_point_text
#print axioms Lasio.C11.C11_file_invariant
#print axioms Lasio.C11.C11_file_recycle
#print axioms Lasio.C11.C11_file_reread
#print axioms Lasio.C11.C11_file_iterate
#print axioms Lasio.C11.C11_file_valueShown_plain
#print axioms Lasio.C11.C11_file_counterexample_duplicate_wrap
#print axioms Lasio.C11.C11_file_counterexample_value_hidden
#print axioms Lasio.C11.C11_file_counterexample_other_blank_tail
#print axioms Lasio.C11.C11_file_counterexample_respelt
#print axioms Lasio.C11.C11_file_counterexample_case_change
#print axioms Lasio.C11.C11_file_counterexample_numeric_unit
#print axioms Lasio.C11.C11_file_counterexample_blank_mnemonic
#print axioms Lasio.C11.C11_file_unit_leading_period_stable
#print axioms Lasio.C11.exFileConf
