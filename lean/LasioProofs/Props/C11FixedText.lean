import LasioProofs.Props.C11EndToEnd
import LasioProofs.Lemmas.HeaderCongr
/-
C11 — THE TEXT IS A FIXED POINT: write, read the whole file back, write again: `t2 = t1`, header lines included.

`C11_cycle_end_to_end_partial` leaves the header lines of the second write only READING BACK like the first.  By the congruence of the header writer
in the item texts (Lemmas/HeaderCongr.lean) they are THE SAME TEXT under three more hypotheses: `hcase` (every written mnemonic is fixed by the case
map of the read option; nothing for "preserve": `…_preserve`), `hcase1` (the same for the re-read header: it only concerns the `VERS` / `WRAP`
items `write` substitutes, and follows unless the option is "lower": `…_notlower`), `hoth` (the ~Other lines carry no surrounding white space: the
reader strips them).  `SpeltConf (rvNum env.py)`, already a hypothesis of the partial theorem, is what excludes `1.00000 -> 1.0`.
`C11_cycle_text_iterate`: every number of further read/write cycles returns `t1`.

TIGHTNESS (evaluated): `C11_text_counterexample_case`, `C11_text_counterexample_respelt` — one-step effects on the examples.  In general only the
HEADER lines are shown to settle after one cycle (`Hc.header_text_fixed_after_one_cycle`, read option not "lower"); the whole-text statement
"after one more cycle" is NOT proved (it needs `LinkOK` / units / no refresh / NULL text for the second-generation object), nor is the re-spelling
case.  ASSUMED: everything C11EndToEnd assumes.
-/
namespace Lasio.Ro
open Lasio Lasio.Wo

/-- what the fixed-point theorems say: the first write gives `hl.1 ++ hdr :: body`, that text is read back, and the object read back is written
to the same text -/
def TextFixed (env : Env) (opts : Tf.Opts) (wcfg : WriteCfg) (sd : Option F64) (o o2 : WObj) (hl : List Str × Wr.WLas)
    (null hdr : Str) (body : List Str) : Prop :=
    writeObj wcfg sd o = .ok (hl.1 ++ hdr :: body, afterHeader wcfg o2) ∧
    ∃ th o2r,
      readObjLines opts.hdr ((hl.1 ++ hdr :: body).map (· ++ Tf.nl)) = .ok th ∧
      readObjFullLines env opts ((hl.1 ++ hdr :: body).map (· ++ Tf.nl)) = .ok o2r ∧
      (LinkOK env.py th → ∀ (sd' : Option F64) (u : Str) (a' b' c' : Nat),
        refreshDecision o2r = .ok false → Cr.UnitsAligned o2r u a' b' c' →
        nullText (afterHeader wcfg o2r) = .ok null →
        writeObj wcfg sd' o2r = .ok (hl.1 ++ hdr :: body, afterHeader wcfg o2r))

/-- from "the header lines of the second write read back like the first" (`EndToEnd`) to "they are the first": the header of the object read back
is the re-read of the written header (`toWLas_headerObj`), whose lines are the written ones (`Hc.header_text_fixed`) -/
theorem text_fixed_of_partial {env : Env} {opts : Tf.Opts} {wcfg : WriteCfg} {v : String} {sd : Option F64} {o o2 : WObj}
    {hl : List Str × Wr.WLas} {null hdr : Str} {body : List Str} {c : Dw.RowCfg} {nv : Str}
    (hp : EndToEnd env opts wcfg v sd o o2 hl null hdr body c nv)
    (h4 : Wr.headerLines v wcfg.wrap wcfg.headerWidth (toWLas o2) = .ok hl)
    (hc : Fd.FileConfD opts.hdr v wcfg.wrap (toWLas o2)) (hx : Cy.CycleConf opts.hdr v wcfg.wrap (toWLas o2))
    (hsp : Cy.SpeltConf (rvNum env.py) v wcfg.wrap (toWLas o2))
    (hcase : Hc.CaseStable opts.hdr (Cy.writtenItems v wcfg.wrap (toWLas o2)))
    (hcase1 : Hc.CaseStable opts.hdr (Cy.writtenItems v wcfg.wrap
      (Cy.lasOfRead (rvNum env.py) opts.hdr (Cy.firstRead opts.hdr v wcfg.wrap (toWLas o2)))))
    (hoth : Hc.OtherStripped o2.other) :
    TextFixed env opts wcfg sd o o2 hl null hdr body := by
  obtain ⟨hw, th, o2r, hth, hobj, hsec, ho2r, _, _, _, _, _, himp⟩ := hp
  refine ⟨hw, th, o2r, hth, hobj, ?_⟩
  intro hlink sd' u a' b' c' hd hu h5'
  obtain ⟨lines2, las2', hh, hw2, _⟩ := himp hlink sd' u a' b' c' hd hu h5'
  have e : toWLas o2r = Cy.lasOfRead (rvNum env.py) opts.hdr (Cy.firstRead opts.hdr v wcfg.wrap (toWLas o2)) := by
    have e0 := congrArg toWLas ho2r
    rw [toWLas_withData, toWLas_headerObj env.py opts.hdr th hlink, hsec] at e0
    exact e0
  obtain ⟨las2'', hfix⟩ := Hc.header_text_fixed opts.hdr (rvNum_retype env.py) v wcfg.wrap wcfg.headerWidth (toWLas o2) hl.2 hl.1 h4 hc hx hsp
    hcase hcase1 hoth
  rw [e, hfix] at hh
  simp only [Except.ok.injEq, Prod.mk.injEq] at hh
  rw [← hh.1] at hw2
  exact hw2

/-- **The whole text is a fixed point.** -/
theorem C11_cycle_text_fixed_point (env : Env) (opts : Tf.Opts) (wcfg : WriteCfg) (v : String)
    (hv : wcfg.version = some v) (hwr : wcfg.wrap = some false) (hmh : wcfg.mnemonicsHeader = false)
    (hstrict : opts.dat.nullPolicy = .strict)
    {sd : Option F64} {o : WObj} {vsec : List OItem} {o2 : WObj} {hl : List Str × Wr.WLas} {null : Str} {hdr : Str} {body : List Str}
    (hs1 : (o.data.length != o.curves.length || !sameLengths o.data) = false)
    (h1 : setWrap wcfg o = .ok vsec) (h2 : resolveVersion wcfg o.versionTr vsec = .ok v) (h3 : prepare sd o = .ok o2)
    (h4 : Wr.headerLines v wcfg.wrap wcfg.headerWidth (toWLas o2) = .ok hl)
    (h5 : nullText (afterHeader wcfg o2) = .ok null)
    (h6 : Dw.dataLines (dataCfg wcfg) null ((afterHeader wcfg o2).curves.map (·.session)) (rowsOf (afterHeader wcfg o2).data)
      = some (hdr :: body))
    (hc : Fd.FileConfD opts.hdr v wcfg.wrap (toWLas o2)) (hx : Cy.CycleConf opts.hdr v wcfg.wrap (toWLas o2))
    {c : Dw.RowCfg} {n : Nat}
    (wd : Rt.Written (dataCfg wcfg) null ((afterHeader wcfg o2).curves.map (·.session)) (rowsOf (afterHeader wcfg o2).data) c n hdr body)
    (hn : null.head? ≠ some '~') (a : Char) (r : Str) (hdA : wcfg.dataSectionHeader = '~' :: a :: r) (ha : upperC a = 'A')
    (hcur : (toWLas o2).curves.length = n)
    (t : Str) (hwt : Fr.steerVal opts.hdr "WRAP" (RH.versionCopy v wcfg.wrap (toWLas o2)) = some t) (hne : t ≠ Dt.yesTxt)
    (hsp : Cy.SpeltConf (rvNum env.py) v wcfg.wrap (toWLas o2))
    (nv : Str) (hnull : env.nullOf (Fr.steerVal opts.hdr "NULL" (Wr.standardizeItems (toWLas o2).well)) = some nv)
    (hrd : Cd.ReadOK env.ft env.val null nv) (hst : Cd.StrtodClose env.ft env.val c (rowsOf (afterHeader wcfg o2).data))
    (hcl : Rt.NoNullClash env.ft nv c (rowsOf (afterHeader wcfg o2).data))
    (hfree : Cd.IndexNaNFree (rowsOf (afterHeader wcfg o2).data))
    -- the three conditions of the TEXTUAL fixed point
    (hcase : Hc.CaseStable opts.hdr (Cy.writtenItems v wcfg.wrap (toWLas o2)))
    (hcase1 : Hc.CaseStable opts.hdr (Cy.writtenItems v wcfg.wrap
      (Cy.lasOfRead (rvNum env.py) opts.hdr (Cy.firstRead opts.hdr v wcfg.wrap (toWLas o2)))))
    (hoth : Hc.OtherStripped o2.other) :
    writeObj wcfg sd o = .ok (hl.1 ++ hdr :: body, afterHeader wcfg o2) ∧
    ∃ th o2r,
      readObjLines opts.hdr ((hl.1 ++ hdr :: body).map (· ++ Tf.nl)) = .ok th ∧
      readObjFullLines env opts ((hl.1 ++ hdr :: body).map (· ++ Tf.nl)) = .ok o2r ∧
      (LinkOK env.py th → ∀ (sd' : Option F64) (u : Str) (a' b' c' : Nat),
        refreshDecision o2r = .ok false → Cr.UnitsAligned o2r u a' b' c' →
        nullText (afterHeader wcfg o2r) = .ok null →
        writeObj wcfg sd' o2r = .ok (hl.1 ++ hdr :: body, afterHeader wcfg o2r)) :=
  text_fixed_of_partial
    (C11_cycle_end_to_end_partial env opts wcfg v hv hwr hmh hstrict hs1 h1 h2 h3 h4 h5 h6 hc hx wd hn a r hdA ha hcur t hwt hne hsp nv hnull
      hrd hst hcl hfree) h4 hc hx hsp hcase hcase1 hoth

/-- … with `mnemonic_case="preserve"` nothing is asked of the mnemonics -/
theorem C11_cycle_text_fixed_point_preserve (env : Env) (opts : Tf.Opts) (wcfg : WriteCfg) (v : String)
    (hv : wcfg.version = some v) (hwr : wcfg.wrap = some false) (hmh : wcfg.mnemonicsHeader = false)
    (hstrict : opts.dat.nullPolicy = .strict) (hpres : opts.hdr.mnemonicCase = .preserve)
    {sd : Option F64} {o : WObj} {vsec : List OItem} {o2 : WObj} {hl : List Str × Wr.WLas} {null : Str} {hdr : Str} {body : List Str}
    (hs1 : (o.data.length != o.curves.length || !sameLengths o.data) = false)
    (h1 : setWrap wcfg o = .ok vsec) (h2 : resolveVersion wcfg o.versionTr vsec = .ok v) (h3 : prepare sd o = .ok o2)
    (h4 : Wr.headerLines v wcfg.wrap wcfg.headerWidth (toWLas o2) = .ok hl)
    (h5 : nullText (afterHeader wcfg o2) = .ok null)
    (h6 : Dw.dataLines (dataCfg wcfg) null ((afterHeader wcfg o2).curves.map (·.session)) (rowsOf (afterHeader wcfg o2).data)
      = some (hdr :: body))
    (hc : Fd.FileConfD opts.hdr v wcfg.wrap (toWLas o2)) (hx : Cy.CycleConf opts.hdr v wcfg.wrap (toWLas o2))
    {c : Dw.RowCfg} {n : Nat}
    (wd : Rt.Written (dataCfg wcfg) null ((afterHeader wcfg o2).curves.map (·.session)) (rowsOf (afterHeader wcfg o2).data) c n hdr body)
    (hn : null.head? ≠ some '~') (a : Char) (r : Str) (hdA : wcfg.dataSectionHeader = '~' :: a :: r) (ha : upperC a = 'A')
    (hcur : (toWLas o2).curves.length = n)
    (t : Str) (hwt : Fr.steerVal opts.hdr "WRAP" (RH.versionCopy v wcfg.wrap (toWLas o2)) = some t) (hne : t ≠ Dt.yesTxt)
    (hsp : Cy.SpeltConf (rvNum env.py) v wcfg.wrap (toWLas o2))
    (nv : Str) (hnull : env.nullOf (Fr.steerVal opts.hdr "NULL" (Wr.standardizeItems (toWLas o2).well)) = some nv)
    (hrd : Cd.ReadOK env.ft env.val null nv) (hst : Cd.StrtodClose env.ft env.val c (rowsOf (afterHeader wcfg o2).data))
    (hcl : Rt.NoNullClash env.ft nv c (rowsOf (afterHeader wcfg o2).data))
    (hfree : Cd.IndexNaNFree (rowsOf (afterHeader wcfg o2).data))
    (hoth : Hc.OtherStripped o2.other) :
    writeObj wcfg sd o = .ok (hl.1 ++ hdr :: body, afterHeader wcfg o2) ∧
    ∃ th o2r,
      readObjLines opts.hdr ((hl.1 ++ hdr :: body).map (· ++ Tf.nl)) = .ok th ∧
      readObjFullLines env opts ((hl.1 ++ hdr :: body).map (· ++ Tf.nl)) = .ok o2r ∧
      (LinkOK env.py th → ∀ (sd' : Option F64) (u : Str) (a' b' c' : Nat),
        refreshDecision o2r = .ok false → Cr.UnitsAligned o2r u a' b' c' →
        nullText (afterHeader wcfg o2r) = .ok null →
        writeObj wcfg sd' o2r = .ok (hl.1 ++ hdr :: body, afterHeader wcfg o2r)) :=
  C11_cycle_text_fixed_point env opts wcfg v hv hwr hmh hstrict hs1 h1 h2 h3 h4 h5 h6 hc hx wd hn a r hdA ha hcur t hwt hne hsp nv hnull hrd hst
    hcl hfree (Hc.caseStable_preserve opts.hdr hpres _) (Hc.caseStable_preserve opts.hdr hpres _) hoth

/-- … the re-read side is case-stable by itself unless the read option is "lower" (`Hc.caseStable_reread`): only the WRITTEN mnemonics are asked to be in
the case the read option produces (for "upper": upper-case mnemonics) -/
theorem C11_cycle_text_fixed_point_notlower (env : Env) (opts : Tf.Opts) (wcfg : WriteCfg) (v : String)
    (hv : wcfg.version = some v) (hwr : wcfg.wrap = some false) (hmh : wcfg.mnemonicsHeader = false)
    (hstrict : opts.dat.nullPolicy = .strict) (hlow : opts.hdr.mnemonicCase ≠ .lower)
    {sd : Option F64} {o : WObj} {vsec : List OItem} {o2 : WObj} {hl : List Str × Wr.WLas} {null : Str} {hdr : Str} {body : List Str}
    (hs1 : (o.data.length != o.curves.length || !sameLengths o.data) = false)
    (h1 : setWrap wcfg o = .ok vsec) (h2 : resolveVersion wcfg o.versionTr vsec = .ok v) (h3 : prepare sd o = .ok o2)
    (h4 : Wr.headerLines v wcfg.wrap wcfg.headerWidth (toWLas o2) = .ok hl)
    (h5 : nullText (afterHeader wcfg o2) = .ok null)
    (h6 : Dw.dataLines (dataCfg wcfg) null ((afterHeader wcfg o2).curves.map (·.session)) (rowsOf (afterHeader wcfg o2).data)
      = some (hdr :: body))
    (hc : Fd.FileConfD opts.hdr v wcfg.wrap (toWLas o2)) (hx : Cy.CycleConf opts.hdr v wcfg.wrap (toWLas o2))
    {c : Dw.RowCfg} {n : Nat}
    (wd : Rt.Written (dataCfg wcfg) null ((afterHeader wcfg o2).curves.map (·.session)) (rowsOf (afterHeader wcfg o2).data) c n hdr body)
    (hn : null.head? ≠ some '~') (a : Char) (r : Str) (hdA : wcfg.dataSectionHeader = '~' :: a :: r) (ha : upperC a = 'A')
    (hcur : (toWLas o2).curves.length = n)
    (t : Str) (hwt : Fr.steerVal opts.hdr "WRAP" (RH.versionCopy v wcfg.wrap (toWLas o2)) = some t) (hne : t ≠ Dt.yesTxt)
    (hsp : Cy.SpeltConf (rvNum env.py) v wcfg.wrap (toWLas o2))
    (nv : Str) (hnull : env.nullOf (Fr.steerVal opts.hdr "NULL" (Wr.standardizeItems (toWLas o2).well)) = some nv)
    (hrd : Cd.ReadOK env.ft env.val null nv) (hst : Cd.StrtodClose env.ft env.val c (rowsOf (afterHeader wcfg o2).data))
    (hcl : Rt.NoNullClash env.ft nv c (rowsOf (afterHeader wcfg o2).data))
    (hfree : Cd.IndexNaNFree (rowsOf (afterHeader wcfg o2).data))
    (hcase : Hc.CaseStable opts.hdr (Cy.writtenItems v wcfg.wrap (toWLas o2)))
    (hoth : Hc.OtherStripped o2.other) :
    writeObj wcfg sd o = .ok (hl.1 ++ hdr :: body, afterHeader wcfg o2) ∧
    ∃ th o2r,
      readObjLines opts.hdr ((hl.1 ++ hdr :: body).map (· ++ Tf.nl)) = .ok th ∧
      readObjFullLines env opts ((hl.1 ++ hdr :: body).map (· ++ Tf.nl)) = .ok o2r ∧
      (LinkOK env.py th → ∀ (sd' : Option F64) (u : Str) (a' b' c' : Nat),
        refreshDecision o2r = .ok false → Cr.UnitsAligned o2r u a' b' c' →
        nullText (afterHeader wcfg o2r) = .ok null →
        writeObj wcfg sd' o2r = .ok (hl.1 ++ hdr :: body, afterHeader wcfg o2r)) :=
  C11_cycle_text_fixed_point env opts wcfg v hv hwr hmh hstrict hs1 h1 h2 h3 h4 h5 h6 hc hx wd hn a r hdA ha hcur t hwt hne hsp nv hnull hrd hst
    hcl hfree hcase (Hc.caseStable_reread opts.hdr (rvNum env.py) v wcfg.wrap (toWLas o2) hlow) hoth

/-! ## any number of further cycles -/

/-- one load/save cycle on a text (the list of lines `write` returns): read the whole file, write the object; `stepOf o` is the step
`index[1] - index[0]` handed to the writer -/
def cycleText (env : Env) (opts : Tf.Opts) (wcfg : WriteCfg) (stepOf : WObj → Option F64) (t : List Str) : Option (List Str) :=
  match readObjFullLines env opts (t.map (· ++ Tf.nl)) with
  | .ok o =>
    match writeObj wcfg (stepOf o) o with
    | .ok (t', _) => some t'
    | .error _ => none
  | .error _ => none

def cycleTextN (env : Env) (opts : Tf.Opts) (wcfg : WriteCfg) (stepOf : WObj → Option F64) : Nat → List Str → Option (List Str)
  | 0, t => some t
  | k + 1, t => (cycleText env opts wcfg stepOf t).bind (cycleTextN env opts wcfg stepOf k)

theorem cycleTextN_fixed (env : Env) (opts : Tf.Opts) (wcfg : WriteCfg) (stepOf : WObj → Option F64) (t : List Str)
    (h : cycleText env opts wcfg stepOf t = some t) : ∀ k, cycleTextN env opts wcfg stepOf k t = some t := by
  intro k
  induction k with
  | zero => rfl
  | succ k ih => simp only [cycleTextN, h, Option.bind_some, ih]

theorem cycleText_of_read {env : Env} {opts : Tf.Opts} {wcfg : WriteCfg} {stepOf : WObj → Option F64} {t : List Str} {o w : WObj}
    (hr : readObjFullLines env opts (t.map (· ++ Tf.nl)) = .ok o) (hw : writeObj wcfg (stepOf o) o = .ok (t, w)) :
    cycleText env opts wcfg stepOf t = some t := by
  unfold cycleText
  simp only [hr, hw]

theorem iterate_of_fixed {env : Env} {opts : Tf.Opts} {wcfg : WriteCfg} {sd : Option F64} {o o2 : WObj}
    {hl : List Str × Wr.WLas} {null hdr : Str} {body : List Str} (hf : TextFixed env opts wcfg sd o o2 hl null hdr body)
    (hlink : ∀ th, readObjLines opts.hdr ((hl.1 ++ hdr :: body).map (· ++ Tf.nl)) = .ok th → LinkOK env.py th)
    (hback : ∀ o2r, readObjFullLines env opts ((hl.1 ++ hdr :: body).map (· ++ Tf.nl)) = .ok o2r →
      refreshDecision o2r = .ok false ∧ (∃ u a' b' c', Cr.UnitsAligned o2r u a' b' c') ∧ nullText (afterHeader wcfg o2r) = .ok null)
    (stepOf : WObj → Option F64) :
    writeObj wcfg sd o = .ok (hl.1 ++ hdr :: body, afterHeader wcfg o2) ∧
    ∀ k, cycleTextN env opts wcfg stepOf k (hl.1 ++ hdr :: body) = some (hl.1 ++ hdr :: body) := by
  obtain ⟨hw, th, o2r, hth, hobj, himp⟩ := hf
  refine ⟨hw, cycleTextN_fixed env opts wcfg stepOf _ ?_⟩
  obtain ⟨hd, ⟨u, a', b', c', hu⟩, h5'⟩ := hback o2r hobj
  exact cycleText_of_read hobj (himp (hlink th hth) (stepOf o2r) u a' b' c' hd hu h5')

/-- **Nothing changes any more**: the text `t1` of the first write is returned by every number of further read/write cycles.  The hypotheses on
the object read back (`LinkOK`, no refresh, units aligned, NULL text) are asked of WHATEVER `readObjLines` / `readObjFullLines` return for `t1`. -/
theorem C11_cycle_text_iterate (env : Env) (opts : Tf.Opts) (wcfg : WriteCfg) (v : String)
    (hv : wcfg.version = some v) (hwr : wcfg.wrap = some false) (hmh : wcfg.mnemonicsHeader = false)
    (hstrict : opts.dat.nullPolicy = .strict)
    {sd : Option F64} {o : WObj} {vsec : List OItem} {o2 : WObj} {hl : List Str × Wr.WLas} {null : Str} {hdr : Str} {body : List Str}
    (hs1 : (o.data.length != o.curves.length || !sameLengths o.data) = false)
    (h1 : setWrap wcfg o = .ok vsec) (h2 : resolveVersion wcfg o.versionTr vsec = .ok v) (h3 : prepare sd o = .ok o2)
    (h4 : Wr.headerLines v wcfg.wrap wcfg.headerWidth (toWLas o2) = .ok hl)
    (h5 : nullText (afterHeader wcfg o2) = .ok null)
    (h6 : Dw.dataLines (dataCfg wcfg) null ((afterHeader wcfg o2).curves.map (·.session)) (rowsOf (afterHeader wcfg o2).data)
      = some (hdr :: body))
    (hc : Fd.FileConfD opts.hdr v wcfg.wrap (toWLas o2)) (hx : Cy.CycleConf opts.hdr v wcfg.wrap (toWLas o2))
    {c : Dw.RowCfg} {n : Nat}
    (wd : Rt.Written (dataCfg wcfg) null ((afterHeader wcfg o2).curves.map (·.session)) (rowsOf (afterHeader wcfg o2).data) c n hdr body)
    (hn : null.head? ≠ some '~') (a : Char) (r : Str) (hdA : wcfg.dataSectionHeader = '~' :: a :: r) (ha : upperC a = 'A')
    (hcur : (toWLas o2).curves.length = n)
    (t : Str) (hwt : Fr.steerVal opts.hdr "WRAP" (RH.versionCopy v wcfg.wrap (toWLas o2)) = some t) (hne : t ≠ Dt.yesTxt)
    (hsp : Cy.SpeltConf (rvNum env.py) v wcfg.wrap (toWLas o2))
    (nv : Str) (hnull : env.nullOf (Fr.steerVal opts.hdr "NULL" (Wr.standardizeItems (toWLas o2).well)) = some nv)
    (hrd : Cd.ReadOK env.ft env.val null nv) (hst : Cd.StrtodClose env.ft env.val c (rowsOf (afterHeader wcfg o2).data))
    (hcl : Rt.NoNullClash env.ft nv c (rowsOf (afterHeader wcfg o2).data))
    (hfree : Cd.IndexNaNFree (rowsOf (afterHeader wcfg o2).data))
    (hcase : Hc.CaseStable opts.hdr (Cy.writtenItems v wcfg.wrap (toWLas o2)))
    (hcase1 : Hc.CaseStable opts.hdr (Cy.writtenItems v wcfg.wrap
      (Cy.lasOfRead (rvNum env.py) opts.hdr (Cy.firstRead opts.hdr v wcfg.wrap (toWLas o2)))))
    (hoth : Hc.OtherStripped o2.other)
    -- the object read back
    (hlink : ∀ th, readObjLines opts.hdr ((hl.1 ++ hdr :: body).map (· ++ Tf.nl)) = .ok th → LinkOK env.py th)
    (hback : ∀ o2r, readObjFullLines env opts ((hl.1 ++ hdr :: body).map (· ++ Tf.nl)) = .ok o2r →
      refreshDecision o2r = .ok false ∧ (∃ u a' b' c', Cr.UnitsAligned o2r u a' b' c') ∧ nullText (afterHeader wcfg o2r) = .ok null)
    (stepOf : WObj → Option F64) :
    writeObj wcfg sd o = .ok (hl.1 ++ hdr :: body, afterHeader wcfg o2) ∧
    ∀ k, cycleTextN env opts wcfg stepOf k (hl.1 ++ hdr :: body) = some (hl.1 ++ hdr :: body) :=
  iterate_of_fixed
    (C11_cycle_text_fixed_point env opts wcfg v hv hwr hmh hstrict hs1 h1 h2 h3 h4 h5 h6 hc hx wd hn a r hdA ha hcur t hwt hne hsp nv hnull
      hrd hst hcl hfree hcase hcase1 hoth) hlink hback stepOf

/-! ## tightness, by evaluation -/

/-- the lines that differ, position by position -/
def diffLines (a b : List Str) : List (Str × Str) := (a.zip b).filter fun p => p.1 != p.2

def noStep : WObj → Option F64 := fun _ => none

/-- `Cr.rRead` with a lower-case curve mnemonic -/
def rReadLc : WObj :=
  { Cr.rRead with curves := [mkOItem (Cr.rs "DEPT") (Cr.rs "M") (.str []) (Cr.rs "depth"),
                             mkOItem (Cr.rs "gr") (Cr.rs "API") (.str []) (Cr.rs "gamma")] }

/-- **COUNTER-EXAMPLE (`CaseStable` is needed)**: `mnemonic_case="upper"` and a curve called `gr`: the second text differs from the first in that
one line (`gr` -> `GR`), and is itself a fixed point (`t3 = t2`) -/
theorem C11_text_counterexample_case :
    (match writeObj (Cr.rCfg "%.5f") none rReadLc with
     | .ok (t1, _) =>
       match cycleText exEnv exFOpts (Cr.rCfg "%.5f") noStep t1 with
       | some t2 => some (decide (t2.length = t1.length), decide (diffLines t1 t2 = [(Cr.rs "gr  .API  : gamma", Cr.rs "GR  .API  : gamma")]),
           decide (cycleText exEnv exFOpts (Cr.rCfg "%.5f") noStep t2 = some t2))
       | none => none
     | .error _ => none) = some (true, true, true) := by
  decide +kernel

/-- `str()` of the example re-spells the `'%.5f'` strings of a refreshing write (`1.00000` -> `1.0`) -/
def rsPy : PyFloat :=
  ⟨fun t => if t = Cr.rs "2.0" then Cr.rf false 2 0 else if t = Cr.rs "3.00000" ∨ t = Cr.rs "3.0" then Cr.rf false 3 0
            else if t = Cr.rs "-999.25" then Cr.rf true 3997 (-2) else Cr.rf false 1 0,
   fun t => if t = Cr.rs "1.00000" then Cr.rs "1.0" else if t = Cr.rs "3.00000" then Cr.rs "3.0" else t⟩
def rsEnv : Env := ⟨rsPy, exFt, exVal, exNullOf⟩

/-- **COUNTER-EXAMPLE (`SpeltConf` is needed)**: `Cr.rFresh` (built from scratch) is written with a refresh (`STRT 1.00000`); its re-read holds the
numbers, which `str()` prints `1.0`: the second text differs in the ~Well lines (the NULL line is re-aligned with them), and is itself a fixed
point (`t3 = t2`) -/
theorem C11_text_counterexample_respelt :
    (match writeObj (Cr.rCfg "%.5f") (some (Cr.rf false 1 0)) Cr.rFresh with
     | .ok (t1, _) =>
       match cycleText rsEnv exFOpts (Cr.rCfg "%.5f") noStep t1 with
       | some t2 => some (decide (t2.length = t1.length),
           decide (diffLines t1 t2 = [(Cr.rs "STRT.M 1.00000 : start", Cr.rs "STRT.M    1.0 : start"),
             (Cr.rs "STOP.M 3.00000 : stop", Cr.rs "STOP.M    3.0 : stop"), (Cr.rs "STEP.M 1.00000 : step", Cr.rs "STEP.M    1.0 : step"),
             (Cr.rs "NULL.  -999.25 : null", Cr.rs "NULL. -999.25 : null")]),
           decide (cycleText rsEnv exFOpts (Cr.rCfg "%.5f") noStep t2 = some t2))
       | none => none
     | .error _ => none) = some (true, true, true) := by
  decide +kernel

/-- three further cycles on the file of `Cr.rRead`: its text reads back to `Cr.rRead` (`exFile`), so one cycle returns it (`cycleTextN_fixed`) -/
theorem C11_text_iterate_example :
    (match writeObj (Cr.rCfg "%.5f") none Cr.rRead with
     | .ok (t1, _) => some (decide (cycleTextN exEnv exFOpts (Cr.rCfg "%.5f") noStep 3 t1 = some t1))
     | .error _ => none) = some true := by
  obtain ⟨t, w, _, hw, _, _, _, hfull⟩ := cycleCheck_sound exFile
  simp only [hw, cycleTextN_fixed _ _ _ noStep t (cycleText_of_read hfull hw) 3, decide_true]

/-! ## non-vacuity: the hypotheses hold for the file of `Cr.rRead` -/

/-- whatever the typed reads return for the text written for `Cr.rRead`: `LinkOK` holds and the object IS `Cr.rRead` (evaluated) -/
theorem exKeyFull :
    (match Wr.headerLines "2.0" (some false) 20 (toWLas Cr.rRead) with
     | .ok (l, _) =>
       (match readObjLines Cr.rOpts ((l ++ Cr.rs "~ASCII -------------" :: exBody5).map (· ++ Tf.nl)),
              readObjFullLines exEnv exFOpts ((l ++ Cr.rs "~ASCII -------------" :: exBody5).map (· ++ Tf.nl)) with
        | .ok th, .ok o2r => some (linkOKB exPy th && decide (o2r = Cr.rRead))
        | _, _ => none)
     | .error _ => none) = some true := by
  obtain ⟨l, las', h4⟩ := Cy.headerLines_total "2.0" (some false) 20 (toWLas Cr.rRead) (Or.inr rfl) (fun h => nomatch h)
  obtain ⟨_, th, hth, hlink, hfull⟩ := cycleCheck_of_write exFile (exPartial (l, las') h4).1
  simp only [h4, show readObjLines Cr.rOpts _ = _ from hth, hfull, show linkOKB exPy th = true from hlink, eq_self, decide_true,
    Bool.and_self]

/-- **non-vacuity of `C11_cycle_text_iterate`** (= `iterate_of_fixed` of `text_fixed_of_partial` of the partial theorem): its hypotheses are those
of the partial theorem (`exPartial`), the three of the textual fixed point and the two about the object read back (`exFile`) -/
example (hl : List Str × Wr.WLas) (h4 : Wr.headerLines "2.0" (some false) 20 (toWLas Cr.rRead) = .ok hl) :
    writeObj (Cr.rCfg "%.5f") none Cr.rRead = .ok (hl.1 ++ Cr.rs "~ASCII -------------" :: exBody5, afterHeader (Cr.rCfg "%.5f") Cr.rRead) ∧
    ∀ k, cycleTextN exEnv exFOpts (Cr.rCfg "%.5f") noStep k (hl.1 ++ Cr.rs "~ASCII -------------" :: exBody5) =
      some (hl.1 ++ Cr.rs "~ASCII -------------" :: exBody5) := by
  obtain ⟨_, th, hth, hlink, hfull⟩ := cycleCheck_of_write exFile (exPartial hl h4).1
  exact iterate_of_fixed
    (text_fixed_of_partial (exPartial hl h4) h4 Cr.rFileConf Cr.rCycleConf exSpelt (by unfold Hc.CaseStable; decide +kernel)
      (by unfold Hc.CaseStable; decide +kernel) (by decide +kernel))
    (fun th' h => by rw [hth] at h; cases h; exact linkOKB_sound _ _ hlink)
    (fun o' h => by rw [hfull] at h; cases h; exact ⟨Cr.rNoRefresh, ⟨_, _, _, _, Cr.rUnits⟩, by decide +kernel⟩) noStep

end Lasio.Ro

#print axioms Lasio.Ro.C11_cycle_text_fixed_point
#print axioms Lasio.Ro.C11_cycle_text_fixed_point_preserve
#print axioms Lasio.Ro.C11_cycle_text_fixed_point_notlower
#print axioms Lasio.Ro.C11_cycle_text_iterate
#print axioms Lasio.Ro.C11_text_counterexample_case
#print axioms Lasio.Ro.C11_text_counterexample_respelt
#print axioms Lasio.Ro.C11_text_iterate_example
#print axioms Lasio.Ro.exKeyFull
