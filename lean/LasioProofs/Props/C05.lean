import LasioModel.Reader
import LasioProofs.Lemmas.ReaderLemmas
/-
C05 — every line belongs to the section whose title precedes it.

Model: `LasioModel/Reader.lean` (`findSections`, `sectionType`, `itemsLoop`, `otherLoop`, `mkParser`, `routeKey`,
`steer`, `processSections`, `readLines`).

A DOCUMENT is `pre ++ flat secs`: lines before the first title, then sections `(title line, body lines)`.
`WellFormed secs`: title lines are title lines (their `strip()` starts with '~'), body lines are not.
Titles may be indented (every loop recognises title lines after stripping).
`docSection` / `docSections` (Lemmas/ReaderLemmas.lean) read a section from its own (title, body) alone — parser from
the title and the provisional version, `bodyRun` = every body line on its own, `finishItems`/`finishOther` of the model.
-/
namespace Lasio.Rd

/-! ### kind / routing / parser from the title letter -/

/-- The title is `~`, one character `c`, then anything (`r`); it is stripped (as every title `findSections` returns is,
`C05_titles_stripped`) and contains no underscore.  Everything the reader derives from the title — section type,
key of `las.sections`, item class and section name handed to the line parser — is determined by the UPPER-CASED
character `upperC c` alone, whatever the case of `c` and whatever follows it. -/
theorem C05_kind_letter (c : Char) (r : Str) (ver : VerVal) (v : Str)
    (hs : sline ('~' :: c :: r) = '~' :: c :: r) (hu : '_' ∉ upper ('~' :: c :: r)) :
    sectionType ('~' :: c :: r) = (if upperC c == 'A' then .data else if upperC c == 'O' then .other else .items) ∧
    routeKeyOther ('~' :: c :: r) = (if upperC c == 'O' then kOther else c :: r) ∧
    routeKey ('~' :: c :: r) ver =
      (if upperC c == 'C' then .ok kCurves else if upperC c == 'P' then .ok kParameter
       else if upperC c == 'V' then .ok kVersion else if upperC c == 'W' then .ok kWell else .ok (c :: r)) ∧
    ∃ d os, mkParser ('~' :: c :: r) (.known v) =
      .ok ⟨(letterParser (upperC c)).1, (letterParser (upperC c)).2, d, os⟩ := by
  refine ⟨sectionType_letter c r hs (underscore_upper _ hu), ?_, routeKey_letter c r ver hu, mkParser_letter c r v hu⟩
  simp [routeKeyOther, titleLetter, upper]

/-- two spellings with the same upper-cased letter are treated alike (same type, same key when the letter is one of
V W C P O, same parser class) -/
theorem C05_kind_letter_spellings (c₁ c₂ : Char) (r₁ r₂ : Str) (ver : VerVal) (v : Str)
    (hs₁ : sline ('~' :: c₁ :: r₁) = '~' :: c₁ :: r₁) (hs₂ : sline ('~' :: c₂ :: r₂) = '~' :: c₂ :: r₂)
    (hu₁ : '_' ∉ upper ('~' :: c₁ :: r₁)) (hu₂ : '_' ∉ upper ('~' :: c₂ :: r₂))
    (hc : upperC c₁ = upperC c₂) (hstd : upperC c₁ ∈ ['V', 'W', 'C', 'P', 'O', 'A']) :
    sectionType ('~' :: c₁ :: r₁) = sectionType ('~' :: c₂ :: r₂) ∧
    (upperC c₁ ≠ 'A' → upperC c₁ ≠ 'O' → routeKey ('~' :: c₁ :: r₁) ver = routeKey ('~' :: c₂ :: r₂) ver) ∧
    (upperC c₁ = 'O' → routeKeyOther ('~' :: c₁ :: r₁) = routeKeyOther ('~' :: c₂ :: r₂)) ∧
    ∃ d₁ os₁ d₂ os₂ k s, mkParser ('~' :: c₁ :: r₁) (.known v) = .ok ⟨k, s, d₁, os₁⟩ ∧
      mkParser ('~' :: c₂ :: r₂) (.known v) = .ok ⟨k, s, d₂, os₂⟩ := by
  obtain ⟨a₁, b₁, c₁', d₁, os₁, e₁⟩ := C05_kind_letter c₁ r₁ ver v hs₁ hu₁
  obtain ⟨a₂, b₂, c₂', d₂, os₂, e₂⟩ := C05_kind_letter c₂ r₂ ver v hs₂ hu₂
  refine ⟨by rw [a₁, a₂, hc], ?_, ?_, d₁, os₁, d₂, os₂, _, _, e₁, hc ▸ e₂⟩
  · intro hA hO
    rw [c₁', c₂', ← hc]
    simp only [List.mem_cons, List.not_mem_nil, or_false] at hstd
    rcases hstd with h | h | h | h | h | h <;> simp [h] at hA hO ⊢
  · intro hO
    rw [b₁, b₂, ← hc]; simp [hO]

/-- non-standard sections are kept under their own title: `sections[title[1:]]` -/
theorem C05_custom_kept (c : Char) (r : Str) (ver : VerVal) (hu : '_' ∉ upper ('~' :: c :: r))
    (hC : upperC c ≠ 'C') (hP : upperC c ≠ 'P') (hV : upperC c ≠ 'V') (hW : upperC c ≠ 'W') :
    routeKey ('~' :: c :: r) ver = .ok (c :: r) := by
  rw [routeKey_letter c r ver hu]; simp [hC, hP, hV, hW]

/-- every title returned by the title scan is a stripped line (so `C05_kind_letter` applies to it) -/
theorem C05_titles_stripped (secs : List (Str × List Str)) (n : Nat) :
    ∀ w ∈ docWindows secs n, sline w.2.2 = w.2.2 := by
  induction secs generalizing n with
  | nil => intro w hw; cases hw
  | cons tb rest ih =>
    obtain ⟨t, b⟩ := tb
    intro w hw
    simp only [docWindows, List.mem_cons] at hw
    rcases hw with rfl | hw
    · exact sline_idem t
    · exact ih _ w hw

/-! ### windows -/

/-- The title scan of a rendered document finds exactly its sections: section `j` gets the window
(number of its title line, number of its last body line — inclusive —, its stripped title). -/
theorem C05_windows (pre : List Str) (secs : List (Str × List Str))
    (hpre : ∀ x ∈ pre, isTitle x = false) (h : WellFormed secs) :
    findSections (pre ++ flat secs) = docWindows secs pre.length :=
  findSections_render pre secs hpre h

/-! ### the two line loops consume exactly their section -/

/-- HEADER LOOP. Started after the title line of a section whose body is `body` (no title line inside; `rest` = the rest
of the file; when the body is empty the rest is empty or starts with the next title), with `last` = the window's
inclusive end, the loop returns `bodyRun body`: each body line on its own, nothing else.  With
`ignore_header_errors` this is `body.filterMap parse`; without, additionally the error of the first unparsable line. -/
theorem C05_header_loop (o : ReadOpts) (p : Parser) (body rest : List Str) (first : Nat)
    (hb : ∀ b ∈ body, isTitle b = false)
    (hrest : body = [] → rest = [] ∨ ∃ t r, rest = t :: r ∧ isTitle t = true) :
    itemsLoop o p (first + body.length) (body ++ rest) first = bodyRun o p body first ∧
    (o.ignoreHeaderErrors = true → bodyRun o p body first = .ok (body.filterMap (lineItem o p))) := by
  refine ⟨?_, fun hi => bodyRun_ignore o p body first hi⟩
  by_cases hbe : body = []
  · subst hbe
    simp only [List.length_nil, Nat.add_zero, List.nil_append, bodyRun]
    apply itemsLoop_empty
    rcases hrest rfl with h | ⟨t, r, h, ht⟩
    · left; exact h
    · right; exact ⟨t, r, h, (lineRes_title_iff o p t).mpr ht⟩
  · exact itemsLoop_body o p body rest first _ (no_title o p body hb) hbe rfl

/-- the loop stops at the inclusive end even when the following lines are NOT a title (here: more item lines) — the
`line_no == line_nos[1]` test, not the '~' test, ends a non-empty section -/
example : (itemsLoop ⟨false, .upper⟩ ⟨.metadata, .well, valueDescr, []⟩ 1
    ["A.M 1 : a\n".toList, "B.M 2 : b\n".toList] 0).toOption
    = some [⟨"A".toList, "M".toList, "1".toList, "a".toList⟩] := by decide +kernel

/-- OTHER LOOP. Started AT the title line (indented or not) of a ~Other section with body `body`, the loop returns the
stripped body lines, all of them, once each, and nothing from the following sections. -/
theorem C05_other_loop (t : Str) (body rest : List Str) (first : Nat)
    (ht : isTitle t = true) (hb : ∀ b ∈ body, isTitle b = false) :
    readOther (t :: body ++ rest) first (first + body.length) = joinWith ['\n'] (body.map lineStrip) := by
  unfold readOther
  rw [otherLoop_section t body rest first ht hb]

/-- an indented title (fixed finding: the loop used to test the raw line, stored the title as text and dropped the
last line) -/
theorem C05_other_loop_indented :
    readOther [" ~O\n".toList, "a\n".toList, "b\n".toList, "~W\n".toList] 0 2 = "a\nb".toList := by decide +kernel

/-! ### reading a rendered document = reading its sections one by one -/

/-- For a well-formed document the section loop of `read` is `docSections`: every section is read from
its own title and body lines only — no line is dropped, duplicated or read as part of a neighbouring section. -/
theorem C05_read_rendered (o : ReadOpts) (pre : List Str) (secs : List (Str × List Str)) (st : RState)
    (hpre : ∀ x ∈ pre, isTitle x = false) (hw : WellFormed secs) :
    processSections o (pre ++ flat secs) (findSections (pre ++ flat secs)) st = docSections o secs pre.length st := by
  rw [C05_windows pre secs hpre hw]
  exact processSections_doc o (pre ++ flat secs) secs pre.length st (by simp) hw

theorem C05_read_rendered_lines (o : ReadOpts) (pre : List Str) (secs : List (Str × List Str))
    (hpre : ∀ x ∈ pre, isTitle x = false) (hw : WellFormed secs) (hne : secs ≠ []) :
    readLines o (pre ++ flat secs) =
      match docSections o secs pre.length RState.init with
      | .error e => .error e
      | .ok st => finishRead st :=
  readLines_flat o pre secs hpre hw hne

/-! ### steering -/

/-- Only ~V and ~W titles steer: for any other title letter the steering values are untouched, whatever the items are
(so an item named VERS / WRAP / DLM / NULL in ~C, ~P or a custom section is just an item). -/
theorem C05_steering_only_V_W_title (o : ReadOpts) (title : Str) (items : List RItem) (s : Steer)
    (hV : titleLetter title ≠ ['V']) (hW : titleLetter title ≠ ['W']) : steer o title items s = s :=
  steer_other_letter o title items s (by simpa using hV) (by simpa using hW)

/-- ~V changes only VERS, WRAP, DLM — never NULL; ~W changes only NULL. -/
theorem C05_steering_fields (o : ReadOpts) (title : Str) (items : List RItem) (s : Steer) :
    (titleLetter title = ['V'] → (steer o title items s).null = s.null) ∧
    (titleLetter title = ['W'] → (steer o title items s).vers = s.vers ∧ (steer o title items s).wrap = s.wrap ∧
        (steer o title items s).dlm = s.dlm) := by
  constructor
  · intro h; unfold steer; simp [h]
  · intro h; unfold steer; simp [h]

/-- inside ~V / ~W only the items found under the four steering mnemonics are consulted -/
theorem C05_steering_lookups (o : ReadOpts) (title : Str) (i₁ i₂ : List RItem) (s : Steer)
    (h : ∀ k ∈ steerKeys, lookupItem (o.mnemonicCase != .preserve) i₁ k = lookupItem (o.mnemonicCase != .preserve) i₂ k) :
    steer o title i₁ s = steer o title i₂ s :=
  steer_congr o title i₁ i₂ s fun k hk => h k (Tf.consulted_steerKeys title k hk)

/-- STEERING COMES FROM ~V AND ~W ONLY, document level: the steering values after reading the sections `secs` are those
obtained from its ~V and ~W header sections alone (all other sections deleted — with whatever items they contained). -/
theorem C05_steering_only_V_W (o : ReadOpts) (secs : List (Str × List Str)) (n n₂ : Nat) (st r : RState)
    (h : docSections o secs n st = .ok r) :
    ∃ r₂, docSections o (secs.filter fun tb => isV tb || isW tb) n₂ st = .ok r₂ ∧ r₂.steer = r.steer :=
  docSections_steer_filter o secs n n₂ st st r rfl h

/-! ### permutation of the sections after ~V -/

/-- Sections none of which is a ~V header section, with pairwise distinct keys of `las.sections` and at most one ~W
header section: read in any order (and at any place in the file) from the same state, they all read successfully
alike and give the same steering values and the same content under EVERY key of `las.sections`. -/
theorem C05_routing_perm (o : ReadOpts) (secs₁ secs₂ : List (Str × List Str)) (n₁ n₂ : Nat) (st r₁ : RState)
    (hp : secs₁.Perm secs₂) (hV : ∀ tb ∈ secs₁, isV tb = false)
    (hW : ∀ x ∈ secs₁, ∀ y ∈ secs₁, isW x = true → isW y = true → x = y)
    (hK : (secs₁.filterMap (secKey (classifyVer st.steer.vers))).Nodup)
    (h₁ : docSections o secs₁ n₁ st = .ok r₁) :
    ∃ r₂, docSections o secs₂ n₂ st = .ok r₂ ∧ r₂.steer = r₁.steer ∧ r₂.curvesPlain = r₁.curvesPlain ∧
      ∀ k, lookupSec k r₂.sections = lookupSec k r₁.sections := by
  -- no section here is a ~V section, so all are read under the version of the start state: named once, the effects of
  -- both orders are effects under the same variable `ver` and `hp.map` relates them
  generalize hver : classifyVer st.steer.vers = ver at hK
  have hE₁ := effects_of_docSections o secs₁ n₁ st r₁ ver hver hV h₁
  have hE₂ : ∀ tb ∈ secs₂, ∃ e, secEffect o ver tb = .ok e := fun tb h => hE₁ tb (hp.mem_iff.mpr h)
  have hV₂ : ∀ tb ∈ secs₂, isV tb = false := fun tb h => hV tb (hp.mem_iff.mpr h)
  obtain ⟨r₁', hr₁', hc₁⟩ := docSections_of_effects o secs₁ n₁ st ver hver hV hE₁
  rw [h₁] at hr₁'; cases hr₁'
  obtain ⟨r₂, hr₂, hc₂⟩ := docSections_of_effects o secs₂ n₂ st ver hver hV₂ hE₂
  refine ⟨r₂, hr₂, ?_⟩
  simp only [core, Prod.mk.injEq] at hc₁ hc₂
  obtain ⟨a₁, b₁, c₁⟩ := hc₁
  obtain ⟨a₂, b₂, c₂⟩ := hc₂
  have hpe : (secs₁.map (effOf o ver)).Perm (secs₂.map (effOf o ver)) := hp.map _
  -- facts about the effect of a member of secs₁
  have hfacts : ∀ tb ∈ secs₁, (effOf o ver tb).kv.map (·.1) = secKey ver tb ∧
      (isW tb = false → (effOf o ver tb).null = none) ∧ ((effOf o ver tb).plain ≠ none → secKey ver tb = some kCurves) := by
    intro tb htb
    obtain ⟨e, he⟩ := hE₁ tb htb
    have : effOf o ver tb = e := by simp [effOf, he]
    rw [this]; exact effect_facts o ver tb e he
  have hnull : ∀ z : Option Str, (secs₂.map (effOf o ver)).foldl (fun old e => orKeep e.null old) z =
      (secs₁.map (effOf o ver)).foldl (fun old e => orKeep e.null old) z := by
    intro z
    apply (List.Perm.foldl_eq' hpe ?_ z).symm
    intro x hx y hy z
    apply null_comm
    obtain ⟨sx, hsx, hex⟩ := List.mem_map.mp hx
    obtain ⟨sy, hsy, hey⟩ := List.mem_map.mp hy
    by_cases wx : isW sx = true
    · by_cases wy : isW sy = true
      · right; right; rw [← hex, ← hey, hW sx hsx sy hsy wx wy]
      · right; left; rw [← hey]; exact (hfacts sy hsy).2.1 (by simpa using wy)
    · left; rw [← hex]; exact (hfacts sx hsx).2.1 (by simpa using wx)
  have hplain : ∀ z : Bool, (secs₂.map (effOf o ver)).foldl (fun b e => e.plain.getD b) z =
      (secs₁.map (effOf o ver)).foldl (fun b e => e.plain.getD b) z := by
    intro z
    apply (List.Perm.foldl_eq' hpe ?_ z).symm
    intro x hx y hy z
    apply plain_comm
    obtain ⟨sx, hsx, hex⟩ := List.mem_map.mp hx
    obtain ⟨sy, hsy, hey⟩ := List.mem_map.mp hy
    by_cases px : x.plain = none
    · left; exact px
    · by_cases py : y.plain = none
      · right; left; exact py
      · right; right
        have := filterMap_nodup_inj (secKey ver) secs₁ hK sx sy hsx hsy kCurves
          ((hfacts sx hsx).2.2 (hex ▸ px)) ((hfacts sy hsy).2.2 (hey ▸ py))
        rw [← hex, ← hey, this]
  refine ⟨?_, ?_, ?_⟩
  · rw [a₂, a₁, applyAll_steer, applyAll_steer, hnull]
  · rw [c₂, c₁, applyAll_plain, applyAll_plain, hplain]
  · intro k
    rw [b₂, b₁, applyAll_sections, applyAll_sections]
    apply (lookupSec_assignAll_perm _ _ _ (hpe.filterMap _) ?_ k).symm
    have : ((secs₁.map (effOf o ver)).filterMap (·.kv)).map (·.1) = secs₁.filterMap (secKey ver) := by
      rw [List.filterMap_map, List.map_filterMap]
      apply filterMap_congr'
      intro tb htb
      exact (hfacts tb htb).1
    rw [this]; exact hK

/-- `C05_routing_perm` for whole files: the document `pre ++ [~V section] ++ secs₁` and the one with the sections after ~V permuted. -/
theorem C05_routing_perm_file (o : ReadOpts) (pre : List Str) (v : Str × List Str) (secs₁ secs₂ : List (Str × List Str))
    (stv r₁ : RState)
    (hpre : ∀ x ∈ pre, isTitle x = false) (hw : WellFormed (v :: secs₁))
    (hp : secs₁.Perm secs₂) (hV : ∀ tb ∈ secs₁, isV tb = false)
    (hW : ∀ x ∈ secs₁, ∀ y ∈ secs₁, isW x = true → isW y = true → x = y)
    (hv : docSection o pre.length v RState.init = .ok stv)
    (hK : (secs₁.filterMap (secKey (classifyVer stv.steer.vers))).Nodup)
    (h₁ : processSections o (pre ++ flat (v :: secs₁)) (findSections (pre ++ flat (v :: secs₁))) RState.init = .ok r₁) :
    ∃ r₂, processSections o (pre ++ flat (v :: secs₂)) (findSections (pre ++ flat (v :: secs₂))) RState.init = .ok r₂ ∧
      r₂.steer = r₁.steer ∧ r₂.curvesPlain = r₁.curvesPlain ∧ ∀ k, lookupSec k r₂.sections = lookupSec k r₁.sections := by
  have hw₂ : WellFormed (v :: secs₂) := by
    intro x hx
    rcases List.mem_cons.mp hx with rfl | hx
    · exact hw _ List.mem_cons_self
    · exact hw x (List.mem_cons_of_mem _ (hp.mem_iff.mpr hx))
  rw [C05_read_rendered o pre (v :: secs₁) RState.init hpre hw] at h₁
  rw [C05_read_rendered o pre (v :: secs₂) RState.init hpre hw₂]
  simp only [docSections, hv] at h₁ ⊢
  exact C05_routing_perm o secs₁ secs₂ _ _ stv r₁ hp hV hW hK h₁

/-- the key hypothesis is needed: two sections stored under the same key — the later one wins, so order matters -/
theorem C05_routing_perm_needs_distinct_keys :
    (match docSections ⟨false, .upper⟩ [("~W\n".toList, ["A. 1 : a\n".toList]), ("~Well\n".toList, ["B. 2 : b\n".toList])] 0 RState.init with
      | .ok r => lookupSec kWell r.sections | .error _ => none)
    ≠ (match docSections ⟨false, .upper⟩ [("~Well\n".toList, ["B. 2 : b\n".toList]), ("~W\n".toList, ["A. 1 : a\n".toList])] 0 RState.init with
      | .ok r => lookupSec kWell r.sections | .error _ => none) := by
  decide +kernel

/-! ### non-vacuity: a concrete document, its windows and its reading -/

def exDoc : List (Str × List Str) :=
  [("~V\n".toList, ["VERS. 2.0 : v\n".toList, "WRAP. NO : w\n".toList]),
   ("~p\n".toList, ["NULL. 5 : planted\n".toList]),
   ("~Tops\n".toList, []),
   ("  ~other\n".toList, ["  free text \n".toList]),
   ("~w\n".toList, ["# c\n".toList, "NULL. -999.25 : n\n".toList])]

example : WellFormed exDoc := by
  intro tb htb
  simp only [exDoc, List.mem_cons, List.not_mem_nil, or_false] at htb
  rcases htb with rfl | rfl | rfl | rfl | rfl <;> decide +kernel


example : findSections (flat exDoc) =
    [(0, 2, "~V".toList), (3, 4, "~p".toList), (5, 5, "~Tops".toList), (6, 7, "~other".toList), (8, 10, "~w".toList)] := by
  decide +kernel

example : (match readLines ⟨false, .upper⟩ (flat exDoc) with
    | .ok h => some (h.sections.map (·.1), h.steer) | .error _ => none)
    = some (["Version".toList, "Well".toList, "Parameter".toList, "Other".toList, "Tops".toList],
            ⟨some "2.0".toList, some "NO".toList, some "-999.25".toList, none⟩) := by
  decide +kernel

end Lasio.Rd

#print axioms Lasio.Rd.C05_kind_letter
#print axioms Lasio.Rd.C05_kind_letter_spellings
#print axioms Lasio.Rd.C05_custom_kept
#print axioms Lasio.Rd.C05_titles_stripped
#print axioms Lasio.Rd.C05_windows
#print axioms Lasio.Rd.C05_header_loop
#print axioms Lasio.Rd.C05_other_loop
#print axioms Lasio.Rd.C05_other_loop_indented
#print axioms Lasio.Rd.C05_read_rendered
#print axioms Lasio.Rd.C05_read_rendered_lines
#print axioms Lasio.Rd.C05_steering_only_V_W_title
#print axioms Lasio.Rd.C05_steering_fields
#print axioms Lasio.Rd.C05_steering_lookups
#print axioms Lasio.Rd.C05_steering_only_V_W
#print axioms Lasio.Rd.C05_routing_perm
#print axioms Lasio.Rd.C05_routing_perm_file
#print axioms Lasio.Rd.C05_routing_perm_needs_distinct_keys
