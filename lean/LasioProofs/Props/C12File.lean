import LasioProofs.Lemmas.FileDlm
import LasioProofs.Lemmas.Eval
/-
C12 at WHOLE-FILE level — the content recovered from a written file does not depend on how it was written.

ONE object — the header `las : Wr.WLas` (after `prepare`) and the data matrix `rows` (an r × n matrix of binary64, NULL text `null`) —
is written under TWO configurations `(version₁, wrap₁, header_width₁, cfg₁)` and `(version₂, wrap₂, header_width₂, cfg₂)`; both texts
(`Fr.fileDoc`: header lines ++ `~A` line ++ data lines, each followed by "\n") are read by `Tf.readFull` with the same options.
`Fc.FileWritten …` bundles, per configuration, the hypotheses of `C01_file`: `headerLines` succeeded, `Cy.FileConf` (= the hypotheses
of `C03_file`, no DLM item), `Rt.Written` for the data section, a data title `~A…`, and `Fc.Fit` (WRAP = YES in the written header, or
data written with `wrap=False` and WRAP ≠ YES — `Wo.writeObj` always produces one of the two).

`C12_file`: with equal precision per column (`Rt.SamePrec c₁ c₂ n`, the hypothesis of `C12_data_tokens_independent`), a NULL text
that does not start with '~', as many ~Curves items as columns and sane session mnemonics in ~Version (`Fc.SessionsSane`):
  (a) the two reads return the SAME "Well", "Curves", "Parameter", "Other" entries (`Fc.commonSections`, which mentions neither
      configuration) and "Version" items that are equal once the reader's VERS and WRAP items are filtered out;
  (b) the same curves for the one data window (`.map Prod.snd`: the engine may differ between a wrapped and an unwrapped output);
  (c) steering: `vers` = the version written, `wrap` = the WRAP value written, the same `null`, `dlm = none`.
Corollaries in the words of the property: `C12_file_version_swap` ("converting between 1.2 and 2.0 swaps the layout of ~Well lines on
disk but never their meaning"), `C12_file_wrap_swap`, `C12_file_layout` (widths, spacers, data width, data-section header style,
numeric formats of equal precision).

Forced hypotheses: `SessionsSane` (`C12_file_counterexample_session_mnemonic`); equal precision (`C12_file_counterexample_precision`,
file-level form of `C12_data_precision_matters`); the `TextConf` clauses inside `FileConf` (a ~Well value or description with a
colon, a blank mnemonic with a further period: `C12_counterexample_colon_value`, `…_colon_descr`, `…_blank_mnemonic_period` in
Props/C12.lean, at section level — not restated here); the rest are the hypotheses of `C01_file`, with their counter-examples there.
NOT proved: `float()` / `num()` (the sections hold value TEXTS, the curves hold `float()` of the tokens through the table `ft`);
`prepare` (refresh of STRT/STOP/STEP, which does not depend on the configuration: `las` is the object after it).
-/
namespace Lasio.Fc
open Lasio

/-- everything `C01_file` asks of one configuration -/
structure FileWritten (opts : Tf.Opts) (las : Wr.WLas) (null : Str) (rows : List (List Dw.F64)) (n : Nat)
    (version : String) (wrap : Option Bool) (w : Nat) (cfg : Dw.DataCfg) (mn : List Str) (c : Dw.RowCfg)
    (hlines : List Str) (hdr : Str) (body : List Str) : Prop where
  header : ∃ las', Wr.headerLines version wrap w las = .ok (hlines, las')
  conf : Cy.FileConf opts.hdr version wrap las
  data : Rt.Written cfg null mn rows c n hdr body
  title : ∃ a r, cfg.dataSectionHeader = '~' :: a :: r ∧ upperC a = 'A'
  fit : Fit opts.hdr version wrap las cfg

/-- the entries of `las.sections` after "Version": they mention neither the version, nor `wrap`, nor any width -/
def commonSections (o : Rd.ReadOpts) (las : Wr.WLas) : List (Rd.RKey × Rd.SecVal) :=
  [(Rd.kWell, .items ((Wr.standardizeItems las.well).map (Wr.rdExpected o))),
   (Rd.kCurves, .items (las.curves.map (Wr.rdExpected o))),
   (Rd.kParameter, .items ((Wr.standardizeItems las.params).map (Wr.rdExpected o))),
   (Rd.kOther, .text (Cy.otherRead las.other))]

theorem firstRead_eq (o : Rd.ReadOpts) (version : String) (wrap : Option Bool) (las : Wr.WLas) :
    Cy.firstRead o version wrap las =
      (Rd.kVersion, .items ((RH.versionCopy version wrap las).map (Wr.rdExpected o))) :: commonSections o las := rfl

/-- `wrap=True/False` given and exactly one WRAP item in the written ~Version section: the halves fit when the data are written with
the same `wrap` -/
theorem fit_of_wrap (o : Rd.ReadOpts) (version : String) (b : Bool) (las : Wr.WLas) (cfg : Dw.DataCfg)
    (hw : Cy.WrapOK o (RH.versionCopy version (some b) las)) (hcw : cfg.wrap = b) : Fit o version (some b) las cfg := by
  have h := steerVal_wrap_given o version b las hw
  cases b with
  | true => exact Or.inl h
  | false => exact Or.inr ⟨hcw, "NO".toList, h, by decide⟩

/-- one configuration: what `Tf.readModel` returns for the written file, in full -/
theorem file_readModel (opts : Tf.Opts) (nullOf : Option Str → Option Str) (ft : Dt.FloatTable)
    {las : Wr.WLas} {null : Str} {rows : List (List Dw.F64)} {n : Nat}
    {v : String} {wr : Option Bool} {w : Nat} {cfg : Dw.DataCfg} {mn : List Str} {c : Dw.RowCfg}
    {hl : List Str} {hdr : Str} {body : List Str}
    (F : FileWritten opts las null rows n v wr w cfg mn c hl hdr body)
    (hn : null.head? ≠ some '~') (hcur : las.curves.length = n) :
    Tf.readModel opts nullOf ft (Fr.fileDoc hl hdr body) = .ok
      ⟨Cy.firstRead opts.hdr v wr las,
       [.ok (Dt.assignCurves n (Dt.applyNull (opts.dat.nullPolicy == .strict)
         (nullOf (Fr.steerVal opts.hdr "NULL" (Wr.standardizeItems las.well)))
         (Dt.matrixColumns ft n (Rt.tokenRows c null rows))))]⟩ := by
  obtain ⟨las', hH⟩ := F.header
  obtain ⟨a, r, hd, ha⟩ := F.title
  obtain ⟨res, e, q⟩ := Fd.file_read_dlm opts nullOf ft v wr w las las' hl hH (Fd.FileConf.toD F.conf) F.data hn a r hd ha
    F.fit hcur
  rw [Tf.readModel, e, ← q]
  rfl

/-- **C12, whole file.** -/
theorem C12_file (opts : Tf.Opts) (nullOf : Option Str → Option Str) (ft : Dt.FloatTable)
    (las : Wr.WLas) (null : Str) (rows : List (List Dw.F64)) (n : Nat)
    {v1 v2 : String} {wr1 wr2 : Option Bool} {w1 w2 : Nat} {cfg1 cfg2 : Dw.DataCfg} {mn1 mn2 : List Str} {c1 c2 : Dw.RowCfg}
    {hl1 hl2 : List Str} {hdr1 hdr2 : Str} {body1 body2 : List Str}
    (F1 : FileWritten opts las null rows n v1 wr1 w1 cfg1 mn1 c1 hl1 hdr1 body1)
    (F2 : FileWritten opts las null rows n v2 wr2 w2 cfg2 mn2 c2 hl2 hdr2 body2)
    (hp : Rt.SamePrec c1 c2 n) (hn : null.head? ≠ some '~') (hcur : las.curves.length = n)
    (hs : SessionsSane opts.hdr las) :
    ∃ res1 res2,
      Tf.readFull opts nullOf ft (Fr.fileDoc hl1 hdr1 body1) = .ok
        ⟨(Rd.kVersion, .items ((RH.versionCopy v1 wr1 las).map (Wr.rdExpected opts.hdr))) :: commonSections opts.hdr las,
         ⟨some v1.toList, Fr.steerVal opts.hdr "WRAP" (RH.versionCopy v1 wr1 las),
          Fr.steerVal opts.hdr "NULL" (Wr.standardizeItems las.well), none⟩,
         [⟨hl1.length, hl1.length + body1.length, res1⟩]⟩ ∧
      Tf.readFull opts nullOf ft (Fr.fileDoc hl2 hdr2 body2) = .ok
        ⟨(Rd.kVersion, .items ((RH.versionCopy v2 wr2 las).map (Wr.rdExpected opts.hdr))) :: commonSections opts.hdr las,
         ⟨some v2.toList, Fr.steerVal opts.hdr "WRAP" (RH.versionCopy v2 wr2 las),
          Fr.steerVal opts.hdr "NULL" (Wr.standardizeItems las.well), none⟩,
         [⟨hl2.length, hl2.length + body2.length, res2⟩]⟩ ∧
      ((RH.versionCopy v1 wr1 las).map (Wr.rdExpected opts.hdr)).filter (notVW opts.hdr) =
        ((RH.versionCopy v2 wr2 las).map (Wr.rdExpected opts.hdr)).filter (notVW opts.hdr) ∧
      res1.map Prod.snd = res2.map Prod.snd ∧
      res1.map Prod.snd = .ok (Dt.assignCurves n (Dt.applyNull (opts.dat.nullPolicy == .strict)
        (nullOf (Fr.steerVal opts.hdr "NULL" (Wr.standardizeItems las.well)))
        (Dt.matrixColumns ft n (Rt.tokenRows c1 null rows)))) := by
  obtain ⟨las1', hH1⟩ := F1.header
  obtain ⟨las2', hH2⟩ := F2.header
  obtain ⟨a1, r1, hd1, ha1⟩ := F1.title
  obtain ⟨a2, r2, hd2, ha2⟩ := F2.title
  obtain ⟨res1, e1, q1⟩ := Fd.file_read_dlm opts nullOf ft v1 wr1 w1 las las1' hl1 hH1 (Fd.FileConf.toD F1.conf) F1.data hn
    a1 r1 hd1 ha1 F1.fit hcur
  obtain ⟨res2, e2, q2⟩ := Fd.file_read_dlm opts nullOf ft v2 wr2 w2 las las2' hl2 hH2 (Fd.FileConf.toD F2.conf) F2.data hn
    a2 r2 hd2 ha2 F2.fit hcur
  rw [Fd.fileSteerD_eq _ _ _ _ F1.conf.hdlm] at e1
  rw [Fd.fileSteerD_eq _ _ _ _ F2.conf.hdlm] at e2
  refine ⟨res1, res2, e1, e2, version_items_independent opts.hdr v1 v2 wr1 wr2 las hs, ?_, q1⟩
  rw [q1, q2, Rt.tokenRows_samePrec c1 c2 null rows n F1.data.rect hp]

/-- the same through the parsed result of `Tf.readModel` (sections and curves, no line numbers, no engine): the data parts are equal,
the sections are equal after the first entry -/
theorem C12_file_parsed (opts : Tf.Opts) (nullOf : Option Str → Option Str) (ft : Dt.FloatTable)
    (las : Wr.WLas) (null : Str) (rows : List (List Dw.F64)) (n : Nat)
    {v1 v2 : String} {wr1 wr2 : Option Bool} {w1 w2 : Nat} {cfg1 cfg2 : Dw.DataCfg} {mn1 mn2 : List Str} {c1 c2 : Dw.RowCfg}
    {hl1 hl2 : List Str} {hdr1 hdr2 : Str} {body1 body2 : List Str}
    (F1 : FileWritten opts las null rows n v1 wr1 w1 cfg1 mn1 c1 hl1 hdr1 body1)
    (F2 : FileWritten opts las null rows n v2 wr2 w2 cfg2 mn2 c2 hl2 hdr2 body2)
    (hp : Rt.SamePrec c1 c2 n) (hn : null.head? ≠ some '~') (hcur : las.curves.length = n)
    (hs : SessionsSane opts.hdr las) :
    ∃ p1 p2, Tf.readModel opts nullOf ft (Fr.fileDoc hl1 hdr1 body1) = .ok p1 ∧
      Tf.readModel opts nullOf ft (Fr.fileDoc hl2 hdr2 body2) = .ok p2 ∧
      p1.data = p2.data ∧ p1.sections.tail = p2.sections.tail ∧ p1.sections.tail = commonSections opts.hdr las := by
  refine ⟨_, _, file_readModel opts nullOf ft F1 hn hcur, file_readModel opts nullOf ft F2 hn hcur, ?_, rfl, rfl⟩
  rw [Rt.tokenRows_samePrec c1 c2 null rows n F1.data.rect hp]

/-- **Version swap.**  The same `wrap`, widths and data configuration, target version 1.2 vs 2.0: on disk the ~Well lines of the two
texts differ (description and value swapped, except STRT/STOP/STEP/NULL); read back, every section but "Version" is identical, the
"Version" items differ in VERS only, the curves are identical. -/
theorem C12_file_version_swap (opts : Tf.Opts) (nullOf : Option Str → Option Str) (ft : Dt.FloatTable)
    (las : Wr.WLas) (null : Str) (rows : List (List Dw.F64)) (n : Nat)
    {wr : Option Bool} {w : Nat} {cfg : Dw.DataCfg} {mn : List Str} {c : Dw.RowCfg}
    {hl12 hl20 : List Str} {hdr : Str} {body : List Str}
    (F12 : FileWritten opts las null rows n "1.2" wr w cfg mn c hl12 hdr body)
    (F20 : FileWritten opts las null rows n "2.0" wr w cfg mn c hl20 hdr body)
    (hn : null.head? ≠ some '~') (hcur : las.curves.length = n) (hs : SessionsSane opts.hdr las) :
    ∃ p12 p20, Tf.readModel opts nullOf ft (Fr.fileDoc hl12 hdr body) = .ok p12 ∧
      Tf.readModel opts nullOf ft (Fr.fileDoc hl20 hdr body) = .ok p20 ∧
      p12.data = p20.data ∧ p12.sections.tail = p20.sections.tail ∧ p12.sections.tail = commonSections opts.hdr las :=
  C12_file_parsed opts nullOf ft las null rows n F12 F20 (fun _ _ => rfl) hn hcur hs

/-- **Wrap swap.**  The same version, `wrap=True` vs `wrap=False` (header item and data layout), exactly one WRAP item in each written
~Version section; formats of equal precision. -/
theorem C12_file_wrap_swap (opts : Tf.Opts) (nullOf : Option Str → Option Str) (ft : Dt.FloatTable)
    (las : Wr.WLas) (null : Str) (rows : List (List Dw.F64)) (n : Nat)
    {v : String} {w1 w2 : Nat} {cfg1 cfg2 : Dw.DataCfg} {mn1 mn2 : List Str} {c1 c2 : Dw.RowCfg}
    {hl1 hl2 : List Str} {hdr1 hdr2 : Str} {body1 body2 : List Str}
    (hH1 : ∃ las', Wr.headerLines v (some true) w1 las = .ok (hl1, las'))
    (hH2 : ∃ las', Wr.headerLines v (some false) w2 las = .ok (hl2, las'))
    (hc1 : Cy.FileConf opts.hdr v (some true) las) (hc2 : Cy.FileConf opts.hdr v (some false) las)
    (wd1 : Rt.Written cfg1 null mn1 rows c1 n hdr1 body1) (wd2 : Rt.Written cfg2 null mn2 rows c2 n hdr2 body2)
    (ht1 : ∃ a r, cfg1.dataSectionHeader = '~' :: a :: r ∧ upperC a = 'A')
    (ht2 : ∃ a r, cfg2.dataSectionHeader = '~' :: a :: r ∧ upperC a = 'A')
    (hw1 : Cy.WrapOK opts.hdr (RH.versionCopy v (some true) las)) (hw2 : Cy.WrapOK opts.hdr (RH.versionCopy v (some false) las))
    (hcw1 : cfg1.wrap = true) (hcw2 : cfg2.wrap = false)
    (hp : Rt.SamePrec c1 c2 n) (hn : null.head? ≠ some '~') (hcur : las.curves.length = n)
    (hs : SessionsSane opts.hdr las) :
    ∃ p1 p2, Tf.readModel opts nullOf ft (Fr.fileDoc hl1 hdr1 body1) = .ok p1 ∧
      Tf.readModel opts nullOf ft (Fr.fileDoc hl2 hdr2 body2) = .ok p2 ∧
      p1.data = p2.data ∧ p1.sections.tail = p2.sections.tail ∧ p1.sections.tail = commonSections opts.hdr las :=
  C12_file_parsed opts nullOf ft las null rows n
    ⟨hH1, hc1, wd1, ht1, fit_of_wrap opts.hdr v true las cfg1 hw1 hcw1⟩
    ⟨hH2, hc2, wd2, ht2, fit_of_wrap opts.hdr v false las cfg2 hw2 hcw2⟩ hp hn hcur hs

/-- **Layout only.**  The same version and `wrap`; header width, numeric formats of equal precision, `len_numeric_field`, spacers, data
width, data-section header style differ: the two reads are the same in EVERY section (the "Version" items included) and in the curves. -/
theorem C12_file_layout (opts : Tf.Opts) (nullOf : Option Str → Option Str) (ft : Dt.FloatTable)
    (las : Wr.WLas) (null : Str) (rows : List (List Dw.F64)) (n : Nat)
    {v : String} {wr : Option Bool} {w1 w2 : Nat} {cfg1 cfg2 : Dw.DataCfg} {mn1 mn2 : List Str} {c1 c2 : Dw.RowCfg}
    {hl1 hl2 : List Str} {hdr1 hdr2 : Str} {body1 body2 : List Str}
    (F1 : FileWritten opts las null rows n v wr w1 cfg1 mn1 c1 hl1 hdr1 body1)
    (F2 : FileWritten opts las null rows n v wr w2 cfg2 mn2 c2 hl2 hdr2 body2)
    (hp : Rt.SamePrec c1 c2 n) (hn : null.head? ≠ some '~') (hcur : las.curves.length = n)
    (hs : SessionsSane opts.hdr las) :
    ∃ p, Tf.readModel opts nullOf ft (Fr.fileDoc hl1 hdr1 body1) = .ok p ∧
      Tf.readModel opts nullOf ft (Fr.fileDoc hl2 hdr2 body2) = .ok p := by
  refine ⟨_, file_readModel opts nullOf ft F1 hn hcur, ?_⟩
  rw [file_readModel opts nullOf ft F2 hn hcur, Rt.tokenRows_samePrec c1 c2 null rows n F1.data.rect hp]

/-! ## the hypotheses are needed -/

/-- `SessionsSane` is needed: a ~Version item `FOO` whose SESSION mnemonic is `WRAP` (next to a real WRAP item whose session mnemonic
is `WRAP:2`): with `wrap=None` it is written as it is, with `wrap=False` it is the item `version["WRAP"] = …` replaces — the item FOO
is in one re-read and not in the other -/
theorem C12_file_counterexample_session_mnemonic :
    let las : Wr.WLas := ⟨[Fr.fVers, ⟨Fr.fs "FOO", Fr.fs "WRAP", [], .str (Fr.fs "1"), Fr.fs "d"⟩,
      { Wr.wrapItem true with session := Fr.fs "WRAP:2" }], true, [], [], [], []⟩
    ((RH.versionCopy "2.0" none las).map (Wr.rdExpected Fr.fOpts.hdr)).filter (notVW Fr.fOpts.hdr) =
      [⟨Fr.fs "FOO", [], Fr.fs "1", Fr.fs "d"⟩] ∧
    ((RH.versionCopy "2.0" (some false) las).map (Wr.rdExpected Fr.fOpts.hdr)).filter (notVW Fr.fOpts.hdr) = [] := by
  decide +kernel

/-- equal precision is needed (file-level form of `C12_data_precision_matters`): 0.25 written with `%.1f` and with `%.2f` gives the
token matrices `[["0.2"]]` and `[["0.25"]]`, read back as two different numbers -/
theorem C12_file_counterexample_precision :
    Rt.tokenRows ⟨⟨none, 1⟩, [], 10, [' '], [' ']⟩ Fr.fNull [[.finite false 1 (-2)]] = [[Fr.fs "0.2"]] ∧
    Rt.tokenRows ⟨⟨none, 2⟩, [], 10, [' '], [' ']⟩ Fr.fNull [[.finite false 1 (-2)]] = [[Fr.fs "0.25"]] ∧
    ¬ Rt.SamePrec ⟨⟨none, 1⟩, [], 10, [' '], [' ']⟩ ⟨⟨none, 2⟩, [], 10, [' '], [' ']⟩ 1 := by
  refine ⟨by decide, by decide, ?_⟩
  intro h
  have := h 0 (by decide)
  revert this
  decide

/-! ## non-vacuity: the object of C01File (plus a company item) written as (2.0, unwrapped, `%.2f`) and as (1.2, wrapped, `%8.2f`) -/

open Fr in
def gComp : Wr.WItem := Wr.mkWItem (fs "COMP") [] (.str (fs "ACME")) (fs "company")
open Fr in
def gLas : Wr.WLas := ⟨[fVers, Wr.wrapItem true], true, [fStrt, fStop, fStep, fNullIt, gComp], [fDept, fGr], [], fs "note"⟩
open Fr in
/-- wrapped at 12 columns, `%8.2f`, a mnemonics header `~A  DEPT  Gr` (the session mnemonics, as `Wo.writeObj` passes them) -/
def gCfg : Dw.DataCfg := ⟨true, fs "%8.2f", [], none, [' '], [' '], 12, 30, fs "~A", true⟩
def gRowCfg : Dw.RowCfg := ⟨⟨some 8, 2⟩, [], 10, [' '], [' ']⟩
open Fr in
def gHdr : Str := fs "~A     DEPT         Gr"
open Fr in
def gBody : List Str := [fs "       1.00", fs "0.12", fs "       2.00", fs "-999.25"]

theorem gCompConf (kind : SecName) : Wr.TextConf kind gComp := (by decide +kernel : Cy.TextOK gComp).conf kind

open Fr in
theorem gFileConf (v : String) (b : Bool) (hvers : Wr.VersOK fOpts.hdr v (RH.versionCopy v (some b) gLas))
    (hdlm : ∀ it ∈ RH.versionCopy v (some b) gLas, upper it.orig ≠ "DLM".toList) :
    Cy.FileConf fOpts.hdr v (some b) gLas :=
  Fd.fileConf_of_check _ _ _ _ (by decide +kernel) hvers hdlm

open Fr in
theorem gWritten : Rt.Written gCfg fNull [fs "DEPT", fs "Gr"] fRows gRowCfg 2 gHdr gBody :=
  ⟨by rfl, ⟨by decide, by decide, by decide, ⟨by decide, by decide⟩⟩, Rt.quietTok_of_check _ (by decide +kernel),
    by decide +kernel, by decide, by decide, by decide⟩

open Fr in
/-- configuration A: version 2.0, `wrap=False`, header width 20, `%.2f` -/
theorem gFileA (hl : List Str) (las' : Wr.WLas) (hH : Wr.headerLines "2.0" (some false) 20 gLas = .ok (hl, las')) :
    FileWritten fOpts gLas fNull fRows 2 "2.0" (some false) 20 fCfg [fs "DEPT", fs "GR"] fRowCfg hl fHdr fBody :=
  ⟨⟨las', hH⟩,
   gFileConf "2.0" false ⟨Wr.mkWItem (fs "VERS") [] (.num (fs "2.0") false) (fs "CWLS log ASCII Standard -VERSION 2.0"),
     by decide +kernel, by decide⟩ (by decide +kernel),
   fWritten, ⟨'A', fs "SCII", rfl, by decide⟩,
   fit_of_wrap fOpts.hdr "2.0" false gLas fCfg ⟨Wr.wrapItem false, by decide +kernel⟩ rfl⟩

open Fr in
/-- configuration B: version 1.2, `wrap=True`, header width 30, `%8.2f`, data width 12, `~A` with the mnemonics -/
theorem gFileB (hl : List Str) (las' : Wr.WLas) (hH : Wr.headerLines "1.2" (some true) 30 gLas = .ok (hl, las')) :
    FileWritten fOpts gLas fNull fRows 2 "1.2" (some true) 30 gCfg [fs "DEPT", fs "Gr"] gRowCfg hl gHdr gBody :=
  ⟨⟨las', hH⟩,
   gFileConf "1.2" true ⟨Wr.mkWItem (fs "VERS") [] (.num (fs "1.2") false) (fs "CWLS LOG ASCII STANDARD - VERSION 1.2"),
     by decide +kernel, by decide⟩ (by decide +kernel),
   gWritten, ⟨'A', [], rfl, by decide⟩,
   fit_of_wrap fOpts.hdr "1.2" true gLas gCfg ⟨Wr.wrapItem true, by decide +kernel⟩ rfl⟩

theorem gSamePrec : Rt.SamePrec Fr.fRowCfg gRowCfg 2 := fun _ _ => rfl

theorem gSane : SessionsSane Fr.fOpts.hdr gLas := by
  intro y hy _
  have : y = Fr.fVers ∨ y = Wr.wrapItem true := by simpa [gLas] using hy
  rcases this with rfl | rfl <;> decide

open Fr in
/-- **the two texts differ on disk, the two reads agree**: the same curves (DEPT 1.0, 2.0; GR 0.12, NaN), the same ~Well, ~Curves,
~Parameter, ~Other entries (COMP reads `ACME` / `company` from `COMP.  company : ACME` as from `COMP.     ACME : company`), the ~Version
items differ in VERS and WRAP only (nothing else is there) -/
example (hlA hlB : List Str) (lasA lasB : Wr.WLas)
    (hHA : Wr.headerLines "2.0" (some false) 20 gLas = .ok (hlA, lasA))
    (hHB : Wr.headerLines "1.2" (some true) 30 gLas = .ok (hlB, lasB)) :
    ∃ pA pB, Tf.readModel fOpts fNullOf fFt (fileDoc hlA fHdr fBody) = .ok pA ∧
      Tf.readModel fOpts fNullOf fFt (fileDoc hlB gHdr gBody) = .ok pB ∧
      pA.data = pB.data ∧ pA.sections.tail = pB.sections.tail ∧
      pA.data = [.ok [(.declared 0, .floats [fH1, fH2]), (.declared 1, .floats [fH012, Dt.nanTxt])]] ∧
      Cy.secItems Rd.kWell pA.sections =
        [⟨fs "STRT", fs "M", fs "1.00000", fs "start"⟩, ⟨fs "STOP", fs "M", fs "2.00000", fs "stop"⟩,
         ⟨fs "STEP", fs "M", fs "1.00000", fs "step"⟩, ⟨fs "NULL", [], fs "-999.25", fs "null value"⟩,
         ⟨fs "COMP", [], fs "ACME", fs "company"⟩] ∧
      Cy.secItems Rd.kVersion pA.sections =
        [⟨fs "VERS", [], fs "2.0", fs "CWLS log ASCII Standard -VERSION 2.0"⟩, ⟨fs "WRAP", [], fs "NO", fs "One line per depth step"⟩] ∧
      Cy.secItems Rd.kVersion pB.sections =
        [⟨fs "VERS", [], fs "1.2", fs "CWLS LOG ASCII STANDARD - VERSION 1.2"⟩,
         ⟨fs "WRAP", [], fs "YES", fs "Multiple lines per depth step"⟩] := by
  refine ⟨_, _, file_readModel fOpts fNullOf fFt (gFileA hlA lasA hHA) (by decide) rfl,
    file_readModel fOpts fNullOf fFt (gFileB hlB lasB hHB) (by decide) rfl, ?_⟩
  decide +kernel

open Fr in
def gDocA : Tf.Doc :=
  match Wr.headerLines "2.0" (some false) 20 gLas with
  | .ok (hl, _) => fileDoc hl fHdr fBody
  | .error _ => []
open Fr in
def gDocB : Tf.Doc :=
  match Wr.headerLines "1.2" (some true) 30 gLas with
  | .ok (hl, _) => fileDoc hl gHdr gBody
  | .error _ => []

open Fr in
/-- the same by running the models on the two concrete documents (no theorem involved); the COMP line as it stands in each -/
example :
    ((Tf.readModel fOpts fNullOf fFt gDocA).toOption.map fun p => p.data.map (·.toOption)) =
      ((Tf.readModel fOpts fNullOf fFt gDocB).toOption.map fun p => p.data.map (·.toOption)) ∧
    ((Tf.readModel fOpts fNullOf fFt gDocA).toOption.map fun p => p.data.map (·.toOption)) =
      some [some [(.declared 0, .floats [fH1, fH2]), (.declared 1, .floats [fH012, Dt.nanTxt])]] ∧
    ((Tf.readModel fOpts fNullOf fFt gDocA).toOption.map fun p => p.sections.tail) =
      ((Tf.readModel fOpts fNullOf fFt gDocB).toOption.map fun p => p.sections.tail) ∧
    gDocA[8]? = some (fs "COMP.     ACME : company\n") ∧ gDocB[8]? = some (fs "COMP.  company : ACME\n") ∧
    gDocA.length = 18 ∧ gDocB.length = 20 := by
  have h : ((Tf.readModel fOpts fNullOf fFt gDocA).toOption.map fun p => p.data.map (·.toOption)) =
      ((Tf.readModel fOpts fNullOf fFt gDocB).toOption.map fun p => p.data.map (·.toOption)) ∧
    ((Tf.readModel fOpts fNullOf fFt gDocA).toOption.map fun p => p.data.map (·.toOption)) =
      some [some [(.declared 0, .floats [fH1, fH2]), (.declared 1, .floats [fH012, Dt.nanTxt])]] ∧
    ((Tf.readModel fOpts fNullOf fFt gDocA).toOption.map fun p => p.sections.tail) =
      ((Tf.readModel fOpts fNullOf fFt gDocB).toOption.map fun p => p.sections.tail) := by decide +kernel
  refine ⟨h.1, h.2.1, h.2.2, ?_⟩
  decide +kernel

end Lasio.Fc

#print axioms Lasio.Fc.C12_file
#print axioms Lasio.Fc.C12_file_parsed
#print axioms Lasio.Fc.C12_file_version_swap
#print axioms Lasio.Fc.C12_file_wrap_swap
#print axioms Lasio.Fc.C12_file_layout
#print axioms Lasio.Fc.C12_file_counterexample_session_mnemonic
#print axioms Lasio.Fc.C12_file_counterexample_precision
#print axioms Lasio.Fc.gFileA
#print axioms Lasio.Fc.gFileB
