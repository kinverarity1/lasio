import LasioProofs.Lemmas.JunkLemmas
import LasioProofs.Lemmas.Eval
/-
C19, WHOLE-FILE FORM — with `ignore_header_errors=True` a junk line inside a header-items section cannot make `read()`
raise a header error, never changes the genuine items of any section, never drops or reorders them, never changes the
steering values (version, WRAP, NULL, delimiter) and never alters the curve data.

Model: `Lasio.Tf.readFull o nullOf ft lines` (LasioModel/Transform.lean) = `Rd.readLines` (find_sections_in_file, the section
loop of `LASFile.read`, `finishRead`) followed by `Dt.readData` on every data window.  A document is the list of its physical
lines.  The section-level facts are in LasioProofs/Props/C19.lean (`C19_total`, `C19_local`, `C19_steer`); the helpers of
this file are in LasioProofs/Lemmas/JunkLemmas.lean.

The document is split as `l₁ ++ l₂`; the junk line `j` goes between the two parts.
  `ctxEnd .pre l₁ = .sec t`   the nearest title line before the split point is `t` (the split point lies in the section `t`)
  `tailBody l₁`, `headBody l₂` the lines of that section before / after the split point
  `JRel k old new s s'`        `s` and `s'` have, entry by entry, the same keys in the same order and the same values, except
                               that an entry under the key `k` may hold `old` in `s` and `new` in `s'`
  `shiftData n`                the record of a data section whose window starts at or after line `n` moved down by one line
-/
namespace Lasio.Tf
open Lasio Lasio.Dt

/-- WHOLE FILE. Let the document `l₁ ++ l₂` be readable with `ignore_header_errors=True` (`hi`, `hr`), and let `j` be a line
that is not a title line (`hj`) inserted at a split point that lies in the body of a header-items section: the nearest title
line before it is `t` (`hctx`) and `t` opens a "Header items" section (`hk`: not ~Other, not a data section).  Assume
  `hcur`  the section is not one `read` stores under "Curves" (`~C…`/`~Log_Definition`, where a parsable line legitimately
          declares a curve) — or `j` parses to nothing under the section's parser, whatever the provisional version;
  `hst`   what `j` parses to under the section's parser is nothing, or an item whose upper-cased mnemonic is none of
          VERS, WRAP, DLM, NULL;
  `htf`   the float table rejects tokens that start with `~` (as Python's `float()` does): `genfromtxt` stops at a title.
Then the document with `j` is readable and
  (a) the steering values are the same;
  (b) every data section has the same result (same engine, same curves); its window is moved down by one line when it
      stands behind `j` — so the parsed data are the same;
  (c) the sections are `JRel`-related: same keys, same order, same values, except that the value stored for the section `t`
      (under the key `k`, by the parser `p` of `t` for the provisional version `ver` in force there) is the old item list
      `items (tailBody l₁) ++ items (headBody l₂)` in the one and the old list with what `j` alone parses to (`lineItem`:
      nothing or one item) inserted at its place in the other;
  (c') and when no later section is stored under the same key (`secKey`), these two values are what `sections[k]` holds. -/
theorem C19_file (o : Opts) (nullOf : Option Str → Option Str) (ft : FloatTable) (htf : TildeNotFloat ft)
    (l₁ l₂ : List Str) (t j : Str)
    (hctx : ctxEnd .pre l₁ = .sec t) (hk : kindOf t = .items) (hj : Rd.isTitle j = false)
    (hi : o.hdr.ignoreHeaderErrors = true)
    (hcur : Rd.curvesTitle t = false ∨ ∀ ver p, Rd.mkParser (Rd.lineStrip t) ver = .ok p → Rd.lineItem o.hdr p j = none)
    (hst : ∀ ver p x, Rd.mkParser (Rd.lineStrip t) ver = .ok p → Rd.lineItem o.hdr p j = some x → upper x.orig ∉ Rd.steerKeys)
    (r : FullRead) (hr : readFull o nullOf ft (l₁ ++ l₂) = .ok r) :
    ∃ r' ver p k, readFull o nullOf ft (l₁ ++ j :: l₂) = .ok r' ∧
      r'.steer = r.steer ∧
      r'.data = r.data.map (shiftData l₁.length) ∧ r'.parsed.data = r.parsed.data ∧
      Rd.mkParser (Rd.lineStrip t) ver = .ok p ∧
      JRel k (.items (Rd.bodyItems o.hdr p (tailBody l₁) ++ Rd.bodyItems o.hdr p (headBody l₂)))
             (.items (Rd.bodyItems o.hdr p (tailBody l₁) ++ (Rd.lineItem o.hdr p j).toList ++ Rd.bodyItems o.hdr p (headBody l₂)))
             r.sections r'.sections ∧
      ((∀ tb ∈ (parse l₂).2, ∀ ver ver' k', Rd.secKey ver (t, ([] : List Str)) = some k' → Rd.secKey ver' tb ≠ some k') →
        r.sections.lookup k = some (.items (Rd.bodyItems o.hdr p (tailBody l₁) ++ Rd.bodyItems o.hdr p (headBody l₂))) ∧
        r'.sections.lookup k = some (.items (Rd.bodyItems o.hdr p (tailBody l₁) ++ (Rd.lineItem o.hdr p j).toList ++
          Rd.bodyItems o.hdr p (headBody l₂)))) := by
  obtain ⟨pre, A, hpre, hw, hlen, e1, e2⟩ := split_doc l₁ l₂ t j hctx
  rw [e1] at hr
  obtain ⟨r', ver, p, k, h1, h2, h3, h4, _, h5, h6⟩ :=
    readFull_insert o nullOf ft htf pre A _ t _ _ j hpre hw hj
      ⟨hk, .inl hi, hcur, fun ver p x hp hx a b s => Rd.C19_steer o.hdr _ a b x s (hst ver p x hp hx)⟩ r hr
  rw [← e2] at h1
  rw [← hlen] at h3
  refine ⟨r', ver, p, k, h1, h2, h3, ?_, h4, h5, h6⟩
  simp only [FullRead.parsed]
  rw [h3]
  exact shiftData_res (fun x => x.map Prod.snd) _ _

/-- (c) in terms of keys and look-ups: the two section maps have the same keys in the same order; every key other than `k`
has the same value; the key `k` has the same value, or the old and the new one. -/
theorem C19_file_sections (k : Rd.RKey) (old new : Rd.SecVal) (s s' : List (Rd.RKey × Rd.SecVal)) (h : JRel k old new s s') :
    s'.map Prod.fst = s.map Prod.fst ∧
    (∀ k2, k2 ≠ k → s'.lookup k2 = s.lookup k2) ∧
    (s'.lookup k = s.lookup k ∨ (s.lookup k = some old ∧ s'.lookup k = some new)) := by
  refine ⟨jrel_keys k old new s s' h, fun k2 hne => jrel_lookup_other k old new s s' h k2 hne, ?_⟩
  rcases jrel_lookup k old new s s' h k with h | ⟨_, h1, h2⟩
  · exact Or.inl h
  · exact Or.inr ⟨h1, h2⟩

/-- the inserted line contributes at most one item, between the items of the lines before and those of the lines after it
(`C19_local` read at file level: the genuine items keep their fields and their order) -/
theorem C19_file_item_list (o : Rd.ReadOpts) (p : Rd.Parser) (b₁ b₂ : List Str) (j : Str) :
    Rd.bodyItems o p (b₁ ++ j :: b₂) = Rd.bodyItems o p b₁ ++ (Rd.lineItem o p j).toList ++ Rd.bodyItems o p b₂ ∧
    Rd.bodyItems o p (b₁ ++ b₂) = Rd.bodyItems o p b₁ ++ Rd.bodyItems o p b₂ ∧ (Rd.lineItem o p j).toList.length ≤ 1 :=
  ⟨bodyItems_insert o p b₁ b₂ j, Rd.bodyItems_append o p b₁ b₂, Rd.C19_junk_at_most_one o p j⟩

/-- A LINE NO HEADER PARSER CAN READ (`read_header_line` fails whatever the section name — e.g. a line without period and
colon), in any header-items section, ~Curves included: the document with the line reads to exactly the same sections and
steering values, and the same data on windows moved down by one. -/
theorem C19_file_unparsable (o : Opts) (nullOf : Option Str → Option Str) (ft : FloatTable) (htf : TildeNotFloat ft)
    (l₁ l₂ : List Str) (t j : Str)
    (hctx : ctxEnd .pre l₁ = .sec t) (hk : kindOf t = .items) (hj : Rd.isTitle j = false)
    (hi : o.hdr.ignoreHeaderErrors = true) (hu : Rd.unparsableLine j = true)
    (r : FullRead) (hr : readFull o nullOf ft (l₁ ++ l₂) = .ok r) :
    readFull o nullOf ft (l₁ ++ j :: l₂) = .ok ⟨r.sections, r.steer, r.data.map (shiftData l₁.length)⟩ := by
  obtain ⟨r', ver, p, k, h1, h2, h3, _, _, h5, _⟩ := C19_file o nullOf ft htf l₁ l₂ t j hctx hk hj hi
    (Or.inr fun _ p _ => Rd.unparsableLine_spec o.hdr p j hu)
    (fun _ p x _ hx => by rw [Rd.unparsableLine_spec o.hdr p j hu] at hx; cases hx) r hr
  rw [Rd.unparsableLine_spec o.hdr p j hu] at h5
  simp only [Option.toList_none, List.append_nil] at h5
  have h6 := jrel_same k _ _ _ h5
  rw [h1]
  obtain ⟨s, st, d⟩ := r'
  simp only at h2 h3 h6
  rw [h2, h3, h6]

/-- in terms of the parsed result (`readModel`: header items of every section, ~Other text, curves of every data section) -/
theorem C19_file_readModel (o : Opts) (nullOf : Option Str → Option Str) (ft : FloatTable) (htf : TildeNotFloat ft)
    (l₁ l₂ : List Str) (t j : Str)
    (hctx : ctxEnd .pre l₁ = .sec t) (hk : kindOf t = .items) (hj : Rd.isTitle j = false)
    (hi : o.hdr.ignoreHeaderErrors = true)
    (hcur : Rd.curvesTitle t = false ∨ ∀ ver p, Rd.mkParser (Rd.lineStrip t) ver = .ok p → Rd.lineItem o.hdr p j = none)
    (hst : ∀ ver p x, Rd.mkParser (Rd.lineStrip t) ver = .ok p → Rd.lineItem o.hdr p j = some x → upper x.orig ∉ Rd.steerKeys)
    (m : Parsed) (hm : readModel o nullOf ft (l₁ ++ l₂) = .ok m) :
    ∃ m' ver p k, readModel o nullOf ft (l₁ ++ j :: l₂) = .ok m' ∧ m'.data = m.data ∧
      Rd.mkParser (Rd.lineStrip t) ver = .ok p ∧
      JRel k (.items (Rd.bodyItems o.hdr p (tailBody l₁) ++ Rd.bodyItems o.hdr p (headBody l₂)))
             (.items (Rd.bodyItems o.hdr p (tailBody l₁) ++ (Rd.lineItem o.hdr p j).toList ++ Rd.bodyItems o.hdr p (headBody l₂)))
             m.sections m'.sections := by
  unfold readModel at hm ⊢
  cases hr : readFull o nullOf ft (l₁ ++ l₂) with
  | error e => rw [hr] at hm; cases hm
  | ok r =>
    rw [hr] at hm
    simp only [Except.map, Except.ok.injEq] at hm
    subst hm
    obtain ⟨r', ver, p, k, h1, _, _, h3, h4, h5, _⟩ := C19_file o nullOf ft htf l₁ l₂ t j hctx hk hj hi hcur hst r hr
    exact ⟨r'.parsed, ver, p, k, by rw [h1]; rfl, h3, h4, h5⟩

/-- TOTALITY AT FILE LEVEL. With `ignore_header_errors=True` `read()` of ANY list of lines never fails with a header error
(`LASHeaderError`): if it fails at all, then because there is no section, by the `KeyError` of an unknown version or
delimiter, the `IndexError` of the title "~", the `AttributeError` of plain items under "Curves" — or in a case the model
leaves undecided (`unmodelled`: a version text it cannot classify). -/
theorem C19_file_total (o : Opts) (nullOf : Option Str → Option Str) (ft : FloatTable) (lines : List Str) (e : Rd.RErr)
    (hi : o.hdr.ignoreHeaderErrors = true) (h : readFull o nullOf ft lines = .error e) :
    (∀ n, e ≠ .headerError n) ∧
      (e = .noSections ∨ e = .keyError ∨ e = .unmodelled ∨ e = .indexError ∨ e = .attributeError) := by
  have he : e = .noSections ∨ e = .keyError ∨ e = .unmodelled ∨ e = .indexError ∨ e = .attributeError := by
    unfold readFull at h
    cases hh : Rd.readLines o.hdr lines with
    | error e' =>
      rw [hh] at h
      cases h
      exact Rd.readLines_error o.hdr lines e hi hh
    | ok hd => rw [hh] at h; cases h
  refine ⟨?_, he⟩
  intro n hn
  subst hn
  rcases he with h | h | h | h | h <;> cases h

/-- … in particular the document with the junk line cannot fail with a header error — whatever `j` is and wherever it is
inserted (no hypothesis on `j` at all) -/
theorem C19_file_total_insert (o : Opts) (nullOf : Option Str → Option Str) (ft : FloatTable) (l₁ l₂ : List Str) (j : Str)
    (hi : o.hdr.ignoreHeaderErrors = true) (n : Nat) : readFull o nullOf ft (l₁ ++ j :: l₂) ≠ .error (.headerError n) :=
  fun h => (C19_file_total o nullOf ft _ _ hi h).1 n rfl

/-! ## a concrete file -/

def c19s (s : String) : Str := s.toList

/-- the example file up to the place of the junk line: `~V`, and `~W` with its first item -/
def exL₁ : List Str := [c19s "~V\n", c19s "VERS. 2.0 : v\n", c19s "WRAP. NO : w\n", c19s "~W\n", c19s "STRT.M 1 : s\n"]
/-- the example file behind the place of the junk line: the rest of `~W`, then `~C` and `~A` -/
def exL₂ : List Str := [c19s "STOP.M 2 : e\n", c19s "~C\n", c19s "A.M : a\n", c19s "B.M : b\n", c19s "~A\n", c19s "1 5\n", c19s "2 6\n"]

def exO : Opts := ⟨⟨true, .upper⟩, ⟨.normal, .strict⟩⟩
def exFt : FloatTable := [(c19s "1", c19s "a1"), (c19s "2", c19s "a2"), (c19s "5", c19s "a5"), (c19s "6", c19s "a6")]
/-- the NULL value as a float, through the same table -/
def exNull (v : Option Str) : Option Str := v.bind (toFloat exFt)

def jBad : Str := c19s "no period here\n"
def jItem : Str := c19s "junk.x 5 : parsable junk\n"
def jNull : Str := c19s "NULL. 5 : x\n"

def getRead (x : Except Rd.RErr FullRead) : FullRead :=
  match x with
  | .ok r => r
  | .error _ => ⟨[], Rd.Steer.init, []⟩

def exBase : FullRead := getRead (readFull exO exNull exFt (exL₁ ++ exL₂))

/-- the cell of the second curve in the first row of the only data section -/
def cell10 (d : List (Except DErr (List (Slot × Column)))) : Option Str :=
  match d with
  | [.ok (_ :: (_, .floats (c :: _)) :: _)] => some c
  | _ => none

theorem exFt_tilde : TildeNotFloat exFt := tildeNotFloat_of_keys _ (by decide +kernel)

theorem getRead_ok {x : Except Rd.RErr FullRead} (h : x.isOk = true) : x = .ok (getRead x) :=
  Except.eq_ok_of_isOk h fun r hr => by rw [hr]; rfl

/-- the run on the base file, evaluated once -/
theorem exBase_facts :
    (readFull exO exNull exFt (exL₁ ++ exL₂)).isOk = true ∧
    exBase.sections.lookup Rd.kWell =
      some (.items [⟨c19s "STRT", c19s "M", c19s "1", c19s "s"⟩, ⟨c19s "STOP", c19s "M", c19s "2", c19s "e"⟩]) ∧
    cell10 exBase.parsed.data = some (c19s "a5") ∧
    exBase.data.map (fun x => (x.first, x.last)) = [(9, 11)] ∧
    declaredCount exBase.sections = 2 ∧
    (exBase.parsed.data.map fun x => x.toOption.map List.length) = [some 2] := by
  decide +kernel

theorem exBase_ok : readFull exO exNull exFt (exL₁ ++ exL₂) = .ok exBase := getRead_ok exBase_facts.1

/-- where the junk lines go: inside ~W, a header-items section that is not stored under "Curves" -/
theorem exCtx :
    ctxEnd .pre exL₁ = .sec (c19s "~W\n") ∧ kindOf (c19s "~W\n") = .items ∧ Rd.curvesTitle (c19s "~W\n") = false := by
  decide +kernel

/-- NON-VACUITY. The hypotheses of `C19_file` hold for the concrete file and the parsable junk line
`junk.x 5 : parsable junk` inserted in ~Well between STRT and STOP (so its conclusion holds), and the conclusion computes:
the file with the junk line reads to the same steering values, the same curves, the same keys; ~Well holds STRT, JUNK,
STOP in this order, the genuine items unchanged. -/
theorem C19_file_example :
    (∃ r' ver p k, readFull exO exNull exFt (exL₁ ++ jItem :: exL₂) = .ok r' ∧ r'.steer = exBase.steer ∧
      r'.data = exBase.data.map (shiftData exL₁.length) ∧ r'.parsed.data = exBase.parsed.data ∧
      Rd.mkParser (Rd.lineStrip (c19s "~W\n")) ver = .ok p ∧
      JRel k (.items (Rd.bodyItems exO.hdr p (tailBody exL₁) ++ Rd.bodyItems exO.hdr p (headBody exL₂)))
        (.items (Rd.bodyItems exO.hdr p (tailBody exL₁) ++ (Rd.lineItem exO.hdr p jItem).toList ++
          Rd.bodyItems exO.hdr p (headBody exL₂))) exBase.sections r'.sections) ∧
    exBase.sections.lookup Rd.kWell =
      some (.items [⟨c19s "STRT", c19s "M", c19s "1", c19s "s"⟩, ⟨c19s "STOP", c19s "M", c19s "2", c19s "e"⟩]) ∧
    (getRead (readFull exO exNull exFt (exL₁ ++ jItem :: exL₂))).sections.lookup Rd.kWell =
      some (.items [⟨c19s "STRT", c19s "M", c19s "1", c19s "s"⟩, ⟨c19s "JUNK", c19s "x", c19s "5", c19s "parsable junk"⟩,
        ⟨c19s "STOP", c19s "M", c19s "2", c19s "e"⟩]) ∧
    cell10 exBase.parsed.data = some (c19s "a5") ∧
    cell10 (getRead (readFull exO exNull exFt (exL₁ ++ jItem :: exL₂))).parsed.data = some (c19s "a5") ∧
    exBase.data.map (fun x => (x.first, x.last)) = [(9, 11)] ∧
    (getRead (readFull exO exNull exFt (exL₁ ++ jItem :: exL₂))).data.map (fun x => (x.first, x.last)) = [(10, 12)] := by
  have hj : let r := getRead (readFull exO exNull exFt (exL₁ ++ jItem :: exL₂))
      r.sections.lookup Rd.kWell =
        some (.items [⟨c19s "STRT", c19s "M", c19s "1", c19s "s"⟩, ⟨c19s "JUNK", c19s "x", c19s "5", c19s "parsable junk"⟩,
          ⟨c19s "STOP", c19s "M", c19s "2", c19s "e"⟩]) ∧
      cell10 r.parsed.data = some (c19s "a5") ∧ r.data.map (fun x => (x.first, x.last)) = [(10, 12)] := by
    decide +kernel
  refine ⟨?_, exBase_facts.2.1, hj.1, exBase_facts.2.2.1, hj.2.1, exBase_facts.2.2.2.1, hj.2.2⟩
  obtain ⟨r', ver, p, k, h1, h2, h3, h4, h5, h6, _⟩ :=
    C19_file exO exNull exFt exFt_tilde exL₁ exL₂ (c19s "~W\n") jItem exCtx.1 exCtx.2.1 (by decide +kernel) rfl
      (Or.inl exCtx.2.2)
      (fun _ p x _ hx => Rd.harmlessLine_spec exO.hdr p jItem x (by decide +kernel) hx) exBase exBase_ok
  exact ⟨r', ver, p, k, h1, h2, h3, h4, h5, h6⟩

/-- … and the side condition of (c') holds for it: neither ~C nor ~A, the sections behind ~W, is stored under the key of ~W -/
theorem C19_file_example_last :
    ∀ tb ∈ (parse exL₂).2, ∀ ver ver' k', Rd.secKey ver (c19s "~W\n", ([] : List Str)) = some k' → Rd.secKey ver' tb ≠ some k' := by
  intro tb htb ver ver' k' hk'
  have hW : Rd.secKey ver (c19s "~W\n", ([] : List Str)) = some Rd.kWell := by rfl
  rw [hW] at hk'
  cases hk'
  have hp : (parse exL₂).2 = [(c19s "~C\n", [c19s "A.M : a\n", c19s "B.M : b\n"]), (c19s "~A\n", [c19s "1 5\n", c19s "2 6\n"])] := by
    decide +kernel
  rw [hp] at htb
  simp only [List.mem_cons, List.not_mem_nil, or_false] at htb
  rcases htb with rfl | rfl
  · have : Rd.secKey ver' (c19s "~C\n", [c19s "A.M : a\n", c19s "B.M : b\n"]) = some Rd.kCurves := by rfl
    rw [this]
    decide +kernel
  · have : Rd.secKey ver' (c19s "~A\n", [c19s "1 5\n", c19s "2 6\n"]) = none := by rfl
    rw [this]
    exact fun h => by cases h

/-- the unparsable junk line `no period here`: the hypothesis of `C19_file_unparsable` holds, the whole header is the same -/
theorem C19_file_example_unparsable :
    readFull exO exNull exFt (exL₁ ++ jBad :: exL₂) = .ok ⟨exBase.sections, exBase.steer, exBase.data.map (shiftData 5)⟩ :=
  C19_file_unparsable exO exNull exFt exFt_tilde exL₁ exL₂ (c19s "~W\n") jBad exCtx.1 exCtx.2.1 (by decide +kernel) rfl
    (by decide +kernel) exBase exBase_ok

/-- THE STEERING HYPOTHESIS IS NEEDED AT FILE LEVEL. `NULL. 5 : x` inserted in ~Well satisfies every other hypothesis of
`C19_file` (not a title line, inside a header-items section that is not ~Curves, the flag set, the base file readable) and
the file is still readable — but the curves change: the cell `5` of curve B (float `a5`) becomes NaN. -/
theorem C19_file_needs_steer :
    ctxEnd .pre exL₁ = .sec (c19s "~W\n") ∧ kindOf (c19s "~W\n") = .items ∧ Rd.isTitle jNull = false ∧
    exO.hdr.ignoreHeaderErrors = true ∧ Rd.curvesTitle (c19s "~W\n") = false ∧
    Rd.harmlessLine exO.hdr.mnemonicCase jNull = false ∧
    cell10 exBase.parsed.data = some (c19s "a5") ∧
    (∃ r', readFull exO exNull exFt (exL₁ ++ jNull :: exL₂) = .ok r' ∧ cell10 r'.parsed.data = some nanTxt ∧
      r'.parsed.data ≠ exBase.parsed.data ∧ r'.steer ≠ exBase.steer) := by
  have hj : let x := readFull exO exNull exFt (exL₁ ++ jNull :: exL₂)
      x.isOk = true ∧ cell10 (getRead x).parsed.data = some nanTxt ∧ (getRead x).steer ≠ exBase.steer := by
    decide +kernel
  refine ⟨exCtx.1, exCtx.2.1, by decide +kernel, rfl, exCtx.2.2, by decide +kernel, exBase_facts.2.2.1,
    _, getRead_ok hj.1, hj.2.1, fun h => ?_, hj.2.2⟩
  have h2 := congrArg cell10 h
  rw [hj.2.1, exBase_facts.2.2.1] at h2
  exact absurd h2 (by decide +kernel)

/-- THE ~CURVES EXCLUSION IS NEEDED. The same parsable junk line inserted in ~Curves (after `A.M : a`) is harmless for the
steering values, but it declares a curve: three declared curves instead of two, and the data gain an all-NaN curve. -/
theorem C19_file_needs_not_curves :
    Rd.curvesTitle (c19s "~C\n") = true ∧ Rd.harmlessLine exO.hdr.mnemonicCase jItem = true ∧
    declaredCount exBase.sections = 2 ∧
    (∃ r', readFull exO exNull exFt ((exL₁ ++ exL₂.take 3) ++ jItem :: exL₂.drop 3) = .ok r' ∧
      declaredCount r'.sections = 3 ∧ (r'.parsed.data.map fun x => x.toOption.map List.length) = [some 3] ∧
      (exBase.parsed.data.map fun x => x.toOption.map List.length) = [some 2]) := by
  have hj : let x := readFull exO exNull exFt ((exL₁ ++ exL₂.take 3) ++ jItem :: exL₂.drop 3)
      x.isOk = true ∧ declaredCount (getRead x).sections = 3 ∧
        ((getRead x).parsed.data.map fun x => x.toOption.map List.length) = [some 3] := by
    decide +kernel
  exact ⟨by decide +kernel, by decide +kernel, exBase_facts.2.2.2.2.1, _, getRead_ok hj.1, hj.2.1, hj.2.2,
    exBase_facts.2.2.2.2.2⟩

end Lasio.Tf

#print axioms Lasio.Tf.C19_file
#print axioms Lasio.Tf.C19_file_sections
#print axioms Lasio.Tf.C19_file_item_list
#print axioms Lasio.Tf.C19_file_unparsable
#print axioms Lasio.Tf.C19_file_readModel
#print axioms Lasio.Tf.C19_file_total
#print axioms Lasio.Tf.C19_file_total_insert
#print axioms Lasio.Tf.C19_file_example
#print axioms Lasio.Tf.C19_file_example_last
#print axioms Lasio.Tf.C19_file_example_unparsable
#print axioms Lasio.Tf.C19_file_needs_steer
#print axioms Lasio.Tf.C19_file_needs_not_curves
