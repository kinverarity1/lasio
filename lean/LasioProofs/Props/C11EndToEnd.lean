import LasioProofs.Lemmas.ReadObjFullLemmas
/-
C11 END TO END — write, read the WHOLE file back into an object, write again.

`Cr.C11_cycle_fixed_point(_typed)` starts from an object `o1` whose header is assumed to be the re-read of the previous output and about whose
`data` / `index_initial` nothing is known.  Here `o1` is DERIVED: it is what `Ro.readObjFullLines` (LasioModel/ReadObjFull.lean: typed header +
`Dt.readData` on the data window + `index_initial = column 0`) returns for the text of ONE successful `Wo.writeObj`, given by its steps as in
`C01_file_writeObj`.  `C11_cycle_end_to_end_partial`: the read succeeds, the data are the re-read matrix `Cd.reRows`, and the second write has the
DATA lines of the first and header lines that READ BACK like the first ones (that they are the same text is Props/C11FixedText.lean).

ASSUMED: unwrapped (wrapped: Props/C11EndToEndWrap.lean), `mnemonics_header = False`, strict NULL policy, a numeric NULL value, no NaN in the index
column, every column a float column, as many ~Curves items as columns; the runtime services `env` (`float()`: `ReadOK`, `StrtodClose`,
`NoNullClash`; `str()`: `SpeltConf`; `nullOf`); and, about the DETERMINED object read back, `LinkOK` (C11Typed), no refresh (`hd`; by
`C11_end_to_end_refresh` a comparison of two of its numbers), aligned units, the NULL text: the examples discharge these by evaluation, they are
not derived from hypotheses on `o`.  The document is the list of lines `Fr.fileDoc …`, not a text split by `Rd.splitLines`.
-/
namespace Lasio.Ro
open Lasio Lasio.Wo

theorem dataLines_mnemonics (cfg : Dw.DataCfg) (null : Str) (mn mn' : List Str) (rows : List (List F64))
    (h : cfg.mnemonicsHeader = false) : Dw.dataLines cfg null mn rows = Dw.dataLines cfg null mn' rows := by
  unfold Dw.dataLines Dw.dataHeaderLine
  simp [h]

theorem oItems_length (py : PyFloat) (tr : Bool) (k : Rd.PKind) (l : List Rd.RItem) : (oItems py tr k l).length = l.length := by
  simp [oItems, List.length_zipWith, Cy.sessionNames_length]

theorem sameLengths_of (cols : List (List F64)) (r : Nat) (h : ∀ c ∈ cols, c.length = r) : sameLengths cols = true := by
  cases cols with
  | nil => rfl
  | cons c cs =>
    simp only [sameLengths, List.all_eq_true, beq_iff_eq]
    intro d hd
    rw [h d (by simp [hd]), h c (by simp)]

theorem secItems_firstRead_curves (o : Rd.ReadOpts) (v : String) (wrap : Option Bool) (las : Wr.WLas) :
    secItems Rd.kCurves (Cy.firstRead o v wrap las) = las.curves.map (Wr.rdExpected o) := by
  rfl

/-- what the end-to-end theorems say of the first write `o ↦ hl.1 ++ hdr :: body`, of the whole-file read of that text and of the second write -/
def EndToEnd (env : Env) (opts : Tf.Opts) (wcfg : WriteCfg) (v : String) (sd : Option F64) (o o2 : WObj) (hl : List Str × Wr.WLas)
    (null hdr : Str) (body : List Str) (c : Dw.RowCfg) (nv : Str) : Prop :=
    writeObj wcfg sd o = .ok (hl.1 ++ hdr :: body, afterHeader wcfg o2) ∧
    ∃ th o2r,
      readObjLines opts.hdr (Fr.fileDoc hl.1 hdr body) = .ok th ∧
      readObjFullLines env opts (Fr.fileDoc hl.1 hdr body) = .ok o2r ∧
      th.raw.sections = Cy.firstRead opts.hdr v wcfg.wrap (toWLas o2) ∧
      o2r = withData (headerObj env.py opts.hdr th) o2r.data o2r.indexInitial ∧
      rowsOf o2r.data = Cd.reRows env.ft env.val null nv c (rowsOf (afterHeader wcfg o2).data) ∧
      o2r.data.length = o2r.curves.length ∧ sameLengths o2r.data = true ∧
      o2r.indexInitial = o2r.index ∧ o2r.index = o2r.data.head? ∧
      (LinkOK env.py th → ∀ (sd' : Option F64) (u : Str) (a' b' c' : Nat),
        refreshDecision o2r = .ok false → Cr.UnitsAligned o2r u a' b' c' →
        nullText (afterHeader wcfg o2r) = .ok null →
        ∃ lines2 las2', Wr.headerLines v wcfg.wrap wcfg.headerWidth (toWLas o2r) = .ok (lines2, las2') ∧
          writeObj wcfg sd' o2r = .ok (lines2 ++ hdr :: body, afterHeader wcfg o2r) ∧
          Rd.readLines opts.hdr hl.1 =
            .ok ⟨Cy.firstRead opts.hdr v wcfg.wrap (toWLas o2), Fd.fileSteerD opts.hdr v wcfg.wrap (toWLas o2), []⟩ ∧
          Rd.readLines opts.hdr lines2 =
            .ok ⟨Cy.firstRead opts.hdr v wcfg.wrap (toWLas o2), Fd.fileSteerD opts.hdr v wcfg.wrap (toWLas o2), []⟩ ∧
          (afterHeader wcfg o2r).data = o2r.data ∧ (afterHeader wcfg o2r).indexInitial = o2r.indexInitial)

/-- the part the unwrapped and the wrapped theorem share: `wrap` matters only for how `Tf.readFull` gets at the columns (`hfull`, `hres`:
one data window, whose columns are what the strict reader makes of the written tokens) -/
theorem end_to_end_core (env : Env) (opts : Tf.Opts) (wcfg : WriteCfg) (v : String)
    (hv : wcfg.version = some v) {w : Bool} (hwr : wcfg.wrap = some w) (hmh : wcfg.mnemonicsHeader = false)
    {sd : Option F64} {o o2 : WObj} {hl : List Str × Wr.WLas} {null : Str} {hdr : Str} {body : List Str}
    (hw : writeObj wcfg sd o = .ok (hl.1 ++ hdr :: body, afterHeader wcfg o2))
    (h4 : Wr.headerLines v wcfg.wrap wcfg.headerWidth (toWLas o2) = .ok hl)
    (hc : Fd.FileConfD opts.hdr v wcfg.wrap (toWLas o2)) (hx : Cy.CycleConf opts.hdr v wcfg.wrap (toWLas o2))
    {c : Dw.RowCfg} {n : Nat}
    (wd : Rt.Written (dataCfg wcfg) null ((afterHeader wcfg o2).curves.map (·.session)) (rowsOf (afterHeader wcfg o2).data) c n hdr body)
    (hcur : (toWLas o2).curves.length = n)
    (hsp : Cy.SpeltConf (rvNum env.py) v wcfg.wrap (toWLas o2)) {nv : Str}
    (hrd : Cd.ReadOK env.ft env.val null nv) (hst : Cd.StrtodClose env.ft env.val c (rowsOf (afterHeader wcfg o2).data))
    (hcl : Rt.NoNullClash env.ft nv c (rowsOf (afterHeader wcfg o2).data))
    (hfree : Cd.IndexNaNFree (rowsOf (afterHeader wcfg o2).data))
    {St : Rd.Steer} {a e : Nat} {res : Except Dt.DErr (Dt.Engine × List (Dt.Slot × Dt.Column))}
    (hfull : Tf.readFull opts env.nullOf env.ft (Fr.fileDoc hl.1 hdr body) =
      .ok ⟨Cy.firstRead opts.hdr v wcfg.wrap (toWLas o2), St, [⟨a, e, res⟩]⟩)
    (hres : res.map Prod.snd = .ok (Dt.assignCurves n (Dt.applyNull true (some nv)
      (Dt.matrixColumns env.ft n (Rt.tokenRows c null (rowsOf (afterHeader wcfg o2).data)))))) :
    EndToEnd env opts wcfg v sd o o2 hl null hdr body c nv := by
  refine ⟨hw, ?_⟩
  obtain ⟨hnumc, hDlen, hDcol, hDrows⟩ := dataOf_written env.ft env.val null nv c (rowsOf (afterHeader wcfg o2).data) n wd.npos wd.rect
    (Cd.numeric_of hrd hst)
  obtain ⟨th, hth, hsec, _, hobj⟩ := readObjFullLines_of_readFull env opts _ _ _ _ _ res _ hfull hres hnumc
  generalize hD : dataOf env.val (Dt.assignCurves n (Dt.applyNull true (some nv)
    (Dt.matrixColumns env.ft n (Rt.tokenRows c null (rowsOf (afterHeader wcfg o2).data))))) = D at hDlen hDcol hDrows hobj
  have hDcur : D.length = (objItems env.py opts.hdr th Rd.kCurves).length := by
    rw [hDlen, objItems, oItems_length, hsec, ← hcur, secItems_firstRead_curves]
    simp
  refine ⟨th, _, hth, hobj, hsec, rfl, hDrows, hDcur, sameLengths_of _ _ hDcol, rfl, rfl, ?_⟩
  intro hlink sd' u a' b' c' hd hu h5'
  have hW : toWLas (withData (headerObj env.py opts.hdr th) D D.head?) =
      Cy.lasOfRead (rvNum env.py) opts.hdr (Cy.firstRead opts.hdr v wcfg.wrap (toWLas o2)) := by
    rw [toWLas_withData, toWLas_headerObj env.py opts.hdr th hlink, hsec]
  obtain ⟨lines2, las2', hh, hw, r1, r2, _, e1, e2⟩ := Cr.C11_cycle_fixed_point opts.hdr (rvNum env.py) (rvNum_retype env.py) v wcfg hv
    wcfg.headerWidth (toWLas o2) hl.2 hl.1 h4 hc hx hsp _ hW sd' u a' b' c' hd hu
    (by
      show (D.length != (objItems env.py opts.hdr th Rd.kCurves).length || !sameLengths D) = false
      rw [hDcur, sameLengths_of _ _ hDcol]
      simp)
    _ (by unfold setWrap; rw [hwr]) null hdr body h5'
    (by
      -- the data are the re-read of the written matrix, which prints to the same lines; the curve mnemonics do not matter
      show Dw.dataLines (dataCfg wcfg) null _ (rowsOf D) = _
      rw [hDrows, Cd.dataLines_reRows (dataCfg wcfg) _ wd.rowCfg hrd hst hfree hcl,
        dataLines_mnemonics (dataCfg wcfg) null _ ((afterHeader wcfg o2).curves.map (·.session)) _ (by simp [dataCfg, hmh])]
      exact wd.lines)
  exact ⟨lines2, las2', hh, hw, r1, r2, e1, e2⟩

/-- **End to end (partial: unwrapped, no mnemonics header, strict NULL policy, numeric columns).** -/
theorem C11_cycle_end_to_end_partial (env : Env) (opts : Tf.Opts) (wcfg : WriteCfg) (v : String)
    (hv : wcfg.version = some v) (hwr : wcfg.wrap = some false) (hmh : wcfg.mnemonicsHeader = false)
    (hstrict : opts.dat.nullPolicy = .strict)
    -- the first write, by its steps
    {sd : Option F64} {o : WObj} {vsec : List OItem} {o2 : WObj} {hl : List Str × Wr.WLas} {null : Str} {hdr : Str} {body : List Str}
    (hs1 : (o.data.length != o.curves.length || !sameLengths o.data) = false)
    (h1 : setWrap wcfg o = .ok vsec) (h2 : resolveVersion wcfg o.versionTr vsec = .ok v) (h3 : prepare sd o = .ok o2)
    (h4 : Wr.headerLines v wcfg.wrap wcfg.headerWidth (toWLas o2) = .ok hl)
    (h5 : nullText (afterHeader wcfg o2) = .ok null)
    (h6 : Dw.dataLines (dataCfg wcfg) null ((afterHeader wcfg o2).curves.map (·.session)) (rowsOf (afterHeader wcfg o2).data)
      = some (hdr :: body))
    -- configuration well-formedness (C03 / C01 / C11)
    (hc : Fd.FileConfD opts.hdr v wcfg.wrap (toWLas o2)) (hx : Cy.CycleConf opts.hdr v wcfg.wrap (toWLas o2))
    {c : Dw.RowCfg} {n : Nat}
    (wd : Rt.Written (dataCfg wcfg) null ((afterHeader wcfg o2).curves.map (·.session)) (rowsOf (afterHeader wcfg o2).data) c n hdr body)
    (hn : null.head? ≠ some '~') (a : Char) (r : Str) (hdA : wcfg.dataSectionHeader = '~' :: a :: r) (ha : upperC a = 'A')
    (hcur : (toWLas o2).curves.length = n)
    (t : Str) (hwt : Fr.steerVal opts.hdr "WRAP" (RH.versionCopy v wcfg.wrap (toWLas o2)) = some t) (hne : t ≠ Dt.yesTxt)
    -- runtime services
    (hsp : Cy.SpeltConf (rvNum env.py) v wcfg.wrap (toWLas o2))
    (nv : Str) (hnull : env.nullOf (Fr.steerVal opts.hdr "NULL" (Wr.standardizeItems (toWLas o2).well)) = some nv)
    (hrd : Cd.ReadOK env.ft env.val null nv) (hst : Cd.StrtodClose env.ft env.val c (rowsOf (afterHeader wcfg o2).data))
    (hcl : Rt.NoNullClash env.ft nv c (rowsOf (afterHeader wcfg o2).data))
    (hfree : Cd.IndexNaNFree (rowsOf (afterHeader wcfg o2).data)) :
    writeObj wcfg sd o = .ok (hl.1 ++ hdr :: body, afterHeader wcfg o2) ∧
    ∃ th o2r,
      readObjLines opts.hdr (Fr.fileDoc hl.1 hdr body) = .ok th ∧
      readObjFullLines env opts (Fr.fileDoc hl.1 hdr body) = .ok o2r ∧
      th.raw.sections = Cy.firstRead opts.hdr v wcfg.wrap (toWLas o2) ∧
      o2r = withData (headerObj env.py opts.hdr th) o2r.data o2r.indexInitial ∧
      rowsOf o2r.data = Cd.reRows env.ft env.val null nv c (rowsOf (afterHeader wcfg o2).data) ∧
      o2r.data.length = o2r.curves.length ∧ sameLengths o2r.data = true ∧
      o2r.indexInitial = o2r.index ∧ o2r.index = o2r.data.head? ∧
      (LinkOK env.py th → ∀ (sd' : Option F64) (u : Str) (a' b' c' : Nat),
        refreshDecision o2r = .ok false → Cr.UnitsAligned o2r u a' b' c' →
        nullText (afterHeader wcfg o2r) = .ok null →
        ∃ lines2 las2', Wr.headerLines v wcfg.wrap wcfg.headerWidth (toWLas o2r) = .ok (lines2, las2') ∧
          writeObj wcfg sd' o2r = .ok (lines2 ++ hdr :: body, afterHeader wcfg o2r) ∧
          Rd.readLines opts.hdr hl.1 =
            .ok ⟨Cy.firstRead opts.hdr v wcfg.wrap (toWLas o2), Fd.fileSteerD opts.hdr v wcfg.wrap (toWLas o2), []⟩ ∧
          Rd.readLines opts.hdr lines2 =
            .ok ⟨Cy.firstRead opts.hdr v wcfg.wrap (toWLas o2), Fd.fileSteerD opts.hdr v wcfg.wrap (toWLas o2), []⟩ ∧
          (afterHeader wcfg o2r).data = o2r.data ∧ (afterHeader wcfg o2r).indexInitial = o2r.indexInitial) := by
  obtain ⟨res, hfull, hres⟩ := Fd.C01_file_dlm_unwrapped opts env.nullOf env.ft v wcfg.wrap wcfg.headerWidth (toWLas o2) hl.2 hl.1 h4 hc
    wd hn a r hdA ha (by simp [dataCfg, hwr]) t hwt hne
  have hst' : (opts.dat.nullPolicy == Dt.NullPolicy.strict) = true := by rw [hstrict]; rfl
  rw [hst', hnull, hcur] at hres
  exact end_to_end_core env opts wcfg v hv hwr hmh (writeObj_of_steps hs1 h1 h2 h3 h4 h5 h6) h4 hc hx wd hcur hsp hrd hst hcl hfree hfull hres

/-- **The refresh decision of the object read back** is a comparison of two of its numbers: `index_initial` IS the index, so (index free of
NaN) the decision is `index[-1] != STOP.value` (`Cr.C11_refresh_decision`) -/
theorem C11_end_to_end_refresh (env : Env) (opts : Tf.Opts) (lines : Tf.Doc) (o2r : WObj)
    (h : readObjFullLines env opts lines = .ok o2r) (idx : List F64) (hidx : o2r.index = some idx)
    (hnan : ∀ x ∈ idx, x.isNaN = false) (last : F64) (hl : idx.getLast? = some last) (stop : OItem)
    (hs : lookup o2r.wellTr sSTOP o2r.well = some stop) :
    refreshDecision o2r = .ok (pyNe last stop.value) :=
  Cr.C11_refresh_decision o2r idx (by rw [readObjFullLines_index env opts lines o2r h, hidx]) hidx hnan last hl stop hs

/-! ## non-vacuity: `Cr.rRead` written, the whole file read back, written again -/

def eH1 : Str := Cr.rs "0x1.0000000000000p+0"
def eH2 : Str := Cr.rs "0x1.0000000000000p+1"
def eH3 : Str := Cr.rs "0x1.8000000000000p+1"
def eHg : Str := Cr.rs "0x1.f9add3c0c6597p-4"
def eHh : Str := Cr.rs "0x1.0000000000000p-1"
def eHn : Str := Cr.rs "-0x1.f3a0000000000p+9"
/-- `float()` on the six tokens of the example -/
def exFt : Dt.FloatTable :=
  [(Cr.rs "1.00000", eH1), (Cr.rs "2.00000", eH2), (Cr.rs "3.00000", eH3), (Cr.rs "0.12346", eHg), (Cr.rs "0.50000", eHh),
   (Cr.rs "-999.25", eHn)]
/-- the binary64 the canonical float texts denote -/
def exVal (s : Str) : Option F64 :=
  ([(eH1, Cr.rf false 1 0), (eH2, Cr.rf false 2 0), (eH3, Cr.rf false 3 0), (eHg, Cr.rf false 8896230559922583 (-56)),
    (eHh, Cr.rf false 1 (-1)), (eHn, Cr.rf true 3997 (-2)), (Dt.nanTxt, .nan)] : List (Str × F64)).lookup s
def exNullOf (t : Option Str) : Option Str := if t = some (Cr.rs "-999.25") then some eHn else none
def exEnv : Env := ⟨exPy, exFt, exVal, exNullOf⟩
def exFOpts : Tf.Opts := ⟨Cr.rOpts, ⟨.numpy, .strict⟩⟩

/-- what the evaluated examples ask of a configuration and an object: `write` succeeds, the typed header read of its text satisfies
`LinkOK` (as the Boolean `linkOKB`), and the whole-file read of that text gives back the object written.  The result is the text. -/
def cycleCheck (env : Env) (opts : Tf.Opts) (cfg : WriteCfg) (o : WObj) : Option (List Str) :=
  match writeObj cfg none o with
  | .ok (t, _) =>
    match readObjLines opts.hdr (t.map (· ++ Tf.nl)), readObjFullLines env opts (t.map (· ++ Tf.nl)) with
    | .ok th, .ok o' => if linkOKB env.py th && decide (o' = o) then some t else none
    | _, _ => none
  | .error _ => none

/-- `f` projects whatever is to be known of the text -/
theorem cycleCheck_sound {env : Env} {opts : Tf.Opts} {cfg : WriteCfg} {o : WObj} {α : Type} {f : List Str → α} {a : α}
    (h : (cycleCheck env opts cfg o).map f = some a) :
    ∃ t w th, writeObj cfg none o = .ok (t, w) ∧ f t = a ∧ readObjLines opts.hdr (t.map (· ++ Tf.nl)) = .ok th ∧
      linkOKB env.py th = true ∧ readObjFullLines env opts (t.map (· ++ Tf.nl)) = .ok o := by
  unfold cycleCheck at h
  split at h
  · rename_i t w hw
    split at h
    · rename_i th o' hth hfull
      split at h
      · rename_i hc
        simp only [Bool.and_eq_true, decide_eq_true_eq] at hc
        exact ⟨t, w, th, hw, Option.some.inj h, hth, hc.1, hc.2 ▸ hfull⟩
      · cases h
    · cases h
  · cases h

/-- … about the text of a write that is known by other means -/
theorem cycleCheck_of_write {env : Env} {opts : Tf.Opts} {cfg : WriteCfg} {o : WObj} {α : Type} {f : List Str → α} {a : α}
    (h : (cycleCheck env opts cfg o).map f = some a) {t : List Str} {w : WObj} (hw : writeObj cfg none o = .ok (t, w)) :
    f t = a ∧ ∃ th, readObjLines opts.hdr (t.map (· ++ Tf.nl)) = .ok th ∧ linkOKB env.py th = true ∧
      readObjFullLines env opts (t.map (· ++ Tf.nl)) = .ok o := by
  obtain ⟨t', w', th, hw', ha, hth, hlink, hfull⟩ := cycleCheck_sound h
  rw [hw] at hw'
  cases hw'
  exact ⟨ha, th, hth, hlink, hfull⟩

/-- the file of `Cr.rRead` (18 lines), written and read back once -/
theorem exFile : (cycleCheck exEnv exFOpts (Cr.rCfg "%.5f") Cr.rRead).map List.length = some 18 := by decide +kernel

/-- **write → read the whole file → write, evaluated**: the object read back from the text of `write` on `Cr.rRead` IS `Cr.rRead` (header values,
data, `index_initial`), and writing it gives the SAME TEXT, line by line -/
theorem C11_end_to_end_example :
    (match writeObj (Cr.rCfg "%.5f") none Cr.rRead with
     | .ok (t1, _) =>
       match readObjFullLines exEnv exFOpts (t1.map (· ++ Tf.nl)) with
       | .ok o2r =>
         (match writeObj (Cr.rCfg "%.5f") none o2r with
          | .ok (t2, _) => some (decide (t2 = t1), decide (o2r = Cr.rRead), t1.length)
          | .error _ => none)
       | .error _ => none
     | .error _ => none) = some (true, true, 18) := by
  obtain ⟨t, w, _, hw, hlen, _, _, hfull⟩ := cycleCheck_sound exFile
  simp only [hw, hfull, hlen, eq_self, decide_true]

/-! ### the theorem applies to the example -/

def exRows5 : List (List F64) :=
  [[Cr.rf false 1 0, Cr.rf false 8896230559922583 (-56)], [Cr.rf false 2 0, .nan], [Cr.rf false 3 0, Cr.rf false 1 (-1)]]
def exRowCfg5 : Dw.RowCfg := ⟨⟨none, 5⟩, [], 10, [' '], [' ']⟩
def exBody5 : List Str := [Cr.rs "    1.00000    0.12346", Cr.rs "    2.00000    -999.25", Cr.rs "    3.00000    0.50000"]

theorem exRows5_eq : rowsOf (afterHeader (Cr.rCfg "%.5f") Cr.rRead).data = exRows5 := by decide +kernel

theorem exWritten : Rt.Written (dataCfg (Cr.rCfg "%.5f")) (Cr.rs "-999.25")
    ((afterHeader (Cr.rCfg "%.5f") Cr.rRead).curves.map (·.session)) (rowsOf (afterHeader (Cr.rCfg "%.5f") Cr.rRead).data)
    exRowCfg5 2 (Cr.rs "~ASCII -------------") exBody5 :=
  ⟨rfl, ⟨by decide +kernel, by decide +kernel, by decide +kernel, ⟨by decide +kernel, by decide +kernel⟩⟩, Rt.quietTok_of_check _ (by decide +kernel), Cr.rDataLines, by decide +kernel, by decide +kernel,
    by decide +kernel⟩

theorem exReadOK : Cd.ReadOK exFt exVal (Cr.rs "-999.25") eHn := ⟨by decide +kernel, by decide +kernel, by decide +kernel⟩

theorem exStrtod : Cd.StrtodClose exFt exVal exRowCfg5 exRows5 := Cd.strtodClose_of_check _ _ _ _ (by decide +kernel)

theorem exNoClash : Rt.NoNullClash exFt eHn exRowCfg5 exRows5 := Rt.noNullClash_of_check (by decide +kernel)

theorem exIndexFree : Cd.IndexNaNFree exRows5 := Cd.indexNaNFree_of_check _ (by decide +kernel)

/-- **non-vacuity of `C11_cycle_end_to_end_partial`**: every hypothesis holds for `write` on `Cr.rRead` (`fmt="%.5f"`, version 2.0, unwrapped) -/
theorem exPartial (hl : List Str × Wr.WLas) (h4 : Wr.headerLines "2.0" (some false) 20 (toWLas Cr.rRead) = .ok hl) :
    EndToEnd exEnv exFOpts (Cr.rCfg "%.5f") "2.0" none Cr.rRead Cr.rRead hl (Cr.rs "-999.25") (Cr.rs "~ASCII -------------") exBody5
      exRowCfg5 eHn :=
  C11_cycle_end_to_end_partial exEnv exFOpts (Cr.rCfg "%.5f") "2.0" rfl rfl rfl rfl
    (by decide +kernel) rfl (by decide +kernel) (Cr.rPrepare none) h4 (by decide +kernel) Cr.rDataLines Cr.rFileConf Cr.rCycleConf exWritten
    (by decide +kernel) 'A' (Cr.rs "SCII") rfl (by decide +kernel) rfl (Cr.rs "NO") (by decide +kernel) (by decide +kernel) exSpelt eHn
    (by decide +kernel) exReadOK
    (by rw [exRows5_eq]; exact exStrtod) (by rw [exRows5_eq]; exact exNoClash) (by rw [exRows5_eq]; exact exIndexFree)

/-- … the file reads back to an object `o2r` whose data are the re-read matrix, and (first part of the conclusion) the first write is the
expected text -/
example (hl : List Str × Wr.WLas) (h4 : Wr.headerLines "2.0" (some false) 20 (toWLas Cr.rRead) = .ok hl) :
    writeObj (Cr.rCfg "%.5f") none Cr.rRead = .ok (hl.1 ++ Cr.rs "~ASCII -------------" :: exBody5, afterHeader (Cr.rCfg "%.5f") Cr.rRead) ∧
    ∃ th o2r, readObjLines Cr.rOpts (Fr.fileDoc hl.1 (Cr.rs "~ASCII -------------") exBody5) = .ok th ∧
      readObjFullLines exEnv exFOpts (Fr.fileDoc hl.1 (Cr.rs "~ASCII -------------") exBody5) = .ok o2r ∧
      rowsOf o2r.data = Cd.reRows exFt exVal (Cr.rs "-999.25") eHn exRowCfg5 exRows5 ∧ o2r.indexInitial = o2r.index := by
  obtain ⟨hw, th, o2r, hth, hobj, _, _, hrows, _, _, hii, _, _⟩ := exPartial hl h4
  rw [exRows5_eq] at hrows
  exact ⟨hw, th, o2r, hth, hobj, hrows, hii⟩

/-! ## counter-examples -/

/-- the float services of the `%.0f` example of C11Refresh.lean (`Cr.rFreshL`) -/
def cH0 : Str := Cr.rs "0x0.0p+0"
def cFt : Dt.FloatTable :=
  [(Cr.rs "0", cH0), (Cr.rs "1", Cr.rs "0x1.0000000000000p+0"), (Cr.rs "2", Cr.rs "0x1.0000000000000p+1"),
   (Cr.rs "3", Cr.rs "0x1.8000000000000p+1"), (Cr.rs "-999.25", Cr.rs "-0x1.f3a0000000000p+9")]
def cVal (s : Str) : Option F64 :=
  ([(cH0, Cr.rf false 0 0), (Cr.rs "0x1.0000000000000p+0", Cr.rf false 1 0), (Cr.rs "0x1.0000000000000p+1", Cr.rf false 2 0),
    (Cr.rs "0x1.8000000000000p+1", Cr.rf false 3 0), (Dt.nanTxt, .nan)] : List (Str × F64)).lookup s
def cPy : PyFloat :=
  ⟨fun t => if t = Cr.rs "2.0" then Cr.rf false 2 0 else if t = Cr.rs "0.50000" then Cr.rf false 1 (-1)
            else if t = Cr.rs "1.50000" then Cr.rf false 3 (-1) else if t = Cr.rs "-999.25" then Cr.rf true 3997 (-2) else Cr.rf false 1 0,
   fun t => if t = Cr.rs "0.50000" then Cr.rs "0.5" else if t = Cr.rs "1.50000" then Cr.rs "1.5" else t⟩
def cEnv : Env := ⟨cPy, cFt, cVal, fun t => if t = some (Cr.rs "-999.25") then some (Cr.rs "-0x1.f3a0000000000p+9") else none⟩

/-- **COUNTER-EXAMPLE (`hd` is needed; the known finding `sss-shift-after-lossy-index-format`, end to end).**  `Cr.rFreshL` (index 0.5, 1, 1.5) written
with `fmt="%.0f"`; the whole file read back IS the object `Cr.rReadL1` of C11Refresh.lean (index 0, 1, 2; STOP the number 1.5); the refresh is
decided for it (`2.0 != 1.5`), and the second write differs from the first: the data lines are the same, the ~Well lines are not. -/
theorem C11_end_to_end_counterexample_refresh :
    (match writeObj (Cr.rCfg "%.0f") (some (Cr.rf false 1 (-1))) Cr.rFreshL with
     | .ok (t1, _) =>
       match readObjFullLines cEnv ⟨Cr.rOpts, ⟨.numpy, .strict⟩⟩ (t1.map (· ++ Tf.nl)) with
       | .ok o2r =>
         (match writeObj (Cr.rCfg "%.0f") (some (Cr.rf false 1 0)) o2r with
          | .ok (t2, _) => some (decide (o2r = Cr.rReadL1), decide ((refreshDecision o2r).toOption = some true), decide (t2 = t1),
              decide (t2.drop 15 = t1.drop 15),
              decide (Cr.wellLines t1 = [Cr.rs "STRT.M 0.50000 : start", Cr.rs "STOP.M 1.50000 : stop", Cr.rs "STEP.M 0.50000 : step"]),
              decide (Cr.wellLines t2 = [Cr.rs "STRT.M 0.00000 : start", Cr.rs "STOP.M 2.00000 : stop", Cr.rs "STEP.M 1.00000 : step"]))
          | .error _ => none)
       | .error _ => none
     | .error _ => none) = some (true, true, false, true, true, true) := by
  decide +kernel

/-- **DOMAIN: a text column is refused** — a data token `float()` rejects makes the column a `str` column; `readObjFullLines` answers
`unmodelled` (a `WObj` holds binary64 data only) -/
theorem C11_end_to_end_text_column_unmodelled :
    (match readObjFullLines exEnv exFOpts
        [Cr.rs "~V\n", Cr.rs "VERS. 2.0 : v\n", Cr.rs "WRAP. NO : w\n", Cr.rs "~C\n", Cr.rs "D.M : d\n", Cr.rs "~A\n", Cr.rs "abc\n"] with
     | .error .unmodelled => true
     | _ => false) = true := by
  decide +kernel

end Lasio.Ro

#print axioms Lasio.Ro.rowsOf_transpose
#print axioms Lasio.Ro.dataOf_written
#print axioms Lasio.Ro.readObjFullLines_of_readFull
#print axioms Lasio.Ro.C11_cycle_end_to_end_partial
#print axioms Lasio.Ro.C11_end_to_end_refresh
#print axioms Lasio.Ro.C11_end_to_end_example
#print axioms Lasio.Ro.C11_end_to_end_counterexample_refresh
#print axioms Lasio.Ro.C11_end_to_end_text_column_unmodelled
#print axioms Lasio.Ro.exWritten
#print axioms Lasio.Ro.exStrtod
