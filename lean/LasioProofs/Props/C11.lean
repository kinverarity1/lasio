import Mathlib.Data.List.Forall2
import Mathlib.Logic.Function.Iterate
import LasioModel.WriteObj
import LasioProofs.Props.C01
import LasioProofs.Props.C03
import LasioProofs.Props.C13
import LasioProofs.Props.C16
import LasioProofs.Lemmas.CycleLemmas
/-
C11 — lasio's own output is a fixed point of read -> write.

What is PROVED here (writer side + one header line; all over every input of the stated shape):
* `C11_fmt_idem`, `C11_reprint_iterate`, `C11_fmt_stable`   printing the decimal of a printed `%.Nf` token — or any binary64 lying
  within half a unit of its last digit, in particular the double `strtod` returns for it — reproduces the token, any number of
  times: no accumulating precision loss in curve data or in STRT/STOP/STEP;
* `C11_standardize_idem`, `C11_standardize_idem_typed`, `C11_standardize_reread`   the header normalisations are idempotent and
  never touch a value that was read back from a file unless it is the empty string on an item with a unit;
* `C11_suffix_stable`   session mnemonics are a function of the list of original mnemonics: a section rebuilt by appending
  the same originals in the same order gets the same session names (no growing suffixes);
* `C11_item_fixed_point`, `C11_item_fixed_point_text`   a conformant header line written, read, written again and read again gives
  the same mnemonic, unit and description (and the same value when the value is kept as text): no field migrates;
* `C11_write_idempotent`   writing the same object again gives the same text (re-export of `C16_idempotent`).

What is proved elsewhere: Props/C11File.lean the whole-file HEADER fixed point (C11_file_fixed_point, C11_file_iterate); Props/C11Data.lean
the data section; Props/C11Refresh.lean, C11Typed.lean, C11EndToEnd.lean, C11FixedText.lean, C11EndToEndWrap.lean the cycle through the
object read back (refresh of STRT/STOP/STEP, `num()` / `str()` of the re-read numbers, `float()` as a table), each under the hypotheses
listed at its head.
What is NOT proved: the statement "for any input that lasio can read and then write" without those hypotheses; non-conformant lines
(the property's "odd units", blank mnemonics, colons) are outside `C03_item`.  That part is covered by the oracle and the
correspondence of harness/props/c11.py only.
-/
namespace Lasio.C11
open Lasio Lasio.Dw Lasio.Wr

/-! ## numbers: no accumulating precision loss -/

/-- **Re-printing the printed decimal reproduces the digits** (re-export of `C01_fmt_idem`). -/
theorem C11_fmt_idem (N : Nat) (neg : Bool) (m : Nat) (e : Int) :
    ∃ a, decOfTokS (fmtFixed N (.finite neg m e)) = some (neg, a, N) ∧
      fmtFixedDec N neg a N = fmtFixed N (.finite neg m e) :=
  C01_fmt_idem N neg m e

/-- one load/save of a token at precision `N` on the exact decimal it denotes (tokens that are not plain decimals — `nan`,
`inf` — are kept as they are) -/
def reprint (N : Nat) (tok : Str) : Str :=
  match decOfTokS tok with
  | some (neg, a, k) => fmtFixedDec N neg a k
  | none => tok

theorem decOfTokS_special : decOfTokS ['n', 'a', 'n'] = none ∧ decOfTokS ['i', 'n', 'f'] = none ∧
    decOfTokS ['-', 'i', 'n', 'f'] = none := by decide

/-- a printed token is a fixed point of `reprint`, whatever the sample was (NaN and infinities included) -/
theorem C11_reprint_fixed (N : Nat) (x : F64) : reprint N (fmtFixed N x) = fmtFixed N x := by
  cases x with
  | nan => simp [reprint, fmtFixed, decOfTokS_special.1]
  | inf neg => cases neg <;> simp [reprint, fmtFixed, decOfTokS_special]
  | finite neg m e =>
    obtain ⟨a, h1, h2⟩ := C01_fmt_idem N neg m e
    simp [reprint, h1, h2]

/-- **Nothing accumulates**: after the first print, any number `k` of further cycles leaves the token as it is. -/
theorem C11_reprint_iterate (N : Nat) (x : F64) (k : Nat) : (reprint N)^[k] (fmtFixed N x) = fmtFixed N x := by
  induction k with
  | zero => rfl
  | succ k ih => rw [Function.iterate_succ_apply', ih, C11_reprint_fixed]

/-- **Stability under `strtod`**: ANY binary64 `y = sgn · m' · 2^e'` strictly within half a unit of the last digit of the decimal
`q / 10^N` prints as that decimal (re-export of `C01_fmt_stable`). -/
theorem C11_fmt_stable (N : Nat) (neg : Bool) (m' : Nat) (e' : Int) (q : Nat)
    (h : 2 * ((q : Int) * 2 ^ (-e').toNat - m' * 2 ^ e'.toNat * 10 ^ N).natAbs < 2 ^ (-e').toNat) :
    fmtFixed N (.finite neg m' e') = (if neg then ['-'] else []) ++ fixedDigits N q :=
  C01_fmt_stable N neg m' e' q h

/-! ## header normalisation -/

/-- `standardize_value` is idempotent (re-export of `C03_standardize_idem`) -/
theorem C11_standardize_idem (v : WVal) (u : Str) (hwf : v.WF) :
    standardizeValue (standardizeValue v u) u = standardizeValue v u :=
  C03_standardize_idem v u hwf

/-- ... and so is its typed form, for every Python value the model distinguishes (no hypothesis) -/
theorem C11_standardize_idem_typed (v : Wo.PVal) (u : Str) : Wo.stdP (Wo.stdP v u) u = Wo.stdP v u :=
  Wo.stdP_idem v u

/-- a value read back from a file is a number or a string, never `None`: the normalisation leaves it alone unless it is
the empty string on an item that has a unit (then it is written as `0`, which reads back as the number 0: a fixed point
from the first re-read on) -/
theorem C11_standardize_reread (v : Wo.PVal) (u : Str) (hv : v ≠ .none) (h : v ≠ .str [] ∨ u = []) : Wo.stdP v u = v := by
  cases v with
  | none => exact absurd rfl hv
  | num x t => exact Wo.stdP_num x t u
  | str s =>
    rcases h with h | h
    · exact Wo.stdP_str_ne s u (fun hs => h (by rw [hs]))
    · subst h
      cases s <;> simp [Wo.stdP, Wo.PVal.falsy]

/-! ## session mnemonics: no growing suffixes -/

/-- two items agree on what the suffix machinery looks at -/
def SameNames (a b : Item) : Prop := a.orig = b.orig ∧ a.session = b.session

theorem renumber_sameNames (tr : Bool) (t : Str) {l1 l2 : List Item} (h : List.Forall₂ SameNames l1 l2) (k : Nat) :
    List.Forall₂ SameNames (renumber tr t l1 k) (renumber tr t l2 k) := by
  induction h generalizing k with
  | nil => exact List.Forall₂.nil
  | cons hab _ ih =>
    rename_i a b l1 l2
    obtain ⟨ho, hs⟩ := hab
    unfold renumber
    rw [ho]
    split
    · exact List.Forall₂.cons ⟨rfl, rfl⟩ (ih _)
    · exact List.Forall₂.cons ⟨ho, hs⟩ (ih _)

theorem countGroup_sameNames (tr : Bool) (t : Str) {l1 l2 : List Item} (h : List.Forall₂ SameNames l1 l2) :
    countGroup tr t l1 = countGroup tr t l2 := by
  unfold countGroup
  induction h with
  | nil => rfl
  | cons hab _ ih =>
    obtain ⟨ho, _⟩ := hab
    simp only [List.filter_cons, ho]
    split <;> simp [ih]

theorem append_sameNames {s1 s2 : Section} {a b : Item} (htr : s1.tr = s2.tr)
    (h : List.Forall₂ SameNames s1.items s2.items) (hab : SameNames a b) :
    (s1.append a).tr = (s2.append b).tr ∧ List.Forall₂ SameNames (s1.append a).items (s2.append b).items := by
  have happ : List.Forall₂ SameNames (s1.items ++ [a]) (s2.items ++ [b]) :=
    List.rel_append h (List.Forall₂.cons hab List.Forall₂.nil)
  unfold Section.append Section.assignSuffixes
  simp only
  rw [hab.1, htr, countGroup_sameNames s2.tr (useful b.orig) happ]
  split
  · exact ⟨rfl, renumber_sameNames s2.tr _ happ 0⟩
  · exact ⟨rfl, happ⟩

/-- a section rebuilt by appending items one after the other, as the reader does -/
def rebuild (s : Section) (l : List Item) : Section := l.foldl Section.append s

theorem rebuild_sameNames {s1 s2 : Section} {l1 l2 : List Item} (htr : s1.tr = s2.tr)
    (hs : List.Forall₂ SameNames s1.items s2.items) (hl : List.Forall₂ SameNames l1 l2) :
    List.Forall₂ SameNames (rebuild s1 l1).items (rebuild s2 l2).items := by
  induction hl generalizing s1 s2 with
  | nil => exact hs
  | cons hab _ ih =>
    obtain ⟨h1, h2⟩ := append_sameNames htr hs hab
    exact ih h1 h2

/-- **Suffixes are a function of the originals.**  Two lists of freshly built items (`HeaderItem(mnemonic, ...)`: the session
name starts as the useful name) with the same original mnemonics in the same order — for instance the items of a section and
the items obtained by reading back the lines written from their ORIGINAL mnemonics — appended to an empty section give the
same session mnemonics, position by position: `:1`, `:2`, … never pile up over load/save cycles. -/
theorem C11_suffix_stable (tr : Bool) (l1 l2 : List Item)
    (h1 : ∀ it ∈ l1, it.session = useful it.orig) (h2 : ∀ it ∈ l2, it.session = useful it.orig)
    (ho : l1.map (·.orig) = l2.map (·.orig)) :
    (rebuild ⟨[], tr⟩ l1).keys = (rebuild ⟨[], tr⟩ l2).keys ∧ (rebuild ⟨[], tr⟩ l1).origs = (rebuild ⟨[], tr⟩ l2).origs := by
  have hl : List.Forall₂ SameNames l1 l2 := by
    induction l1 generalizing l2 with
    | nil =>
      cases l2 with
      | nil => exact List.Forall₂.nil
      | cons b l2 => simp at ho
    | cons a l1 ih =>
      cases l2 with
      | nil => simp at ho
      | cons b l2 =>
        simp only [List.map_cons, List.cons.injEq] at ho
        refine List.Forall₂.cons ⟨ho.1, ?_⟩ (ih l2 (fun it h => h1 it (by simp [h])) (fun it h => h2 it (by simp [h])) ho.2)
        rw [h1 a (by simp), h2 b (by simp), ho.1]
  have := rebuild_sameNames (s1 := ⟨[], tr⟩) (s2 := ⟨[], tr⟩) rfl List.Forall₂.nil hl
  unfold Section.keys Section.origs
  generalize (rebuild ⟨[], tr⟩ l1).items = x at this
  generalize (rebuild ⟨[], tr⟩ l2).items = y at this
  induction this with
  | nil => exact ⟨rfl, rfl⟩
  | cons hab _ ih => simp [hab.1, hab.2, ih.1, ih.2]

/-- the rebuilt section satisfies the suffix invariant of C13 (`Inv`: suffixed names within a group are `:k` with strictly
increasing `k`) -/
theorem C11_suffix_inv (tr : Bool) (l : List Item) (h : ∀ it ∈ l, SuffixForm it) : Inv (rebuild ⟨[], tr⟩ l) := by
  have gen : ∀ (s : Section), Inv s → Inv (rebuild s l) := by
    induction l with
    | nil => intro s hs; exact hs
    | cons a l ih =>
      intro s hs
      exact ih (fun it hit => h it (by simp [hit])) (s.append a) (C13_inv_append s a (h a (by simp)) hs)
  exact gen _ (C13_inv_empty tr)

/-! ## one header line: no field migrates -/

theorem lowerC_idem (c : Char) : lowerC (lowerC c) = lowerC c := Cy.lowerC_idem c

theorem caseMap_idem (c : MCase) (m : Str) : caseMap c (caseMap c m) = caseMap c m := Cy.caseMap_idem c m

/-- **Second re-read = first re-read, one line.**  `it` is a conformant item written as version `v`; `r1` is what the reader
returns for its line (`C03_item`).  `it2` is ANY item carrying r1's mnemonic, unit and description (its value is whatever
`num()` made of the text, printed by `str()`), still conformant, written again: its line reads back with the same
mnemonic, unit and description as `r1` — nothing migrates between the fields — and with `it2`'s value text. -/
theorem C11_item_fixed_point (v : String) (kind : SecName) (c : MCase) (o o2 : Order) (W W2 : Widths) (it it2 : WItem)
    (hkind : kind ≠ .other)
    (hw : orderOf v (secKey kind) it.orig = .ok o) (hconf : TextConf kind it)
    (hpad : 1 ≤ W.middle - it.unit.length - (rhsOf o it).length)
    (hname : it2.orig = caseMap c it.orig) (hunit : it2.unit = it.unit) (hdescr : it2.descr = it.descr)
    (hw2 : orderOf v (secKey kind) it2.orig = .ok o2) (hconf2 : TextConf kind it2)
    (hpad2 : 1 ≤ W2.middle - it2.unit.length - (rhsOf o2 it2).length) :
    ∃ r1 r2, readItem v kind c (formatItem o W it) = some r1 ∧ readItem v kind c (formatItem o2 W2 it2) = some r2 ∧
      r2.name = r1.name ∧ r2.unit = r1.unit ∧ r2.descr = r1.descr ∧ r2.value = it2.value.text := by
  refine ⟨expected c it, expected c it2, C03_item v kind c o W it hkind hw hconf hpad,
    C03_item v kind c o2 W2 it2 hkind hw2 hconf2 hpad2, ?_, ?_, ?_, rfl⟩
  · simp [expected, hname, caseMap_idem]
  · simp [expected, hunit]
  · simp [expected, hdescr]

/-- ... and when the value is kept as text (`it2.value.text = it.value.text`: strings, and numbers whose `str()` is their
spelling in the file) the two re-reads are the same item. -/
theorem C11_item_fixed_point_text (v : String) (kind : SecName) (c : MCase) (o o2 : Order) (W W2 : Widths) (it it2 : WItem)
    (hkind : kind ≠ .other)
    (hw : orderOf v (secKey kind) it.orig = .ok o) (hconf : TextConf kind it)
    (hpad : 1 ≤ W.middle - it.unit.length - (rhsOf o it).length)
    (hname : it2.orig = caseMap c it.orig) (hunit : it2.unit = it.unit) (hdescr : it2.descr = it.descr)
    (hval : it2.value.text = it.value.text)
    (hw2 : orderOf v (secKey kind) it2.orig = .ok o2) (hconf2 : TextConf kind it2)
    (hpad2 : 1 ≤ W2.middle - it2.unit.length - (rhsOf o2 it2).length) :
    readItem v kind c (formatItem o2 W2 it2) = readItem v kind c (formatItem o W it) := by
  rw [C03_item v kind c o W it hkind hw hconf hpad, C03_item v kind c o2 W2 it2 hkind hw2 hconf2 hpad2]
  simp [expected, hname, hunit, hdescr, hval, caseMap_idem]

/-- the hypothesis "still conformant" is needed: the unit `.1IN` (leading period, outside `TextConf.unit_first`) written
tight against a mnemonic that fills its column reads back as mnemonic `DEPT.` with unit `1IN` in ~Curves -/
theorem C11_counterexample_unit_leading_period :
    readItem "2.0" .curves .upper (formatItem .valueDescr ⟨4, 5⟩ ⟨"DEPT".toList, "DEPT".toList, ".1IN".toList, .str [], []⟩) =
      some ⟨"DEPT.".toList, "1IN".toList, [], []⟩ := by
  decide +kernel

/-! ## the write itself -/

/-- writing the object a second time with the same options: same text, same object (re-export of `C16_idempotent`) -/
theorem C11_write_idempotent {cfg : Wo.WriteCfg} {sd : Option Wo.F64} {o : Wo.WObj} {t1 : List Str} {o1 : Wo.WObj}
    (hwrap : ∀ w, cfg.wrap = some w → Wo.WrapOK o.versionTr o.version)
    (h : Wo.writeObj cfg sd o = .ok (t1, o1)) : Wo.writeObj cfg sd o1 = .ok (t1, o1) :=
  Wo.C16_idempotent hwrap h

/-! ## non-vacuity -/

example : reprint 2 (fmtFixed 2 F64.pi) = "3.14".toList := by decide +kernel
example : (reprint 5)^[3] (fmtFixed 5 (.finite true 1 (-3))) = "-0.12500".toList := by decide +kernel
example : (rebuild ⟨[], true⟩ [mkItem "A".toList [] [] [], mkItem "B".toList [] [] [], mkItem "a".toList [] [] []]).keys =
    ["A:1".toList, "B".toList, "a:2".toList] := by decide +kernel

end Lasio.C11

#print axioms Lasio.C11.C11_fmt_idem
#print axioms Lasio.C11.C11_reprint_iterate
#print axioms Lasio.C11.C11_fmt_stable
#print axioms Lasio.C11.C11_standardize_idem
#print axioms Lasio.C11.C11_standardize_reread
#print axioms Lasio.C11.C11_suffix_stable
#print axioms Lasio.C11.C11_suffix_inv
#print axioms Lasio.C11.C11_item_fixed_point
#print axioms Lasio.C11.C11_item_fixed_point_text
#print axioms Lasio.C11.C11_write_idempotent
