import LasioProofs.Lemmas.RedelimLemmas
/-
C09, the part about DELIMITERS — "… changing the amount of blanks/tabs between fields …, or re-delimiting the data with the
declared delimiter (SPACE, TAB, COMMA, with or without padding blanks) all yield … equal curve data."

Models: `Tf.relayLine1 frm to seps` (cut a data line into cells with the delimiter `frm`, join them with separators made for the
delimiter `to` from the arguments `seps`), `Tf.relayBody` (every data line of a window), `Tf.redelim`, `Tf.repadLine` (`frm = to`,
one line), and the data-section reader `Lasio.Dt` (`lineTokens`, `sniffTwice`, `normalEngineLines`, `readData`).

The real code keeps padding blanks inside the cells of TAB / COMMA data (`C09_repad_delimited_keeps_padding`, finding
dlm-pad-text), so the statements are about NUMERIC cells and hold "up to `strip`" for the items and exactly for the columns:
`float()` strips.

HYPOTHESES (each shown necessary below)
* `NumCells frm l`   (decidable) `l` is a data line and every cell of it — cut with `frm` — is a plain decimal
                     `[+-]?(\d+\.?\d*|\.\d+)([eE][+-]?\d+)?`; `NumBody frm c body`: every line is a blank/comment line or a
                     `NumCells` line of `c` cells.
* `SepsOK to seps`   (decidable) only for `to = TAB`: no separator argument has a blank BETWEEN two TABs — `sot_regex.findall`
                     makes a cell of that blank (`C09_redelim_tab_blank_between_tabs`: true of the real reader, too).
* `SubsOK dlm sb`    with the COMMA delimiter the comma-decimal substitution is off (it is for the sets the reader uses).
* `FtStripOn ft toks`, `Converts ft toks`: `float()` ignores the blanks around the items met in the two documents, and the items
                     of the original document are numbers for it.  (The float service is a finite table: the unrestricted
                     `FtStrip ft` holds of the empty table only — `C09_redelim_FtStrip_only_empty` — hence the relative form.)

WHAT IS PROVED
1 line level     `C09_redelim_line` (items of the original and of the re-laid line = the cells, up to `strip`, for all
                 `frm to seps` and all admissible substitution sets), `C09_redelim_line_readSubs`, `C09_redelim_line_sniff`,
                 `C09_redelim_line_subs_irrelevant`, `C09_redelim_line_numpy`.
2 typed columns  `C09_redelim_typed_column`, `C09_redelim_engine_of_tokens`.
3 window level   `C09_redelim_tokens`, `C09_redelim_engine` (every `nColumns`), `C09_redelim_sniff`,
                 `C09_redelim_readData_normal` (normal engine in effect), `C09_redelim_readData_ws` (any engine, SPACE/TAB),
                 `C09_redelim_readData_comma` (any engine, COMMA → COMMA, through `C09_redelim_comma_numpy_raises`),
                 `C09_redelim_readData_agree` (any engine, any delimiters, engines agreeing on each window),
                 `C09_redelim_window` (the same on the document `redelim` produces).
4 frm = to       `C09_repad_delimited_line`, `C09_repad_delimited_readData`, `C09_repad_delimited_readData_ws`, and the WHOLE FILE:
                 `C09_repad_delimited_file` / `C09_repad_delimited_readModel` (conclusion of `C09_step`: readable, same steering
                 values, same parsed result, again a `Base`).
5 whole file, `.redelim`: the data part
                 `C09_redelim_header_body` (the header-level reader does not see the re-laid body) and
                 `C09_redelim_file_of_header` (GIVEN what `Rd.readLines` returns for the two documents — checked by evaluation in
                 `C09_redelim_example_header` — the files are readable and their data sections read alike).
The header part — `Rd.readLines` of the document with the DLM item replaced / inserted returns the old sections but for that
item, the old steering values but for `dlm`, and the new windows, for every document with one ~V section (the first of the
file) and no other DLM item — is `C09_redelim_header` in Props/C09RedelimFile.lean; `C09_redelim_file_replace` and
`C09_redelim_file_insert` there are the whole-file theorems.
-/
namespace Lasio.Tf
open Lasio Lasio.Dt

/-! ## the side conditions -/

/-- `l` is a data line whose cells — cut with the delimiter `frm` — are plain decimals -/
def NumCells (frm : Dlm) (l : Str) : Prop := numCells frm l = true

instance (frm : Dlm) (l : Str) : Decidable (NumCells frm l) := by unfold NumCells; infer_instance

/-- in words: not a blank/comment line, and every cell is non-empty and matches `numeric_literal_regex` -/
theorem C09_redelim_NumCells_iff (frm : Dlm) (l : Str) :
    NumCells frm l ↔ isSkip l = false ∧ ∀ c ∈ cellsOf frm (splitEol l).1, c ≠ [] ∧ isPlainDecimal c = true := by
  unfold NumCells numCells
  simp only [Bool.and_eq_true, Bool.not_eq_true', List.all_eq_true]
  constructor
  · rintro ⟨h1, h2⟩
    exact ⟨h1, fun c hc => ⟨by intro e; subst e; exact absurd (h2 [] hc) (by decide), h2 c hc⟩⟩
  · rintro ⟨h1, h2⟩
    exact ⟨h1, fun c hc => (h2 c hc).2⟩

/-- every line of the body is a blank/comment line or a `NumCells` line of `c` cells -/
def NumBody (frm : Dlm) (c : Nat) (body : List Str) : Prop := numBody frm c body = true

instance (frm : Dlm) (c : Nat) (body : List Str) : Decidable (NumBody frm c body) := by unfold NumBody; infer_instance

theorem C09_redelim_NumBody_iff (frm : Dlm) (c : Nat) (body : List Str) :
    NumBody frm c body ↔ ∀ l ∈ body, isSkip l = true ∨ (NumCells frm l ∧ (cellsOf frm (splitEol l).1).length = c) := by
  constructor
  · exact fun h => numBody_line h
  · intro h
    unfold NumBody numBody
    rw [List.all_eq_true]
    intro l hl
    rcases h l hl with h1 | ⟨h1, h2⟩
    · simp [h1]
    · have : numCells frm l = true := h1
      simp [this, h2]

/-- Python's `float()` ignores surrounding blanks — as a statement about ALL strings -/
def FtStrip (ft : FloatTable) : Prop := ∀ t, toFloat ft (strip t) = toFloat ft t

theorem C09_redelim_FtStrip_on (ft : FloatTable) (h : FtStrip ft) (toks : List Str) : FtStripOn ft toks :=
  fun t _ => (h t).symm

/-- … which a finite table cannot satisfy unless it is empty; the theorems therefore assume `FtStripOn ft toks` for the items
`toks` met in the two documents -/
theorem C09_redelim_FtStrip_only_empty (ft : FloatTable) (h : FtStrip ft) : ∀ t, toFloat ft t = none :=
  ftStrip_global_empty ft h

/-! ## 1. line level -/

/-- RE-DELIMITED LINE. For ALL delimiters `frm`, `to` and separator arguments `seps`: the items the normal engine takes from a
line with numeric cells, and from the line re-laid for the delimiter `to`, are its cells up to `strip` — so the two item lists
agree up to `strip` — whatever admissible substitution sets are active. -/
theorem C09_redelim_line (frm to : Dlm) (seps : List Str) (l : Str) (h : NumCells frm l) (hs : SepsOK to seps)
    (sb sb' : Subs) (hsb : SubsOK frm sb) (hsb' : SubsOK to sb') :
    (lineTokens sb' to (relayLine1 frm to seps l)).map strip = cellsOf frm (splitEol l).1 ∧
    (lineTokens sb frm l).map strip = cellsOf frm (splitEol l).1 :=
  ⟨drow_lineTokens hsb' (drow_relay frm to seps l h hs), drow_lineTokens hsb (drow_of_numCells frm l h)⟩

/-- … for the substitution sets the reader uses: `readSubs`, with or without the run-on(-) substitution (the only change the
sniffer's recommendation can make) -/
theorem C09_redelim_line_readSubs (frm to : Dlm) (seps : List Str) (l : Str) (h : NumCells frm l) (hs : SepsOK to seps) :
    (lineTokens (readSubs to) to (relayLine1 frm to seps l)).map strip = cellsOf frm (splitEol l).1 ∧
    (lineTokens (readSubs frm) frm l).map strip = cellsOf frm (splitEol l).1 ∧
    (lineTokens (readSubs to).dropHyphen to (relayLine1 frm to seps l)).map strip = cellsOf frm (splitEol l).1 ∧
    (lineTokens (readSubs frm).dropHyphen frm l).map strip = cellsOf frm (splitEol l).1 := by
  have a := C09_redelim_line frm to seps l h hs _ _ (subsOK_readSubs frm) (subsOK_readSubs to)
  have b := C09_redelim_line frm to seps l h hs _ _ (subsOK_dropHyphen (subsOK_readSubs frm)) (subsOK_dropHyphen (subsOK_readSubs to))
  exact ⟨a.1, a.2, b.1, b.2⟩

/-- the items do not depend on the (admissible) substitution set at all -/
theorem C09_redelim_line_subs_irrelevant (frm : Dlm) (l : Str) (h : NumCells frm l) (sb sb2 : Subs) (hsb : SubsOK frm sb)
    (hsb2 : SubsOK frm sb2) : lineTokens sb frm l = lineTokens sb2 frm l := by
  rw [drow_lineTokens_raw hsb (drow_of_numCells frm l h), drow_lineTokens_raw hsb2 (drow_of_numCells frm l h)]

/-- SNIFFER, per line: both lines are sampled, and each counts as many items as the line has cells, under every admissible
substitution set.  (The hyphen flag of the sample is not compared: whatever it is, the recommendation `sniffTwice` accepts only
switches the run-on(-) substitution off, and the items do not depend on that — `C09_redelim_line_subs_irrelevant`.) -/
theorem C09_redelim_line_sniff (frm to : Dlm) (seps : List Str) (l : Str) (h : NumCells frm l) (hs : SepsOK to seps) :
    sampleLine l = some (cleanLine l) ∧
    sampleLine (relayLine1 frm to seps l) = some (cleanLine (relayLine1 frm to seps l)) ∧
    (∀ sb, SubsOK frm sb → (splitLine frm (applySubs sb (cleanLine l))).length = (cellsOf frm (splitEol l).1).length) ∧
    (∀ sb, SubsOK to sb →
      (splitLine to (applySubs sb (cleanLine (relayLine1 frm to seps l)))).length = (cellsOf frm (splitEol l).1).length) := by
  have d1 := drow_of_numCells frm l h
  have d2 := drow_relay frm to seps l h hs
  obtain ⟨s1, e1, c1⟩ := drow_sample d1
  obtain ⟨s2, e2, c2⟩ := drow_sample d2
  have f1 : sampleLine l = some (cleanLine l) := by rw [sampleLine_eq, drow_not_skip d1]; rfl
  have f2 : sampleLine (relayLine1 frm to seps l) = some (cleanLine (relayLine1 frm to seps l)) := by
    rw [sampleLine_eq, drow_not_skip d2]; rfl
  have g1 : s1 = cleanLine l := by rw [f1] at e1; exact (Option.some.inj e1).symm
  have g2 : s2 = cleanLine (relayLine1 frm to seps l) := by rw [f2] at e2; exact (Option.some.inj e2).symm
  subst g1 g2
  exact ⟨f1, f2, c1, c2⟩

/-- genfromtxt, per line, SPACE / TAB on both sides (a TAB is white space for `str.split()`): the same tokens, the cells -/
theorem C09_redelim_line_numpy (frm to : Dlm) (seps : List Str) (l : Str) (h : NumCells frm l) (hs : SepsOK to seps)
    (hf : frm ≠ .comma) (ht : to ≠ .comma) :
    npTokens (relayLine1 frm to seps l) = cellsOf frm (splitEol l).1 ∧ npTokens l = cellsOf frm (splitEol l).1 :=
  ⟨drow_npTokens ht (drow_relay frm to seps l h hs), drow_npTokens hf (drow_of_numCells frm l h)⟩

/-! ### the hypotheses of the line level are needed -/

def c09r (s : String) : Str := s.toList

/-- `SepsOK` is needed — and this is the behaviour of the real reader: a separator with a blank between two TABs gives a
spurious cell `" "` (`sot_regex = ([^\t"']+)|…` takes the blank for an item), so "changing the amount of blanks/tabs between
fields" of TAB-delimited data is NOT presentation-only when a blank gets between two TABs -/
theorem C09_redelim_tab_blank_between_tabs :
    NumCells .space (c09r "1 2\n") ∧ ¬ SepsOK .tab [c09r "\t \t"] ∧
    relayLine1 .space .tab [c09r "\t \t"] (c09r "1 2\n") = c09r "1\t \t2\n" ∧
    lineTokens (readSubs .tab) .tab (c09r "1\t \t2\n") = [c09r "1", c09r " ", c09r "2"] ∧
    SepsOK .tab [c09r " \t\t "] ∧ lineTokens (readSubs .tab) .tab (c09r "1 \t\t 2\n") = [c09r "1 ", c09r " 2"] := by
  decide +kernel

/-- `SubsOK` is needed: with the comma-decimal substitution on, `1,2` is one item (the reader switches it off for DLM COMMA) -/
theorem C09_redelim_subsOK_needed :
    NumCells .comma (c09r "1,2\n") ∧ ¬ SubsOK .comma Subs.default ∧
    lineTokens Subs.default .comma (c09r "1,2\n") = [c09r "1.2"] ∧ cellsOf .comma (c09r "1,2") = [c09r "1", c09r "2"] := by
  decide +kernel

/-- non-empty cells are needed: an empty COMMA cell disappears with the TAB (or SPACE) delimiter -/
theorem C09_redelim_empty_cell :
    ¬ NumCells .comma (c09r "1,,2\n") ∧ cellsOf .comma (c09r "1,,2") = [c09r "1", [], c09r "2"] ∧
    lineTokens (readSubs .tab) .tab (relayLine1 .comma .tab [] (c09r "1,,2\n")) = [c09r "1", c09r "2"] := by
  decide +kernel

/-- numeric cells are needed for "equal up to `strip`" to mean "equal curve data": a text cell keeps its padding (finding
dlm-pad-text; compare `C09_repad_delimited_keeps_padding`) -/
theorem C09_redelim_text_cell :
    ¬ NumCells .comma (c09r "1,abc\n") ∧
    lineTokens (readSubs .comma) .comma (relayLine1 .comma .comma [c09r " , "] (c09r "1,abc\n")) = [c09r "1 ", c09r " abc"] := by
  decide +kernel

/-! ## 2. typed columns -/

/-- ONE COLUMN. Two item lists that agree up to `strip`, `float()` ignoring the blanks around these items, the items of the
first all numbers: the same typed column (a float column). -/
theorem C09_redelim_typed_column (ft : FloatTable) (col col' : List Str) (he : col'.map strip = col.map strip)
    (h : FtStripOn ft col) (h' : FtStripOn ft col') (hc : Converts ft col) : typedColumn ft col' = typedColumn ft col :=
  typedColumn_congr ft col col' he h h' hc

/-- NORMAL ENGINE. Two bodies (any delimiters, any substitution sets) whose flat item lists agree up to `strip`: the same
result of `normalEngineLines` — columns or error — for EVERY `nColumns`. -/
theorem C09_redelim_engine_of_tokens (ft : FloatTable) (sb sb' : Subs) (dlm dlm' : Dlm) (b b' : List Str)
    (he : (normalTokens sb' dlm' b').map strip = (normalTokens sb dlm b).map strip)
    (h : FtStripOn ft (normalTokens sb dlm b)) (h' : FtStripOn ft (normalTokens sb' dlm' b'))
    (hc : Converts ft (normalTokens sb dlm b)) (n : Nat) :
    normalEngineLines ft sb' dlm' n b' = normalEngineLines ft sb dlm n b := by
  rw [normalEngineLines_eq, normalEngineLines_eq]
  exact engineToks_congr ft n _ _ he h h' hc


/-! ## 3. one data window -/

/-- FLAT ITEM LIST. A body all of whose data lines have `c` numeric cells (cut with `frm`), re-delimited for `to`: the flat item
lists of the normal engine agree up to `strip`, whatever admissible substitution sets are active. -/
theorem C09_redelim_tokens (frm to : Dlm) (c : Nat) (seps : List Str) (body : List Str) (hb : NumBody frm c body)
    (hs : SepsOK to seps) (sb sb' : Subs) (hsb : SubsOK frm sb) (hsb' : SubsOK to sb') :
    (normalTokens sb' to (relayBody frm to seps body)).map strip = (normalTokens sb frm body).map strip :=
  bodyRel_tokens hsb hsb' (bodyRel_relayBody frm to c seps body hb hs)

/-- NORMAL ENGINE. `float()` ignoring the blanks around the items of the two bodies, the items of the original body all numbers:
`normalEngineLines` returns the same columns (or the same error) for the re-delimited body read with `to` as for the body
read with `frm` — for every `nColumns` (the sniffed `c`, or the declared number of curves of a wrapped file) and every pair
of admissible substitution sets (`readSubs`, with or without the run-on(-) substitution). -/
theorem C09_redelim_engine (ft : FloatTable) (frm to : Dlm) (c : Nat) (seps : List Str) (body : List Str)
    (hb : NumBody frm c body) (hs : SepsOK to seps)
    (hS : FtStripOn ft (normalTokens (readSubs frm) frm body))
    (hS' : FtStripOn ft (normalTokens (readSubs to) to (relayBody frm to seps body)))
    (hC : Converts ft (normalTokens (readSubs frm) frm body))
    (sb sb' : Subs) (hsb : SubsOK frm sb) (hsb' : SubsOK to sb') (n : Nat) :
    normalEngineLines ft sb' to n (relayBody frm to seps body) = normalEngineLines ft sb frm n body := by
  have hrel := bodyRel_relayBody frm to c seps body hb hs
  have e1 : normalTokens sb frm body = normalTokens (readSubs frm) frm body :=
    numBodyD_tokens_indep hsb (subsOK_readSubs frm) (bodyRel_numBodyD hrel).1
  have e2 : normalTokens sb' to (relayBody frm to seps body) = normalTokens (readSubs to) to (relayBody frm to seps body) :=
    numBodyD_tokens_indep hsb' (subsOK_readSubs to) (bodyRel_numBodyD hrel).2
  apply C09_redelim_engine_of_tokens
  · rw [e1, e2]; exact bodyRel_tokens (subsOK_readSubs frm) (subsOK_readSubs to) hrel
  · rw [e1]; exact hS
  · rw [e2]; exact hS'
  · rw [e1]; exact hC

/-- SNIFFER. The sniffed column count (`inspect_data_section` run once or twice: 21-line sample, hyphen recommendation) of the
re-delimited window read with `to` equals that of the original window read with `frm`; it is `c` as soon as the window has a
data line.  The substitution sets the two runs end with may differ (run-on(-) on or off): both are admissible. -/
theorem C09_redelim_sniff (frm to : Dlm) (c : Nat) (seps : List Str) (body : List Str) (hb : NumBody frm c body)
    (hs : SepsOK to seps) (A A' : List Str) (t t' : Str) (after after' : List Str) :
    (sniffTwice (readSubs to) to (A' ++ t' :: (relayBody frm to seps body ++ after')) A'.length
        (A'.length + (relayBody frm to seps body).length)).2 =
      (sniffTwice (readSubs frm) frm (A ++ t :: (body ++ after)) A.length (A.length + body.length)).2 ∧
    ((∃ l ∈ body, isSkip l = false) →
      (sniffTwice (readSubs frm) frm (A ++ t :: (body ++ after)) A.length (A.length + body.length)).2 = some c) ∧
    SubsOK to (sniffTwice (readSubs to) to (A' ++ t' :: (relayBody frm to seps body ++ after')) A'.length
        (A'.length + (relayBody frm to seps body).length)).1 ∧
    SubsOK frm (sniffTwice (readSubs frm) frm (A ++ t :: (body ++ after)) A.length (A.length + body.length)).1 := by
  have hrel := bodyRel_relayBody frm to c seps body hb hs
  simp only [sniffTwice_body, bodyLines_at]
  rw [numBodyD_sniffTwiceB (subsOK_readSubs to) (bodyRel_numBodyD hrel).2, numBodyD_sniffTwiceB (subsOK_readSubs frm) (bodyRel_numBodyD hrel).1,
    bodyRel_dataCount hrel]
  exact ⟨rfl, fun h => consistent_replicate _ c (dataCount_pos body h), sniffTwiceB_subsOK (subsOK_readSubs to) _,
    sniffTwiceB_subsOK (subsOK_readSubs frm) _⟩

/-- `readData`, NORMAL ENGINE IN EFFECT (engine='normal', or a wrapped file, or a null policy other than strict). The window
`(first, last)` of the original document is read with the steering delimiter `frm`; the re-delimited window — wherever it
stands in the new document (`A'`, `t'`), whatever follows it — with the steering delimiter `to`, all other steering values
equal: the same result (engine, curves, or the same error). -/
theorem C09_redelim_readData_normal (o : DataOpts) (st : Steer) (d : Nat) (ft : FloatTable) (to : Dlm) (c : Nat)
    (seps : List Str) (body : List Str) (he : effectiveEngine o st = .normal)
    (hb : NumBody st.delimiter c body) (hs : SepsOK to seps)
    (hS : FtStripOn ft (normalTokens (readSubs st.delimiter) st.delimiter body))
    (hS' : FtStripOn ft (normalTokens (readSubs to) to (relayBody st.delimiter to seps body)))
    (hC : Converts ft (normalTokens (readSubs st.delimiter) st.delimiter body))
    (A A' : List Str) (t t' : Str) (after after' : List Str) :
    readData o (A' ++ t' :: (relayBody st.delimiter to seps body ++ after')) A'.length
        (A'.length + (relayBody st.delimiter to seps body).length) (withDlm st to) d ft =
      readData o (A ++ t :: (body ++ after)) A.length (A.length + body.length) st d ft := by
  rw [readData_window, readData_window]
  exact readBody_rel_normal o st to d ft after after' he (bodyRel_relayBody st.delimiter to c seps body hb hs) hS hS' hC

/-- `readData`, ANY ENGINE, SPACE / TAB on both sides. `genfromtxt` splits on white space, and a TAB is white space: it sees the
same tokens in the two windows, so — the lines after the window being the same — it gives the same answer or fails on both,
and then the normal engine gives the same answer: the same result from the same engine. -/
theorem C09_redelim_readData_ws (o : DataOpts) (st : Steer) (d : Nat) (ft : FloatTable) (to : Dlm) (c : Nat)
    (seps : List Str) (body : List Str) (hf : st.delimiter ≠ .comma) (ht : to ≠ .comma)
    (hb : NumBody st.delimiter c body) (hs : SepsOK to seps)
    (hS : FtStripOn ft (normalTokens (readSubs st.delimiter) st.delimiter body))
    (hS' : FtStripOn ft (normalTokens (readSubs to) to (relayBody st.delimiter to seps body)))
    (hC : Converts ft (normalTokens (readSubs st.delimiter) st.delimiter body))
    (A A' : List Str) (t t' : Str) (after : List Str) :
    readData o (A' ++ t' :: (relayBody st.delimiter to seps body ++ after)) A'.length
        (A'.length + (relayBody st.delimiter to seps body).length) (withDlm st to) d ft =
      readData o (A ++ t :: (body ++ after)) A.length (A.length + body.length) st d ft := by
  rw [readData_window, readData_window]
  exact readBody_rel_ws o st to d ft after hf ht (bodyRel_relayBody st.delimiter to c seps body hb hs) hS hS' hC

/-- `readData`, ANY ENGINE, ANY DELIMITERS. With the COMMA delimiter on one side `genfromtxt` does not see the cells (`1,2` is
one token for it), so nothing can be said about its answer in general; what is true: when on each of the two windows the
engines agree (`AgreeAlone`: reading the window as the last section of a file gives the curves the normal engine gives — trivial
when the normal engine is in effect, true of every window on which genfromtxt raises) and each window is followed by the end
of the file or a title line (`AfterOK`), the CURVES are the same; the engine that produced them may differ
(`C09_redelim_engine_may_change`). -/
theorem C09_redelim_readData_agree (o : DataOpts) (st : Steer) (d : Nat) (ft : FloatTable) (to : Dlm) (c : Nat)
    (seps : List Str) (body : List Str)
    (hb : NumBody st.delimiter c body) (hs : SepsOK to seps)
    (hS : FtStripOn ft (normalTokens (readSubs st.delimiter) st.delimiter body))
    (hS' : FtStripOn ft (normalTokens (readSubs to) to (relayBody st.delimiter to seps body)))
    (hC : Converts ft (normalTokens (readSubs st.delimiter) st.delimiter body))
    (A A' : List Str) (t t' : Str) (after after' : List Str) (ha : AfterOK ft after) (ha' : AfterOK ft after')
    (hag : AgreeAlone o st d ft body) (hag' : AgreeAlone o (withDlm st to) d ft (relayBody st.delimiter to seps body)) :
    (readData o (A' ++ t' :: (relayBody st.delimiter to seps body ++ after')) A'.length
        (A'.length + (relayBody st.delimiter to seps body).length) (withDlm st to) d ft).map Prod.snd =
      (readData o (A ++ t :: (body ++ after)) A.length (A.length + body.length) st d ft).map Prod.snd := by
  rw [readData_window, readData_window, readBody_alone o st d ft body after ha hag,
    readBody_alone o (withDlm st to) d ft _ after' ha' hag',
    normalRead_rel o st to d ft (bodyRel_relayBody st.delimiter to c seps body hb hs) hS hS' hC]

/-- … on the document `redelim` produces. The original document is `A ++ t :: (body ++ after)` (`t` the title line of the data
section); the DLM item of ~Version is line `vk` of `A` (`replace`) or a new item line is inserted before line `vk ≤ |A|`.
`redelim` changes `A` into `redelimHead vk replace to A` and the body into the re-laid body, nothing else; the data section
of the new document read with the steering delimiter `to` gives what the data section of the original gives with `frm`
(normal engine in effect; for the other engines see `C09_redelim_readData_ws`, `C09_redelim_readData_agree`). -/
theorem C09_redelim_window (o : DataOpts) (st : Steer) (d : Nat) (ft : FloatTable) (to : Dlm) (c : Nat)
    (seps : List Str) (body : List Str) (he : effectiveEngine o st = .normal)
    (hb : NumBody st.delimiter c body) (hs : SepsOK to seps)
    (hS : FtStripOn ft (normalTokens (readSubs st.delimiter) st.delimiter body))
    (hS' : FtStripOn ft (normalTokens (readSubs to) to (relayBody st.delimiter to seps body)))
    (hC : Converts ft (normalTokens (readSubs st.delimiter) st.delimiter body))
    (A : List Str) (t : Str) (after : List Str) (vk : Nat) (replace : Bool) (hvk : vk ≤ A.length)
    (hrep : replace = true → vk < A.length) :
    redelim A.length (A.length + body.length) vk replace st.delimiter to seps (A ++ t :: (body ++ after)) =
      redelimHead vk replace to A ++ t :: (relayBody st.delimiter to seps body ++ after) ∧
    readData o (redelim A.length (A.length + body.length) vk replace st.delimiter to seps (A ++ t :: (body ++ after)))
        (redelimHead vk replace to A).length ((redelimHead vk replace to A).length + body.length) (withDlm st to) d ft =
      readData o (A ++ t :: (body ++ after)) A.length (A.length + body.length) st d ft := by
  have e := redelim_window A t body after vk replace st.delimiter to seps hvk hrep
  refine ⟨e, ?_⟩
  rw [e]
  have := C09_redelim_readData_normal o st d ft to c seps body he hb hs hS hS' hC A (redelimHead vk replace to A) t t after after
  rw [relayBody_length] at this
  exact this

/-! ## 4. `frm = to`: re-padding TAB- and COMMA-delimited lines (`repadLine`) -/

/-- RE-PADDED LINE: new separators (blanks around the one TAB run / the comma) between the numeric cells of a line: the items
agree up to `strip` -/
theorem C09_repad_delimited_line (dlm : Dlm) (seps : List Str) (l : Str) (h : NumCells dlm l) (hs : SepsOK dlm seps)
    (sb sb' : Subs) (hsb : SubsOK dlm sb) (hsb' : SubsOK dlm sb') :
    (lineTokens sb' dlm (relayLine1 dlm dlm seps l)).map strip = (lineTokens sb dlm l).map strip := by
  obtain ⟨h1, h2⟩ := C09_redelim_line dlm dlm seps l h hs sb sb' hsb hsb'
  rw [h1, h2]

/-- `repadLine` on data line `j` of a window (normal engine in effect): the same result of `readData` -/
theorem C09_repad_delimited_readData (o : DataOpts) (st : Steer) (d : Nat) (ft : FloatTable) (c : Nat)
    (seps : List Str) (body : List Str) (j : Nat) (hj : j < body.length) (hdata : ∀ l, body[j]? = some l → isSkip l = false)
    (he : effectiveEngine o st = .normal) (hb : NumBody st.delimiter c body) (hs : SepsOK st.delimiter seps)
    (hS : FtStripOn ft (normalTokens (readSubs st.delimiter) st.delimiter body))
    (hS' : FtStripOn ft (normalTokens (readSubs st.delimiter) st.delimiter
      (mapAt j (relayLine1 st.delimiter st.delimiter seps) body)))
    (hC : Converts ft (normalTokens (readSubs st.delimiter) st.delimiter body))
    (A : List Str) (t : Str) (after : List Str) :
    readData o (repadLine (A.length + 1 + j) st.delimiter seps (A ++ t :: (body ++ after))) A.length (A.length + body.length) st d ft =
      readData o (A ++ t :: (body ++ after)) A.length (A.length + body.length) st d ft := by
  rw [repadLine_window A t body after j st.delimiter seps hj]
  have hl := mapAt_length j (relayLine1 st.delimiter st.delimiter seps) body
  conv => lhs; rw [← hl]
  rw [readData_window, readData_window]
  exact readBody_rel_normal o st st.delimiter d ft after after he (bodyRel_mapAt st.delimiter c seps body j hb hs hdata) hS hS' hC

/-- … any engine, TAB (or SPACE) delimiter -/
theorem C09_repad_delimited_readData_ws (o : DataOpts) (st : Steer) (d : Nat) (ft : FloatTable) (c : Nat)
    (seps : List Str) (body : List Str) (j : Nat) (hj : j < body.length) (hdata : ∀ l, body[j]? = some l → isSkip l = false)
    (hd : st.delimiter ≠ .comma) (hb : NumBody st.delimiter c body) (hs : SepsOK st.delimiter seps)
    (hS : FtStripOn ft (normalTokens (readSubs st.delimiter) st.delimiter body))
    (hS' : FtStripOn ft (normalTokens (readSubs st.delimiter) st.delimiter
      (mapAt j (relayLine1 st.delimiter st.delimiter seps) body)))
    (hC : Converts ft (normalTokens (readSubs st.delimiter) st.delimiter body))
    (A : List Str) (t : Str) (after : List Str) :
    readData o (repadLine (A.length + 1 + j) st.delimiter seps (A ++ t :: (body ++ after))) A.length (A.length + body.length) st d ft =
      readData o (A ++ t :: (body ++ after)) A.length (A.length + body.length) st d ft := by
  rw [repadLine_window A t body after j st.delimiter seps hj]
  have hl := mapAt_length j (relayLine1 st.delimiter st.delimiter seps) body
  conv => lhs; rw [← hl]
  rw [readData_window, readData_window]
  exact readBody_rel_ws o st st.delimiter d ft after hd hd (bodyRel_mapAt st.delimiter c seps body j hb hs hdata) hS hS' hC


/-- … the whole file: `repadLine` on data line `j` of a data section, ANY delimiter — numeric cells, `float()` ignoring the blanks
around the items met, the normal engine in effect or a delimiter other than COMMA.  The transformed document is readable with
the same steering values and the same parsed result, and is again a `Base`: this is the conclusion of `C09_step`, so the
transformation can be chained with the others (`C09_compose`). -/
theorem C09_repad_delimited_file (o : Opts) (nullOf : Option Str → Option Str) (ft : FloatTable) (htf : TildeNotFloat ft)
    (pre : List Str) (s₁ s₂ : List (Str × List Str)) (t : Str) (body : List Str) (j : Nat) (dlm : Dlm) (seps : List Str) (c : Nat)
    (r : FullRead) (hpre : ∀ x ∈ pre, Rd.isTitle x = false) (hw : Rd.WellFormed (s₁ ++ (t, body) :: s₂))
    (hk : isDataKind (kindOf t)) (hj : j < body.length) (hdata : ∀ l, body[j]? = some l → isSkip l = false)
    (hb : Base o nullOf ft (pre ++ Rd.flat (s₁ ++ (t, body) :: s₂)) r)
    (hdlm : (dtSteer nullOf r.steer).delimiter = dlm)
    (heng : effectiveEngine o.dat (dtSteer nullOf r.steer) = .normal ∨ dlm ≠ .comma)
    (hnb : NumBody dlm c body) (hs : SepsOK dlm seps)
    (hS : FtStripOn ft (normalTokens (readSubs dlm) dlm body))
    (hS' : FtStripOn ft (normalTokens (readSubs dlm) dlm (mapAt j (relayLine1 dlm dlm seps) body)))
    (hC : Converts ft (normalTokens (readSubs dlm) dlm body)) :
    ∃ r', Base o nullOf ft ((Transform.repadLine (pre.length + Rd.size s₁ + 1 + j) dlm seps).apply
        (pre ++ Rd.flat (s₁ ++ (t, body) :: s₂))) r' ∧ r'.steer = r.steer ∧ r'.parsed = r.parsed :=
  base_repad_delimited o nullOf ft htf pre s₁ s₂ t body j dlm seps c r hpre hw hk hj hdata hb hdlm heng hnb hs hS hS' hC

/-- … in terms of `readModel` -/
theorem C09_repad_delimited_readModel (o : Opts) (nullOf : Option Str → Option Str) (ft : FloatTable) (htf : TildeNotFloat ft)
    (pre : List Str) (s₁ s₂ : List (Str × List Str)) (t : Str) (body : List Str) (j : Nat) (dlm : Dlm) (seps : List Str) (c : Nat)
    (r : FullRead) (hpre : ∀ x ∈ pre, Rd.isTitle x = false) (hw : Rd.WellFormed (s₁ ++ (t, body) :: s₂))
    (hk : isDataKind (kindOf t)) (hj : j < body.length) (hdata : ∀ l, body[j]? = some l → isSkip l = false)
    (hb : Base o nullOf ft (pre ++ Rd.flat (s₁ ++ (t, body) :: s₂)) r)
    (hdlm : (dtSteer nullOf r.steer).delimiter = dlm)
    (heng : effectiveEngine o.dat (dtSteer nullOf r.steer) = .normal ∨ dlm ≠ .comma)
    (hnb : NumBody dlm c body) (hs : SepsOK dlm seps)
    (hS : FtStripOn ft (normalTokens (readSubs dlm) dlm body))
    (hS' : FtStripOn ft (normalTokens (readSubs dlm) dlm (mapAt j (relayLine1 dlm dlm seps) body)))
    (hC : Converts ft (normalTokens (readSubs dlm) dlm body)) :
    readModel o nullOf ft (repadLine (pre.length + Rd.size s₁ + 1 + j) dlm seps (pre ++ Rd.flat (s₁ ++ (t, body) :: s₂))) =
      readModel o nullOf ft (pre ++ Rd.flat (s₁ ++ (t, body) :: s₂)) := by
  obtain ⟨r', hb', _, hp⟩ :=
    C09_repad_delimited_file o nullOf ft htf pre s₁ s₂ t body j dlm seps c r hpre hw hk hj hdata hb hdlm heng hnb hs hS hS' hC
  exact (hb'.readModel.trans (congrArg _ hp)).trans hb.readModel.symm

/-! ### COMMA-delimited windows and genfromtxt -/

/-- GENFROMTXT RAISES on a COMMA window: `1,2` is one token for `str.split()` and — the hypothesis `CommaNotFloat ft`, true of
Python's `float()` — not a number.  So a window with a data line of two or more numeric cells is read by the normal engine
whatever engine is requested, and `AgreeAlone` (the hypothesis of `C09_redelim_readData_agree`) holds of it. -/
theorem C09_redelim_comma_numpy_raises (o : DataOpts) (st : Steer) (d : Nat) (ft : FloatTable) (hcf : CommaNotFloat ft) (c : Nat)
    (body : List Str) (hb : NumBody .comma c body) (hc : 2 ≤ c) (hd : ∃ l ∈ body, isSkip l = false) :
    (∀ after, numpyEngineLines ft body.length (body ++ after) = none) ∧
    (∀ after, readBody o st d ft body after = normalRead o st d ft body) ∧ AgreeAlone o st d ft body := by
  have hN := numBody_numBodyD hb
  refine ⟨numpy_raises_comma ft hcf hN hc hd, readBody_comma o st d ft hcf hN hc hd, ?_⟩
  unfold AgreeAlone
  rw [readBody_comma o st d ft hcf hN hc hd]

/-- COMMA → COMMA (re-padding every line, or `redelim` to the same delimiter), ANY engine: the same result (from the normal
engine on both sides) -/
theorem C09_redelim_readData_comma (o : DataOpts) (st : Steer) (d : Nat) (ft : FloatTable) (hcf : CommaNotFloat ft) (c : Nat)
    (seps : List Str) (body : List Str) (hdl : st.delimiter = .comma) (hc : 2 ≤ c) (hd : ∃ l ∈ body, isSkip l = false)
    (hb : NumBody st.delimiter c body)
    (hS : FtStripOn ft (normalTokens (readSubs st.delimiter) st.delimiter body))
    (hS' : FtStripOn ft (normalTokens (readSubs .comma) .comma (relayBody st.delimiter .comma seps body)))
    (hC : Converts ft (normalTokens (readSubs st.delimiter) st.delimiter body))
    (A A' : List Str) (t t' : Str) (after after' : List Str) :
    readData o (A' ++ t' :: (relayBody st.delimiter .comma seps body ++ after')) A'.length
        (A'.length + (relayBody st.delimiter .comma seps body).length) (withDlm st .comma) d ft =
      readData o (A ++ t :: (body ++ after)) A.length (A.length + body.length) st d ft := by
  have hrel := bodyRel_relayBody st.delimiter .comma c seps body hb trivial
  have hl := (bodyRel_numBodyD hrel).1
  rw [hdl] at hl
  rw [readData_window, readData_window, readBody_comma o st d ft hcf hl hc hd,
    readBody_comma o (withDlm st .comma) d ft hcf (bodyRel_numBodyD hrel).2 hc (bodyRel_data hrel hd)]
  exact normalRead_rel o st .comma d ft hrel hS hS' hC

/-! ## 5. the whole file, given what the header-level reader returns -/

/-- HEADER LEVEL, the body: re-laying the body of a data section (numeric cells) is invisible to the header-level reader — the same
sections, steering values and data windows -/
theorem C09_redelim_header_body (o : Rd.ReadOpts) (pre : List Str) (s₁ s₂ : List (Str × List Str)) (t : Str) (body : List Str)
    (frm to : Dlm) (c : Nat) (seps : List Str) (hpre : ∀ x ∈ pre, Rd.isTitle x = false)
    (hw : Rd.WellFormed (s₁ ++ (t, body) :: s₂)) (hk : isDataKind (kindOf t)) (hb : NumBody frm c body) (hs : SepsOK to seps)
    (h : Rd.RHeader) (hr : Rd.readLines o (pre ++ Rd.flat (s₁ ++ (t, body) :: s₂)) = .ok h) :
    Rd.readLines o (pre ++ Rd.flat (s₁ ++ (t, relayBody frm to seps body) :: s₂)) = .ok h :=
  readLines_relayBody o pre s₁ s₂ t body frm to c seps hpre hw hk hb hs h hr

theorem dlmOf_dlmName (to : Dlm) : dlmOf (some (dlmName to)) = to := by
  cases to <;> decide

/-- WHOLE FILE, DATA PART. `readFull` = the header-level reader `Rd.readLines`, then `readData` on every data window it reports.
GIVEN what `Rd.readLines` returns for the original document and for the document `redelim` produces — one data window (the
re-delimited one) in each, the steering values equal but for the delimiter, now `to`, the same number of declared curves — the
two files are readable and their data sections read to the same result.  (That the header-level reader does return this for a
~Version section whose DLM item was replaced / inserted is `C09_redelim_header` in Props/C09RedelimFile.lean; in the example
below it is checked by evaluation.) -/
theorem C09_redelim_file_of_header (o : Opts) (nullOf : Option Str → Option Str) (ft : FloatTable) (to : Dlm) (c : Nat)
    (seps : List Str) (body : List Str) (A : List Str) (t : Str) (after : List Str) (vk : Nat) (replace : Bool)
    (hvk : vk ≤ A.length) (hrep : replace = true → vk < A.length) (h h' : Rd.RHeader) (ttl ttl' : Str)
    (hr : Rd.readLines o.hdr (A ++ t :: (body ++ after)) = .ok h)
    (hr' : Rd.readLines o.hdr
      (redelim A.length (A.length + body.length) vk replace (dlmOf h.steer.dlm) to seps (A ++ t :: (body ++ after))) = .ok h')
    (hdata : h.data = [(A.length, A.length + body.length, ttl)])
    (hdata' : h'.data = [((redelimHead vk replace to A).length, (redelimHead vk replace to A).length + body.length, ttl')])
    (hsteer : h'.steer = { h.steer with dlm := some (dlmName to) })
    (hdecl : declaredCount h'.sections = declaredCount h.sections)
    (he : effectiveEngine o.dat (dtSteer nullOf h.steer) = .normal)
    (hb : NumBody (dlmOf h.steer.dlm) c body) (hs : SepsOK to seps)
    (hS : FtStripOn ft (normalTokens (readSubs (dlmOf h.steer.dlm)) (dlmOf h.steer.dlm) body))
    (hS' : FtStripOn ft (normalTokens (readSubs to) to (relayBody (dlmOf h.steer.dlm) to seps body)))
    (hC : Converts ft (normalTokens (readSubs (dlmOf h.steer.dlm)) (dlmOf h.steer.dlm) body)) :
    ∃ r r', readFull o nullOf ft (A ++ t :: (body ++ after)) = .ok r ∧
      readFull o nullOf ft
        (redelim A.length (A.length + body.length) vk replace (dlmOf h.steer.dlm) to seps (A ++ t :: (body ++ after))) = .ok r' ∧
      r.sections = h.sections ∧ r'.sections = h'.sections ∧ r'.steer = { r.steer with dlm := some (dlmName to) } ∧
      r'.data.map (·.res) = r.data.map (·.res) := by
  have hst : dtSteer nullOf h'.steer = withDlm (dtSteer nullOf h.steer) to := by
    rw [hsteer]
    simp only [dtSteer, withDlm, dlmOf_dlmName]
  have hw := C09_redelim_window o.dat (dtSteer nullOf h.steer) (declaredCount h.sections) ft to c seps body he hb hs hS hS' hC
    A t after vk replace hvk hrep
  refine ⟨_, _, by unfold readFull; rw [hr], by unfold readFull; rw [hr'], rfl, rfl, hsteer, ?_⟩
  simp only [hdata, hdata', List.map_cons, List.map_nil, hst, hdecl]
  exact congrArg (fun x => [x]) hw.2

/-! ## the hypotheses of the window level are needed -/

def rdFtPad : FloatTable := [(c09r "1 ", c09r "x"), (c09r "1", c09r "a1"), (c09r "2", c09r "a2")]
def rdFtNo1 : FloatTable := [(c09r "2", c09r "a2")]

/-- `FtStripOn` is needed: a table that does not treat `"1 "` as `"1"` tells `1 ,2` from `1,2` (all items convert) -/
theorem C09_redelim_ftStrip_needed :
    NumBody .comma 2 [c09r "1 ,2\n"] ∧ Converts rdFtPad (normalTokens (readSubs .comma) .comma [c09r "1 ,2\n"]) ∧
    ¬ FtStripOn rdFtPad (normalTokens (readSubs .comma) .comma [c09r "1 ,2\n"]) ∧
    relayBody .comma .comma [] [c09r "1 ,2\n"] = [c09r "1,2\n"] ∧
    normalEngineLines rdFtPad (readSubs .comma) .comma 2 [c09r "1 ,2\n"] = .ok [.floats [c09r "x"], .floats [c09r "a2"]] ∧
    normalEngineLines rdFtPad (readSubs .comma) .comma 2 [c09r "1,2\n"] = .ok [.floats [c09r "a1"], .floats [c09r "a2"]] := by
  decide +kernel

/-- `Converts` is needed: an item `float()` rejects makes a TEXT column, and a text column keeps the padding -/
theorem C09_redelim_converts_needed :
    FtStripOn rdFtNo1 (normalTokens (readSubs .comma) .comma [c09r "1 ,2\n"]) ∧
    FtStripOn rdFtNo1 (normalTokens (readSubs .comma) .comma [c09r "1,2\n"]) ∧
    ¬ Converts rdFtNo1 (normalTokens (readSubs .comma) .comma [c09r "1 ,2\n"]) ∧
    normalEngineLines rdFtNo1 (readSubs .comma) .comma 2 [c09r "1 ,2\n"] = .ok [.text [c09r "1 "], .floats [c09r "a2"]] ∧
    normalEngineLines rdFtNo1 (readSubs .comma) .comma 2 [c09r "1,2\n"] = .ok [.text [c09r "1"], .floats [c09r "a2"]] := by
  decide +kernel

def rdFt14 : FloatTable := [(c09r "1", c09r "a1"), (c09r "2", c09r "a2"), (c09r "3", c09r "a3"), (c09r "4", c09r "a4")]
def rdStComma : Steer := ⟨true, c09r "NO", none, .comma⟩

/-- with the numpy engine requested, COMMA data are read by the normal engine (genfromtxt raises on `1,2`), the same data
re-delimited with blanks by genfromtxt: the curves are the same, the engine is not (`C09_redelim_readData_agree` speaks about
the curves) -/
theorem C09_redelim_engine_may_change :
    readData ⟨.numpy, .strict⟩ [c09r "~A\n", c09r "1,2\n", c09r "3,4\n"] 0 2 rdStComma 2 rdFt14 =
      .ok (.normal, [(.declared 0, .floats [c09r "a1", c09r "a3"]), (.declared 1, .floats [c09r "a2", c09r "a4"])]) ∧
    relayBody .comma .space [] [c09r "1,2\n", c09r "3,4\n"] = [c09r "1 2\n", c09r "3 4\n"] ∧
    readData ⟨.numpy, .strict⟩ [c09r "~A\n", c09r "1 2\n", c09r "3 4\n"] 0 2 (withDlm rdStComma .space) 2 rdFt14 =
      .ok (.numpy, [(.declared 0, .floats [c09r "a1", c09r "a3"]), (.declared 1, .floats [c09r "a2", c09r "a4"])]) := by
  decide +kernel

/-- the engines agree on a window on which genfromtxt raises (COMMA data of two or more columns, when `float()` rejects `1,2`) -/
theorem C09_redelim_agree_of_numpy_raises (o : DataOpts) (st : Steer) (d : Nat) (ft : FloatTable) (b : List Str)
    (h : numpyEngineLines ft b.length (b ++ []) = none) : AgreeAlone o st d ft b := by
  unfold AgreeAlone
  cases he : effectiveEngine o st with
  | normal => simp only [readBody, he]
  | numpy => rw [readBody_numpy_none o st d ft b [] he h]

/-! ## non-vacuity -/

def rdExBody : List Str := [c09r "1.5 , -2,3e5\n", c09r "# 2018-05-22 - note\n", c09r "4,5 ,6\r\n"]
def rdExHead : List Str := [c09r "~V\n", c09r "VERS. 2.0 : v\n", c09r "WRAP. NO : w\n", c09r "DLM. COMMA : d\n", c09r "~C\n", c09r "A.M : a\n",
  c09r "B.M : b\n", c09r "C.M : c\n"]
def rdExSeps : List Str := [c09r " \t", c09r "x\t\t"]
def rdExFt : FloatTable := [(c09r "1.5", c09r "v1"), (c09r "1.5 ", c09r "v1"), (c09r "-2", c09r "v2"), (c09r " -2", c09r "v2"), (c09r "3e5", c09r "v3"),
  (c09r "4", c09r "v4"), (c09r "4 ", c09r "v4"), (c09r "5", c09r "v5"), (c09r "5 ", c09r "v5"), (c09r "6", c09r "v6")]

/-- A COMMA-delimited data section (padding blanks, a comment line with hyphens, a CRLF line) re-delimited with TABs (padding
blanks before the TABs, a double TAB): all side conditions hold, the DLM item (line 3) is replaced, and — instance of
`C09_redelim_window` — the data section reads to the same three float curves. -/
example :
    NumBody .comma 3 rdExBody ∧ SepsOK .tab rdExSeps ∧
    FtStripOn rdExFt (normalTokens (readSubs .comma) .comma rdExBody) ∧
    FtStripOn rdExFt (normalTokens (readSubs .tab) .tab (relayBody .comma .tab rdExSeps rdExBody)) ∧
    Converts rdExFt (normalTokens (readSubs .comma) .comma rdExBody) ∧
    redelim 8 11 3 true .comma .tab rdExSeps (rdExHead ++ c09r "~A\n" :: (rdExBody ++ [])) =
      [c09r "~V\n", c09r "VERS. 2.0 : v\n", c09r "WRAP. NO : w\n", c09r "DLM. TAB : delimiter\n", c09r "~C\n", c09r "A.M : a\n",
        c09r "B.M : b\n", c09r "C.M : c\n", c09r "~A\n", c09r "1.5 \t-2\t\t3e5\n", c09r "# 2018-05-22 - note\n", c09r "4 \t5\t\t6\r\n"] ∧
    readData ⟨.normal, .strict⟩ (redelim 8 11 3 true .comma .tab rdExSeps (rdExHead ++ c09r "~A\n" :: (rdExBody ++ []))) 8 11
        (withDlm rdStComma .tab) 3 rdExFt =
      readData ⟨.normal, .strict⟩ (rdExHead ++ c09r "~A\n" :: (rdExBody ++ [])) 8 11 rdStComma 3 rdExFt ∧
    readData ⟨.normal, .strict⟩ (rdExHead ++ c09r "~A\n" :: (rdExBody ++ [])) 8 11 rdStComma 3 rdExFt =
      .ok (.normal, [(.declared 0, .floats [c09r "v1", c09r "v4"]), (.declared 1, .floats [c09r "v2", c09r "v5"]),
        (.declared 2, .floats [c09r "v3", c09r "v6"])]) := by
  -- the conjuncts but the seventh, evaluated together; the seventh is the theorem
  suffices h : _ ∧ _ ∧ _ ∧ _ ∧ _ ∧ _ ∧ _ from
    ⟨h.1, h.2.1, h.2.2.1, h.2.2.2.1, h.2.2.2.2.1, h.2.2.2.2.2.1,
      (C09_redelim_window ⟨.normal, .strict⟩ rdStComma 3 rdExFt .tab 3 rdExSeps rdExBody rfl h.1 h.2.1 h.2.2.1 h.2.2.2.1
        h.2.2.2.2.1 rdExHead (c09r "~A\n") [] 3 true (by decide) (by decide)).2, h.2.2.2.2.2.2⟩
  decide +kernel


def rdExDoc : Doc := rdExHead ++ c09r "~A\n" :: (rdExBody ++ [])
def rdExOpts : Opts := ⟨⟨false, .preserve⟩, ⟨.normal, .strict⟩⟩

def rdExHdr (d : Doc) : Rd.RHeader :=
  match Rd.readLines rdExOpts.hdr d with
  | .ok h => h
  | .error _ => ⟨[], Rd.Steer.init, []⟩

theorem rdExHdr_spec (d : Doc) (h : (Rd.readLines rdExOpts.hdr d).isOk = true) : Rd.readLines rdExOpts.hdr d = .ok (rdExHdr d) :=
  Except.eq_ok_of_isOk h (fun r hr => by unfold rdExHdr; rw [hr])

/-- the header-level facts `C09_redelim_file_of_header` asks for hold of the example (by evaluation): both documents are
readable, one data window each, the steering values differ in the delimiter only, three declared curves -/
theorem C09_redelim_example_header :
    Rd.readLines rdExOpts.hdr rdExDoc = .ok (rdExHdr rdExDoc) ∧
    Rd.readLines rdExOpts.hdr (redelim 8 11 3 true .comma .tab rdExSeps rdExDoc) = .ok (rdExHdr (redelim 8 11 3 true .comma .tab rdExSeps rdExDoc)) ∧
    (rdExHdr rdExDoc).data = [(8, 11, c09r "~A")] ∧ (rdExHdr (redelim 8 11 3 true .comma .tab rdExSeps rdExDoc)).data = [(8, 11, c09r "~A")] ∧
    (rdExHdr rdExDoc).steer.dlm = some (c09r "COMMA") ∧
    (rdExHdr (redelim 8 11 3 true .comma .tab rdExSeps rdExDoc)).steer = { (rdExHdr rdExDoc).steer with dlm := some (dlmName .tab) } ∧
    declaredCount (rdExHdr (redelim 8 11 3 true .comma .tab rdExSeps rdExDoc)).sections = declaredCount (rdExHdr rdExDoc).sections := by
  suffices h : (Rd.readLines rdExOpts.hdr rdExDoc).isOk = true ∧
      (Rd.readLines rdExOpts.hdr (redelim 8 11 3 true .comma .tab rdExSeps rdExDoc)).isOk = true ∧ _ from
    ⟨rdExHdr_spec _ h.1, rdExHdr_spec _ h.2.1, h.2.2⟩
  decide +kernel

def rdExRead : FullRead :=
  match readFull rdExOpts (fun _ => none) rdExFt rdExDoc with
  | .ok r => r
  | .error _ => ⟨[], Rd.Steer.init, []⟩

theorem C09_redelim_example_tilde : TildeNotFloat rdExFt := tildeNotFloat_of_keys _ (by decide +kernel)

theorem rdExRead_base : Base rdExOpts (fun _ => none) rdExFt rdExDoc rdExRead ∧ dtSteer (fun _ => none) rdExRead.steer = rdStComma := by
  have h : (readFull rdExOpts (fun _ => none) rdExFt rdExDoc).isOk = true ∧ dtSteer (fun _ => none) rdExRead.steer = rdStComma := by
    decide +kernel
  exact ⟨base_of_normal (Except.eq_ok_of_isOk h.1 (fun r hr => by unfold rdExRead; rw [hr])) rfl, h.2⟩

/-- whole file, `repadLine` on a COMMA-delimited data line (instance of `C09_repad_delimited_readModel`): the first data row
`1.5 , -2,3e5` re-padded to `1.5 ,-2,3e5` -/
example :
    repadLine 9 .comma [c09r " ,"] rdExDoc =
      rdExHead ++ [c09r "~A\n", c09r "1.5 ,-2,3e5\n", c09r "# 2018-05-22 - note\n", c09r "4,5 ,6\r\n"] ∧
    readModel rdExOpts (fun _ => none) rdExFt (repadLine 9 .comma [c09r " ,"] rdExDoc) = readModel rdExOpts (fun _ => none) rdExFt rdExDoc := by
  refine ⟨by decide +kernel, ?_⟩
  obtain ⟨hb, hst⟩ := rdExRead_base
  exact C09_repad_delimited_readModel rdExOpts (fun _ => none) rdExFt C09_redelim_example_tilde []
    [(c09r "~V\n", [c09r "VERS. 2.0 : v\n", c09r "WRAP. NO : w\n", c09r "DLM. COMMA : d\n"]),
     (c09r "~C\n", [c09r "A.M : a\n", c09r "B.M : b\n", c09r "C.M : c\n"])] [] (c09r "~A\n") rdExBody 0 .comma [c09r " ,"] 3 rdExRead
    (by intro x hx; cases hx) (by decide +kernel) (by decide) (by decide) (by decide) hb (by rw [hst]; rfl)
    (Or.inl (effectiveEngine_of_normal _ _ rfl)) (by decide) trivial (by decide) (by decide) (by decide)

end Lasio.Tf

#print axioms Lasio.Tf.C09_redelim_NumCells_iff
#print axioms Lasio.Tf.C09_redelim_NumBody_iff
#print axioms Lasio.Tf.C09_redelim_FtStrip_only_empty
#print axioms Lasio.Tf.C09_redelim_line
#print axioms Lasio.Tf.C09_redelim_line_readSubs
#print axioms Lasio.Tf.C09_redelim_line_subs_irrelevant
#print axioms Lasio.Tf.C09_redelim_line_sniff
#print axioms Lasio.Tf.C09_redelim_line_numpy
#print axioms Lasio.Tf.C09_redelim_tab_blank_between_tabs
#print axioms Lasio.Tf.C09_redelim_subsOK_needed
#print axioms Lasio.Tf.C09_redelim_empty_cell
#print axioms Lasio.Tf.C09_redelim_text_cell
#print axioms Lasio.Tf.C09_redelim_typed_column
#print axioms Lasio.Tf.C09_redelim_engine_of_tokens
#print axioms Lasio.Tf.C09_redelim_tokens
#print axioms Lasio.Tf.C09_redelim_engine
#print axioms Lasio.Tf.C09_redelim_sniff
#print axioms Lasio.Tf.C09_redelim_readData_normal
#print axioms Lasio.Tf.C09_redelim_readData_ws
#print axioms Lasio.Tf.C09_redelim_readData_agree
#print axioms Lasio.Tf.C09_redelim_window
#print axioms Lasio.Tf.C09_repad_delimited_line
#print axioms Lasio.Tf.C09_repad_delimited_readData
#print axioms Lasio.Tf.C09_repad_delimited_readData_ws
#print axioms Lasio.Tf.C09_repad_delimited_file
#print axioms Lasio.Tf.C09_repad_delimited_readModel
#print axioms Lasio.Tf.C09_redelim_comma_numpy_raises
#print axioms Lasio.Tf.C09_redelim_readData_comma
#print axioms Lasio.Tf.C09_redelim_header_body
#print axioms Lasio.Tf.C09_redelim_file_of_header
#print axioms Lasio.Tf.C09_redelim_example_header
#print axioms Lasio.Tf.C09_redelim_ftStrip_needed
#print axioms Lasio.Tf.C09_redelim_converts_needed
#print axioms Lasio.Tf.C09_redelim_engine_may_change
#print axioms Lasio.Tf.C09_redelim_agree_of_numpy_raises
