import LasioProofs.Lemmas.FileEngines
/-
C02 and C07 lifted to WHOLE FILES (`Tf.readFull` / `Tf.readModel`: the header-level reader, then the data reader on every data
window it reports).

C02  "For every file whose data section is made of blank- or tab-separated plain decimal numbers with one depth step per line,
      reading with the default fast engine and with the pure-Python engine gives the same curves … and the same header sections
      … wherever the data section sits relative to the other sections."
  * `C02_file`            documents `pre ++ flat secs` (well formed) every data section of which is `PlainSec` (rows of `c ≥ 1` quiet
                          tokens, or no data line), steering delimiter SPACE, `float()` rejecting `~…` tokens:
                          `readModel` with engine numpy = `readModel` with engine normal — header sections, ~Other text, the
                          curves of EVERY data section, both null policies, unreadable files included (the same error).
  * `C02_file_plain`      the same from the decidable condition `plainBody` (blank lines, comment lines, lines of plain decimals).
  * `C02_file_tab`        DLM TAB (C02Tab's domain `TabBody`, at least one row per data section).
  * `C02_file_readFull`   the `readFull` form: same sections, steering values, windows; the curves of every record agree.
  * `C02_file_records`, `C02_file_numpy_path`, `C02_file_fallback`: which engine is reported for which data section.
  Hypotheses shown necessary: `C02_file_midline_hash` (PlainSec), `C02_file_delimiter_needed`, `C02_file_tilde_needed`.

C07  "After any successful read all curves have the same length, and when every data line carries the same number of values,
      value j of data line i is element i of curve j.  Curves declared in ~Curves keep their declared order …; surplus data
      columns become additional unnamed curves after them, and declared curves that have no column are filled with NaN …"
  * `C07_file_rect`       EVERY document, every option record: every successful data record has curves of one length.
  * `C07_file_curves`     … they are the columns `cols` of an engine assigned to the curves: `max d |cols|` curves, the first `d`
                          slots the declared ones in order, the rest unnamed; the columns are kept in order; declared curves
                          without a column are NaN of the common length.
  * `C07_file_binding`    a window whose flat item list is an `r × c` matrix, read by the normal engine with `n_columns = c`:
                          the curves are the columns of the matrix (`C07_file_column`, `C07_cell`: element i of column j is
                          item (i, j)).
  * `C07_file_binding_plain`  on a `PlainSec` data section (WRAP ≠ YES) BOTH engines give the columns of the token matrix.
  Hypothesis shown necessary: `C07_file_ncolumns_needed`.
-/
namespace Lasio.Tf
open Lasio Lasio.Dt

/-! ## C02 -/

/-- whole-file form of "the engines agree on every window" -/
theorem readModel_engines (o : Rd.ReadOpts) (p : NullPolicy) (nullOf : Option Str → Option Str) (ft : FloatTable) (doc : Doc)
    (hwin : ∀ hd, Rd.readLines o doc = .ok hd → ∀ w ∈ hd.data,
      (readData ⟨.numpy, p⟩ doc w.1 w.2.1 (dtSteer nullOf hd.steer) (declaredCount hd.sections) ft).map Prod.snd =
      (readData ⟨.normal, p⟩ doc w.1 w.2.1 (dtSteer nullOf hd.steer) (declaredCount hd.sections) ft).map Prod.snd) :
    readModel ⟨o, ⟨.numpy, p⟩⟩ nullOf ft doc = readModel ⟨o, ⟨.normal, p⟩⟩ nullOf ft doc := by
  unfold readModel
  cases hh : Rd.readLines o doc with
  | error e => unfold readFull; simp only [hh]
  | ok hd =>
    rw [readFull_of_header ⟨o, ⟨.numpy, p⟩⟩ nullOf ft doc hd hh, readFull_of_header ⟨o, ⟨.normal, p⟩⟩ nullOf ft doc hd hh]
    simp only [Except.map, FullRead.parsed, List.map_map]
    congr 2
    apply List.map_congr_left
    intro w hw
    exact hwin hd hh w hw

/-- one window of a document given by its structure: the engines agree when its body is `PlainSec` -/
theorem engines_agree_window (ft : FloatTable) (htf : TildeNotFloat ft) (p : NullPolicy) (st : Steer) (d : Nat)
    (pre : List Str) (A C : List (Str × List Str)) (t : Str) (b : List Str) (hw : Rd.WellFormed (A ++ (t, b) :: C))
    (hb : PlainSec b) (hdlm : st.delimiter = .space) :
    (readData ⟨.numpy, p⟩ (pre ++ Rd.flat (A ++ (t, b) :: C)) (pre.length + Rd.size A) (pre.length + Rd.size A + b.length) st d ft).map Prod.snd =
    (readData ⟨.normal, p⟩ (pre ++ Rd.flat (A ++ (t, b) :: C)) (pre.length + Rd.size A) (pre.length + Rd.size A + b.length) st d ft).map Prod.snd := by
  obtain ⟨e1, e2⟩ := doc_split pre A C t b
  have hnext := after_next ft htf A C t b hw
  rw [e1, ← e2]
  rcases hb with ⟨c, rows, hbody, hc, hr⟩ | hskip
  · exact C02_engines_agree ft p st d _ t ⟨hbody, hc, hr, hnext⟩ hdlm
  · exact C02_engines_agree_empty ft p st d _ t b _ hskip hnext hdlm

/-- **C02, whole file.** Every data section plain, steering delimiter SPACE: the parsed result — header sections, ~Other text, the
curves of every data section — does not depend on the engine that is asked for. -/
theorem C02_file (o : Rd.ReadOpts) (p : NullPolicy) (nullOf : Option Str → Option Str) (ft : FloatTable) (htf : TildeNotFloat ft)
    (pre : List Str) (secs : List (Str × List Str)) (hpre : ∀ x ∈ pre, Rd.isTitle x = false) (hw : Rd.WellFormed secs)
    (hplain : ∀ tb ∈ secs, isDataKind (kindOf tb.1) → PlainSec tb.2)
    (hdlm : ∀ hd, Rd.readLines o (pre ++ Rd.flat secs) = .ok hd → (dtSteer nullOf hd.steer).delimiter = .space) :
    readModel ⟨o, ⟨.numpy, p⟩⟩ nullOf ft (pre ++ Rd.flat secs) = readModel ⟨o, ⟨.normal, p⟩⟩ nullOf ft (pre ++ Rd.flat secs) := by
  apply readModel_engines
  intro hd hh w hwm
  rw [readLines_data o pre secs hpre hw hd hh] at hwm
  obtain ⟨A, t, b, C, rfl, hk, rfl⟩ := mem_docData secs pre.length w hwm
  exact engines_agree_window ft htf p _ _ pre A C t b hw (hplain (t, b) (by simp) hk) (hdlm hd hh)

/-- … from the DECIDABLE condition on the text: every line of every data section is a blank line, a `#` comment line, or a line
of blank/TAB-separated plain decimals `[+-]?(\d+\.?\d*|\.\d+)([eE][+-]?\d+)?`, as many as on the first data line -/
theorem C02_file_plain (o : Rd.ReadOpts) (p : NullPolicy) (nullOf : Option Str → Option Str) (ft : FloatTable) (htf : TildeNotFloat ft)
    (pre : List Str) (secs : List (Str × List Str)) (hpre : ∀ x ∈ pre, Rd.isTitle x = false) (hw : Rd.WellFormed secs)
    (hplain : ∀ tb ∈ secs, isDataKind (kindOf tb.1) → plainBody tb.2 = true)
    (hdlm : ∀ hd, Rd.readLines o (pre ++ Rd.flat secs) = .ok hd → (dtSteer nullOf hd.steer).delimiter = .space) :
    readModel ⟨o, ⟨.numpy, p⟩⟩ nullOf ft (pre ++ Rd.flat secs) = readModel ⟨o, ⟨.normal, p⟩⟩ nullOf ft (pre ++ Rd.flat secs) :=
  C02_file o p nullOf ft htf pre secs hpre hw (fun tb htb hk => plainSec_of_plainBody tb.2 (hplain tb htb hk)) hdlm

/-- **C02, whole file, DLM TAB** (C02Tab's domain: tokens separated by TABs, at least one row in every data section) -/
theorem C02_file_tab (o : Rd.ReadOpts) (p : NullPolicy) (nullOf : Option Str → Option Str) (ft : FloatTable) (htf : TildeNotFloat ft)
    (pre : List Str) (secs : List (Str × List Str)) (hpre : ∀ x ∈ pre, Rd.isTitle x = false) (hw : Rd.WellFormed secs)
    (hplain : ∀ tb ∈ secs, isDataKind (kindOf tb.1) → ∃ c rows, TabBody c tb.2 rows ∧ 0 < c ∧ rows ≠ [])
    (hdlm : ∀ hd, Rd.readLines o (pre ++ Rd.flat secs) = .ok hd → (dtSteer nullOf hd.steer).delimiter = .tab) :
    readModel ⟨o, ⟨.numpy, p⟩⟩ nullOf ft (pre ++ Rd.flat secs) = readModel ⟨o, ⟨.normal, p⟩⟩ nullOf ft (pre ++ Rd.flat secs) := by
  apply readModel_engines
  intro hd hh w hwm
  rw [readLines_data o pre secs hpre hw hd hh] at hwm
  obtain ⟨A, t, b, C, rfl, hk, rfl⟩ := mem_docData secs pre.length w hwm
  obtain ⟨c, rows, hbody, hc, hr⟩ := hplain (t, b) (by simp) hk
  obtain ⟨e1, e2⟩ := doc_split pre A C t b
  simp only
  rw [e1, ← e2]
  exact C02_engines_agree_tab ft p _ _ _ t ⟨hbody, hc, hr, after_next ft htf A C t b hw⟩ (hdlm hd hh)

/-- the `readFull` form: whichever engine is asked for, the file is readable or not alike; the sections, the steering values and
the windows are the same, and so are the curves of every record (the engine recorded may differ: `C02_file_numpy_path`,
`C02_file_fallback`) -/
theorem C02_file_readFull (o : Rd.ReadOpts) (p : NullPolicy) (nullOf : Option Str → Option Str) (ft : FloatTable)
    (htf : TildeNotFloat ft) (pre : List Str) (secs : List (Str × List Str)) (hpre : ∀ x ∈ pre, Rd.isTitle x = false)
    (hw : Rd.WellFormed secs) (hplain : ∀ tb ∈ secs, isDataKind (kindOf tb.1) → PlainSec tb.2)
    (hdlm : ∀ hd, Rd.readLines o (pre ++ Rd.flat secs) = .ok hd → (dtSteer nullOf hd.steer).delimiter = .space)
    (r₁ : FullRead) (h₁ : readFull ⟨o, ⟨.numpy, p⟩⟩ nullOf ft (pre ++ Rd.flat secs) = .ok r₁) :
    ∃ r₂, readFull ⟨o, ⟨.normal, p⟩⟩ nullOf ft (pre ++ Rd.flat secs) = .ok r₂ ∧ r₂.sections = r₁.sections ∧ r₂.steer = r₁.steer ∧
      r₂.data.map (fun x => (x.first, x.last)) = r₁.data.map (fun x => (x.first, x.last)) ∧
      r₂.data.map (fun x => x.res.map Prod.snd) = r₁.data.map (fun x => x.res.map Prod.snd) := by
  obtain ⟨hd, hh, e1, e2, e3⟩ := readFull_data _ nullOf ft _ r₁ h₁
  refine ⟨_, readFull_of_header ⟨o, ⟨.normal, p⟩⟩ nullOf ft _ hd hh, e1.symm, e2.symm, ?_, ?_⟩
  · rw [e3]; simp only [List.map_map]; rfl
  · rw [e3]
    simp only [List.map_map]
    apply List.map_congr_left
    intro w hwm
    rw [readLines_data o pre secs hpre hw hd hh] at hwm
    obtain ⟨A, t, b, C, rfl, hk, rfl⟩ := mem_docData secs pre.length w hwm
    exact (engines_agree_window ft htf p _ _ pre A C t b hw (hplain (t, b) (by simp) hk) (hdlm hd hh)).symm

/-- every data record of a read comes from a data section of the document: its window, and `readData` on it -/
theorem C02_file_records (o : Opts) (nullOf : Option Str → Option Str) (ft : FloatTable) (pre : List Str)
    (secs : List (Str × List Str)) (hpre : ∀ x ∈ pre, Rd.isTitle x = false) (hw : Rd.WellFormed secs) (r : FullRead)
    (h : readFull o nullOf ft (pre ++ Rd.flat secs) = .ok r) :
    ∀ x ∈ r.data, ∃ A t b C, secs = A ++ (t, b) :: C ∧ isDataKind (kindOf t) ∧ x.first = pre.length + Rd.size A ∧
      x.last = pre.length + Rd.size A + b.length ∧
      x.res = readData o.dat (pre ++ Rd.flat secs) x.first x.last (dtSteer nullOf r.steer) (declaredCount r.sections) ft := by
  obtain ⟨hd, hh, e1, e2, e3⟩ := readFull_data o nullOf ft _ r h
  intro x hx
  rw [e3] at hx
  obtain ⟨w, hwm, rfl⟩ := List.mem_map.mp hx
  rw [readLines_data o.hdr pre secs hpre hw hd hh] at hwm
  obtain ⟨A, t, b, C, e, hk, rfl⟩ := mem_docData secs pre.length w hwm
  exact ⟨A, t, b, C, e, hk, rfl, rfl, by rw [e1, e2]⟩

/-- NO SILENT FALLBACK, in the file: a data section of numeric plain rows without blank/comment line, or the last section of the
file (WRAP ≠ YES, strict policy): the numpy engine itself produced its curves -/
theorem C02_file_numpy_path (ft : FloatTable) (htf : TildeNotFloat ft) (st : Steer) (d : Nat) (pre : List Str)
    (A C : List (Str × List Str)) (t : Str) (b : List Str) (c : Nat) (rows : List (List Str))
    (hw : Rd.WellFormed (A ++ (t, b) :: C)) (hb : Body c b rows) (hc : 0 < c) (hr : rows ≠ []) (hnum : Numeric ft rows)
    (hdlm : st.delimiter = .space) (hwr : st.wrapped ≠ yesTxt) (hpath : b.length = rows.length ∨ C = []) :
    readData ⟨.numpy, .strict⟩ (pre ++ Rd.flat (A ++ (t, b) :: C)) (pre.length + Rd.size A) (pre.length + Rd.size A + b.length) st d ft =
      .ok (.numpy, plainResult ft .strict st d c rows) := by
  obtain ⟨e1, e2⟩ := doc_split pre A C t b
  rw [e1, ← e2]
  apply C02_numpy_path ft st d _ t ⟨hb, hc, hr, after_next ft htf A C t b hw⟩ hnum hdlm hwr
  rcases hpath with h | h
  · exact Or.inl h
  · right; rw [h]; rfl

/-- FALLBACK, in the file: a blank/comment line in the body and a section after it: genfromtxt raises, the normal engine is
recorded (the curves are the same by `C02_file`) -/
theorem C02_file_fallback (ft : FloatTable) (htf : TildeNotFloat ft) (st : Steer) (d : Nat) (pre : List Str)
    (A C : List (Str × List Str)) (t : Str) (b : List Str) (c : Nat) (rows : List (List Str))
    (hw : Rd.WellFormed (A ++ (t, b) :: C)) (hb : Body c b rows) (hc : 0 < c) (hr : rows ≠ [])
    (hdlm : st.delimiter = .space) (hwr : st.wrapped ≠ yesTxt) (hskip : rows.length < b.length) (hC : C ≠ []) :
    readData ⟨.numpy, .strict⟩ (pre ++ Rd.flat (A ++ (t, b) :: C)) (pre.length + Rd.size A) (pre.length + Rd.size A + b.length) st d ft =
      .ok (.normal, plainResult ft .strict st d c rows) := by
  obtain ⟨e1, e2⟩ := doc_split pre A C t b
  rw [e1, ← e2]
  refine (C02_fallback ft st d _ t ⟨hb, hc, hr, after_next ft htf A C t b hw⟩ hdlm hwr hskip ?_).2
  cases C with
  | nil => exact absurd rfl hC
  | cons x rest => obtain ⟨tx, bx⟩ := x; simp [Rd.flat]

/-! ## C07 -/

/-- **C07, rectangular, whole file**: EVERY document, every option record — in every data record that was read successfully all
curves have the same length -/
theorem C07_file_rect (o : Opts) (nullOf : Option Str → Option Str) (ft : FloatTable) (doc : Doc) (r : FullRead)
    (h : readFull o nullOf ft doc = .ok r) :
    ∀ x ∈ r.data, ∀ e curves, x.res = .ok (e, curves) → ∃ L, ∀ sc ∈ curves, sc.2.length = L := by
  intro x hx e curves hres
  rw [readFull_record h hx] at hres
  exact C07_rect o.dat doc _ _ _ _ ft e curves hres

/-- **C07, assignment to curves, whole file**: the curves of a successful data record are the columns `cols` of the engine
(NULL applied) assigned to the `d` declared curves: `max d |cols|` curves; the first `d` slots are the declared curves in their
order, the others unnamed; column j is the data of curve j, unchanged; a declared curve without a column is NaN of the common
length -/
theorem C07_file_curves (o : Opts) (nullOf : Option Str → Option Str) (ft : FloatTable) (doc : Doc) (r : FullRead)
    (h : readFull o nullOf ft doc = .ok r) :
    ∀ x ∈ r.data, ∀ e curves, x.res = .ok (e, curves) →
      ∃ cols : List Column, (∃ L, ∀ col ∈ cols, col.length = L) ∧
        curves.length = max (declaredCount r.sections) cols.length ∧
        curves.map Prod.fst = (List.range (declaredCount r.sections)).map Slot.declared ++
          List.replicate (cols.length - declaredCount r.sections) Slot.extra ∧
        (curves.take cols.length).map Prod.snd = cols ∧
        (∀ j, cols.length ≤ j → j < declaredCount r.sections →
          curves[j]? = some (Slot.declared j, nanColumn (curveLength cols))) := by
  intro x hx e curves hres
  rw [readFull_record h hx] at hres
  obtain ⟨cols, ⟨L, hL⟩, rfl, _, _⟩ := readData_ok_cols o.dat doc _ _ _ _ ft e curves hres
  refine ⟨applyNull (o.dat.nullPolicy == .strict) (dtSteer nullOf r.steer).nullValue cols,
    ⟨L, applyNull_mem_length _ _ cols L hL⟩, C07_assign_length _ _, C07_assign_slots _ _, C07_assign_columns_kept _ _, ?_⟩
  intro j h1 h2
  exact C07_assign_missing _ _ j h1 h2

/-- **C07, binding, whole file**: a data record produced by the normal engine on a window whose flat item list (under the
substitution sets the reader may end with) is the row-major list of an `r × c` matrix, with `n_columns = c` (the sniffed count,
or the declared one for a wrapped file): the curves are the columns of the matrix — value j of row i is element i of curve j
(`C07_file_column`, `C07_cell`) -/
theorem C07_file_binding (o : Opts) (nullOf : Option Str → Option Str) (ft : FloatTable) (doc : Doc) (r : FullRead)
    (h : readFull o nullOf ft doc = .ok r) (x : DataRead) (hx : x ∈ r.data) (curves : List (Slot × Column))
    (hres : x.res = .ok (.normal, curves)) (rows : List (List Str)) (c : Nat) (hc : 0 < c) (hr : rows ≠ [])
    (hrows : ∀ row ∈ rows, row.length = c)
    (hT : ∀ sb, sb = readSubs (dtSteer nullOf r.steer).delimiter ∨ sb = (readSubs (dtSteer nullOf r.steer).delimiter).dropHyphen →
      normalTokens sb (dtSteer nullOf r.steer).delimiter (bodyLines doc x.first x.last) = rows.flatten)
    (hN : readerColumns (dtSteer nullOf r.steer) (declaredCount r.sections)
      (sniffTwice (readSubs (dtSteer nullOf r.steer).delimiter) (dtSteer nullOf r.steer).delimiter doc x.first x.last).2 = c) :
    curves = assignCurves (declaredCount r.sections)
      (applyNull (o.dat.nullPolicy == .strict) (dtSteer nullOf r.steer).nullValue (matrixColumns ft c rows)) := by
  rw [readFull_record h hx] at hres
  obtain ⟨cols, _, rfl, _, hn⟩ := readData_ok_cols o.dat doc _ _ _ _ ft .normal curves hres
  obtain ⟨sb, n, hsb, rfl, hne⟩ := hn rfl
  rw [hN] at hne
  unfold normalEngine at hne
  rw [C07_binding ft sb _ _ rows c hc hr hrows (hT sb hsb)] at hne
  cases hne
  rfl

/-- the columns of the matrix as curves: curve j (declared when `j < d`, unnamed otherwise) is column j of the matrix — the j-th
entries of the rows, as floats when they all convert, as text otherwise — with NULL applied -/
theorem C07_file_column (ft : FloatTable) (d c : Nat) (u : Bool) (null : Option Str) (rows : List (List Str)) (j : Nat) (hj : j < c) :
    (assignCurves d (applyNull u null (matrixColumns ft c rows)))[j]? =
      some ((if j < d then Slot.declared j else Slot.extra),
        applyNullCol u null j (typedColumn ft (rows.map fun row => row.getD j []))) := by
  apply C07_assign_column
  rw [applyNull_getElem?]
  simp [matrixColumns, hj]

/-- **C07 + C02, whole file**: on a plain data section (rows of `c` quiet tokens, WRAP ≠ YES, delimiter SPACE) the curves are the
columns of the token matrix WHICHEVER engine is asked for -/
theorem C07_file_binding_plain (e : Engine) (p : NullPolicy) (ft : FloatTable) (htf : TildeNotFloat ft) (st : Steer) (d : Nat)
    (pre : List Str) (A C : List (Str × List Str)) (t : Str) (b : List Str) (c : Nat) (rows : List (List Str))
    (hw : Rd.WellFormed (A ++ (t, b) :: C)) (hb : Body c b rows) (hc : 0 < c) (hr : rows ≠ [])
    (hdlm : st.delimiter = .space) (hwr : st.wrapped ≠ yesTxt) :
    (readData ⟨e, p⟩ (pre ++ Rd.flat (A ++ (t, b) :: C)) (pre.length + Rd.size A) (pre.length + Rd.size A + b.length) st d ft).map Prod.snd =
      .ok (assignCurves d (applyNull (p == .strict) st.nullValue (matrixColumns ft c rows))) := by
  have hn : effectiveEngine ⟨.normal, p⟩ st = .normal := by unfold effectiveEngine; split <;> rfl
  have hpd : PlainData ft b (Rd.flat C) c rows := ⟨hb, hc, hr, after_next ft htf A C t b hw⟩
  obtain ⟨e1, e2⟩ := doc_split pre A C t b
  have hnorm := C02_normal_value ft .normal p st d (pre ++ Rd.flat A) t hpd hdlm hwr hn
  cases e with
  | normal => rw [e1, ← e2, hnorm]; rfl
  | numpy => rw [e1, ← e2, C02_engines_agree ft p st d _ t hpd hdlm, hnorm]; rfl


/-! ## the hypotheses are needed -/

def c02f (x : String) : Str := x.toList

def cfFt : FloatTable := [(c02f "1", c02f "a1"), (c02f "2", c02f "a2"), (c02f "3", c02f "a3"), (c02f "4", c02f "a4"),
  (c02f "5", c02f "a5"), (c02f "6", c02f "a6")]
def cfNumpy : Opts := ⟨⟨false, .preserve⟩, ⟨.numpy, .strict⟩⟩
def cfNormal : Opts := ⟨⟨false, .preserve⟩, ⟨.normal, .strict⟩⟩

/-- the results of the data sections of a file (nothing when the file is not readable) -/
def cfData (o : Opts) (ft : FloatTable) (d : Doc) : List (Except DErr (Engine × List (Slot × Column))) :=
  match readFull o (fun _ => none) ft d with
  | .ok r => r.data.map DataRead.res
  | .error _ => []

def cfHead : Doc := [c02f "~V\n", c02f "VERS. 2.0 : v\n", c02f "WRAP. NO : w\n", c02f "~C\n", c02f "A.M : a\n", c02f "B.M : b\n"]

/-- `PlainSec` is needed (finding numpy-midline-hash): genfromtxt cuts a data line at `#`, the normal engine does not -/
theorem C02_file_midline_hash :
    plainBody [c02f "1 2 # t\n", c02f "3 4 # u\n"] = false ∧
    cfData cfNumpy cfFt (cfHead ++ [c02f "~A\n", c02f "1 2 # t\n", c02f "3 4 # u\n"]) =
      [.ok (.numpy, [(.declared 0, .floats [c02f "a1", c02f "a3"]), (.declared 1, .floats [c02f "a2", c02f "a4"])])] ∧
    cfData cfNormal cfFt (cfHead ++ [c02f "~A\n", c02f "1 2 # t\n", c02f "3 4 # u\n"]) =
      [.ok (.normal, [(.declared 0, .floats [c02f "a1", c02f "a3"]), (.declared 1, .floats [c02f "a2", c02f "a4"]),
        (.extra, .text [c02f "#", c02f "#"]), (.extra, .text [c02f "t", c02f "u"])])] := by
  decide +kernel

/-- the steering delimiter SPACE is needed: blank-separated numbers in a file that declares DLM COMMA are two columns for
genfromtxt and one text cell for the normal engine -/
theorem C02_file_delimiter_needed :
    cfData cfNumpy cfFt [c02f "~V\n", c02f "VERS. 2.0 : v\n", c02f "WRAP. NO : w\n", c02f "DLM. COMMA : d\n", c02f "~C\n",
        c02f "A.M : a\n", c02f "B.M : b\n", c02f "~A\n", c02f "1 2\n"] =
      [.ok (.numpy, [(.declared 0, .floats [c02f "a1"]), (.declared 1, .floats [c02f "a2"])])] ∧
    cfData cfNormal cfFt [c02f "~V\n", c02f "VERS. 2.0 : v\n", c02f "WRAP. NO : w\n", c02f "DLM. COMMA : d\n", c02f "~C\n",
        c02f "A.M : a\n", c02f "B.M : b\n", c02f "~A\n", c02f "1 2\n"] =
      [.ok (.normal, [(.declared 0, .text [c02f "1 2"]), (.declared 1, .floats [nanTxt])])] := by decide +kernel

/-- `TildeNotFloat` is needed (it replaces C02's hypothesis on the line after the window: in a file that line is a title line):
were `~O` a number for `float()`, genfromtxt — whose `max_rows` counts rows, not lines — would read the next title as a row -/
theorem C02_file_tilde_needed :
    ¬ TildeNotFloat (cfFt ++ [(c02f "~O", c02f "b")]) ∧
    cfData cfNumpy (cfFt ++ [(c02f "~O", c02f "b")]) [c02f "~V\n", c02f "VERS. 2.0 : v\n", c02f "WRAP. NO : w\n", c02f "~C\n",
        c02f "A.M : a\n", c02f "~A\n", c02f "1\n", c02f "\n", c02f "~O\n", c02f "x\n"] =
      [.ok (.numpy, [(.declared 0, .floats [c02f "a1", c02f "b"])])] ∧
    cfData cfNormal (cfFt ++ [(c02f "~O", c02f "b")]) [c02f "~V\n", c02f "VERS. 2.0 : v\n", c02f "WRAP. NO : w\n", c02f "~C\n",
        c02f "A.M : a\n", c02f "~A\n", c02f "1\n", c02f "\n", c02f "~O\n", c02f "x\n"] =
      [.ok (.normal, [(.declared 0, .floats [c02f "a1"])])] := by
  exact ⟨fun h => absurd (h (c02f "~O") rfl) (by decide +kernel), by decide +kernel⟩

def cfFt6 : FloatTable := [(c02f "0", c02f "a0"), (c02f "1", c02f "a1"), (c02f "2", c02f "a2"), (c02f "1000", c02f "b0"),
  (c02f "1001", c02f "b1"), (c02f "1002", c02f "b2")]

/-- `n_columns = c` is needed in `C07_file_binding` (`C07_ncolumns_needed` in a file): a ragged sample makes the reader fall back
on the declared number of curves, and six items are cut into three rows of two -/
theorem C07_file_ncolumns_needed :
    cfData cfNormal cfFt6 (cfHead ++ [c02f "~A\n", c02f "0 1 2 1000\n", c02f "1001 1002\n"]) =
      [.ok (.normal, [(.declared 0, .floats [c02f "a0", c02f "a2", c02f "b1"]),
        (.declared 1, .floats [c02f "a1", c02f "b0", c02f "b2"])])] := by decide +kernel

/-! ## non-vacuity -/

/-- ~V, ~C (two curves), a data section (a blank line, TAB and CRLF), ~O, a second data section (a comment line, no final
newline) -/
def cfSecs : List (Str × List Str) :=
  [(c02f "~V\n", [c02f "VERS. 2.0 : v\n", c02f "WRAP. NO : w\n"]), (c02f "~C\n", [c02f "A.M : a\n", c02f "B.M : b\n"]),
   (c02f "~A\n", [c02f "1 2\n", c02f "\n", c02f " 3\t4 \r\n"]), (c02f "~O\n", [c02f "note\n"]),
   (c02f "~A\n", [c02f "# c\n", c02f "5 6"])]

def cfHdr : Rd.RHeader :=
  match Rd.readLines cfNumpy.hdr ([] ++ Rd.flat cfSecs) with
  | .ok h => h
  | .error _ => ⟨[], Rd.Steer.init, []⟩

theorem C02_file_example_tilde : TildeNotFloat cfFt := tildeNotFloat_of_keys _ (by decide +kernel)

/-- A file with TWO data sections and a ~Other section between them: the side conditions hold (by evaluation); instance of
`C02_file_plain`: the parsed results agree; and — by evaluation — the first data section (a blank line inside, a section after
it) is answered by the normal engine after genfromtxt raised, the second (the last section) by genfromtxt itself. -/
example :
    Rd.WellFormed cfSecs ∧ (∀ tb ∈ cfSecs, isDataKind (kindOf tb.1) → plainBody tb.2 = true) ∧
    readModel cfNumpy (fun _ => none) cfFt ([] ++ Rd.flat cfSecs) = readModel cfNormal (fun _ => none) cfFt ([] ++ Rd.flat cfSecs) ∧
    cfData cfNumpy cfFt ([] ++ Rd.flat cfSecs) =
      [.ok (.normal, [(.declared 0, .floats [c02f "a1", c02f "a3"]), (.declared 1, .floats [c02f "a2", c02f "a4"])]),
       .ok (.numpy, [(.declared 0, .floats [c02f "a5"]), (.declared 1, .floats [c02f "a6"])])] ∧
    cfData cfNormal cfFt ([] ++ Rd.flat cfSecs) =
      [.ok (.normal, [(.declared 0, .floats [c02f "a1", c02f "a3"]), (.declared 1, .floats [c02f "a2", c02f "a4"])]),
       .ok (.normal, [(.declared 0, .floats [c02f "a5"]), (.declared 1, .floats [c02f "a6"])])] := by
  suffices h : ((Rd.readLines cfNumpy.hdr ([] ++ Rd.flat cfSecs)).isOk = true ∧
        (dtSteer (fun _ => none) cfHdr.steer).delimiter = .space) ∧
      _ ∧ _ ∧ _ by
    obtain ⟨⟨h1, h2⟩, hw, hp, h⟩ := h
    refine ⟨hw, hp, ?_, h⟩
    apply C02_file_plain cfNumpy.hdr .strict (fun _ => none) cfFt C02_file_example_tilde [] cfSecs (by intro x hx; cases hx) hw hp
    intro hd hh
    rw [Except.eq_ok_of_isOk (y := cfHdr) h1 (fun r hr => by unfold cfHdr; rw [hr])] at hh
    cases hh
    exact h2
  decide +kernel

/-- instance of `C07_file_rect` / `C07_file_curves` on the same file, read with the default engine: in both data records the two
curves have one length, two declared slots, no extra curve -/
example (r : FullRead) (h : readFull cfNumpy (fun _ => none) cfFt ([] ++ Rd.flat cfSecs) = .ok r) :
    r.data.length = 2 ∧ declaredCount r.sections = 2 ∧
    ∀ x ∈ r.data, ∀ e curves, x.res = .ok (e, curves) →
      (∃ L, ∀ sc ∈ curves, sc.2.length = L) ∧ ∃ c, curves.length = max 2 c := by
  have hv : (readFull cfNumpy (fun _ => none) cfFt ([] ++ Rd.flat cfSecs)).map (fun r => (r.data.length, declaredCount r.sections)) =
      .ok (2, 2) := by decide +kernel
  rw [h] at hv
  obtain ⟨hl, hd⟩ := Prod.mk.inj (Except.ok.inj hv)
  refine ⟨hl, hd, ?_⟩
  intro x hx e curves hres
  refine ⟨C07_file_rect _ _ _ _ r h x hx e curves hres, ?_⟩
  obtain ⟨cols, _, hlen, _⟩ := C07_file_curves _ _ _ _ r h x hx e curves hres
  exact ⟨cols.length, by rw [hlen, hd]⟩

end Lasio.Tf

#print axioms Lasio.Tf.C02_file
#print axioms Lasio.Tf.C02_file_plain
#print axioms Lasio.Tf.C02_file_tab
#print axioms Lasio.Tf.C02_file_readFull
#print axioms Lasio.Tf.C02_file_records
#print axioms Lasio.Tf.C02_file_numpy_path
#print axioms Lasio.Tf.C02_file_fallback
#print axioms Lasio.Tf.C07_file_rect
#print axioms Lasio.Tf.C07_file_curves
#print axioms Lasio.Tf.C07_file_binding
#print axioms Lasio.Tf.C07_file_column
#print axioms Lasio.Tf.C07_file_binding_plain
#print axioms Lasio.Tf.C02_file_midline_hash
#print axioms Lasio.Tf.C02_file_delimiter_needed
#print axioms Lasio.Tf.C02_file_tilde_needed
#print axioms Lasio.Tf.C07_file_ncolumns_needed
