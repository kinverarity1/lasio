import LasioModel.Section
import LasioProofs.Props.C15Frame
import LasioProofs.Lemmas.SectionInv
import LasioProofs.Lemmas.Eval
/-
C13 — duplicate mnemonics are disambiguated with `:1`, `:2`, … suffixes; original mnemonics are never
touched; after every edit operation the suffix invariant `Inv` holds, and (unless some useful name already
looks like another one followed by `:<digits>`) the session names are pairwise distinct and each resolves
to exactly its own item.

`ckey`, `SuffixForm`, `Rel`, `Inv`, `inGroup`, `withSuffix` are defined in `Lemmas/SectionInv.lean`.
-/
namespace Lasio

/-- no useful name equals another item's useful name followed by `:<digits>` (modulo case when tr) -/
def NoSuffixClash (s : Section) : Prop :=
  ∀ a ∈ s.items, ∀ b ∈ s.items, ∀ k,
    ckey s.tr (useful a.orig) ≠ ckey s.tr (useful b.orig) ++ ':' :: natToStr k

/-- session names pairwise distinct under the section's own comparison -/
def Distinct (s : Section) : Prop :=
  s.items.Pairwise (fun a b => cmpStr s.tr a.session b.session = false)

theorem C13_originals_assign (s : Section) (t : Str) : (s.assignSuffixes t).origs = s.origs :=
  assign_origs s t

theorem C13_originals_append (s : Section) (it : Item) : (s.append it).origs = s.origs ++ [it.orig] := by
  unfold Section.append
  rw [assign_origs]
  simp [Section.origs]

theorem C13_originals_insert (s : Section) (i : Int) (it : Item) :
    (s.insert i it).origs = insertAt s.origs (pyInsertPos s.items.length i) it.orig := by
  unfold Section.insert
  rw [assign_origs]
  simp [Section.origs, insertAt]

theorem origs_eraseIdx (s : Section) (i : Nat) :
    ({ s with items := s.items.eraseIdx i } : Section).origs = s.origs.eraseIdx i := by
  simp [Section.origs, List.eraseIdx_eq_take_drop_succ]

theorem C13_originals_delete (s s' : Section) (k : Key) (h : s.delitem k = .ok s') :
    ∃ i, s.getitem k = .ok i ∧ s'.origs = s.origs.eraseIdx i := by
  obtain ⟨i, hg, _, ho, _⟩ := C15_delete_keys s s' k h
  exact ⟨i, hg, ho⟩

theorem C13_originals_pop (s s' : Section) (i : Int) (h : s.pop i = .ok s') :
    ∃ j, pyIndex s.items.length i = some j ∧ s'.origs = s.origs.eraseIdx j := by
  obtain ⟨j, hp, rfl⟩ := (pop_ok_iff s s' i).mp h
  exact ⟨j, hp, origs_eraseIdx s j⟩

theorem C13_originals_setItem (s : Section) (k : Key) (it : Item) :
    (s.setItem k it).origs =
      (match s.find k with
       | some i => s.origs.set i it.orig
       | none => s.origs ++ [it.orig]) := by
  unfold Section.setItem
  cases s.find k with
  | none => exact C13_originals_append s it
  | some i =>
    simp only []
    rw [assign_origs]
    simp [Section.origs]

theorem C13_originals_setValue (s s' : Section) (k : Key) (v : Str) (h : s.setValue k v = .ok s') :
    s'.origs = s.origs :=
  (C15_set_value_lookups s s' k v h).2.2.2.2.2

theorem C13_originals_getAdd (s : Section) (m d : Str) :
    (s.get m d true).2.origs = if s.contains (.str m) then s.origs else s.origs ++ [m] := by
  unfold Section.get Section.contains
  cases hf : s.find (.str m) with
  | some i => simp
  | none => simpa [mkItem] using C13_originals_append s (mkItem m [] d [])

/-- the effect of one operation on the plain list of original mnemonics: exactly what the same operation does
to an ordinary Python list (the position addressed by a key is the one found in `s`) -/
def Section.origsStep (s : Section) : Op → List Str
  | .append o _ _ _ => s.origs ++ [o]
  | .insert i o _ _ _ => insertAt s.origs (pyInsertPos s.origs.length i) o
  | .del k => match s.getitem k with
    | .ok i => s.origs.eraseIdx i
    | .error _ => s.origs
  | .pop i => match pyIndex s.origs.length i with
    | some j => s.origs.eraseIdx j
    | none => s.origs
  | .setItem k o _ _ _ => match s.find k with
    | some i => s.origs.set i o
    | none => s.origs ++ [o]
  | .setValue _ _ => s.origs
  | .getAdd m _ => if s.contains (.str m) then s.origs else s.origs ++ [m]

/-- disambiguation never touches original mnemonics: the list of originals evolves as a plain list -/
theorem C13_originals_step (s : Section) (op : Op) : (s.step op).origs = s.origsStep op := by
  have hlen : s.origs.length = s.items.length := by simp [Section.origs]
  cases op with
  | append o u v d => exact C13_originals_append s (mkItem o u v d)
  | insert i o u v d =>
    simp only [Section.step, Section.origsStep, hlen]
    exact C13_originals_insert s i (mkItem o u v d)
  | del k =>
    simp only [Section.step, Section.origsStep]
    unfold Section.delitem
    cases s.getitem k with
    | error e => rfl
    | ok i => exact origs_eraseIdx s i
  | pop i =>
    simp only [Section.step, Section.origsStep, hlen]
    unfold Section.pop
    cases pyIndex s.items.length i with
    | none => rfl
    | some j => exact origs_eraseIdx s j
  | setItem k o u v d =>
    simp only [Section.step, Section.origsStep]
    exact C13_originals_setItem s k (mkItem o u v d)
  | setValue k v =>
    simp only [Section.step, Section.origsStep]
    cases hd : s.setValue k v with
    | error e => rfl
    | ok s' => exact C13_originals_setValue s s' k v hd
  | getAdd m d => exact C13_originals_getAdd s m d

theorem C13_blank_unknown (o : Str) (h : strip o = []) (u v d : Str) :
    (mkItem o u v d).session = "UNKNOWN".toList ∧ (mkItem o u v d).orig = o := by
  simp [mkItem, useful, h]

theorem C13_unique_untouched (s : Section) (t : Str) (h : countGroup s.tr t s.items ≤ 1) :
    s.assignSuffixes t = s := by
  unfold Section.assignSuffixes
  rw [if_neg (by omega)]

/-- when the group of `t` has more than one member: the section keeps its length and its `tr`; the items of the
group are, in list order, the old group items with session names `useful orig ++ ":1"`, `":2"`, …, `":n"`
(everything else about them unchanged); the items outside the group are unchanged, in the same order; and
position by position, the item at `i` is the old one, re-suffixed with 1 + (number of group members before `i`)
when it is in the group. -/
theorem C13_numbering (s : Section) (t : Str) (h : countGroup s.tr t s.items > 1) :
    (s.assignSuffixes t).tr = s.tr ∧
    (s.assignSuffixes t).items.length = s.items.length ∧
    (s.assignSuffixes t).items.filter (inGroup s.tr t) =
      ((s.items.filter (inGroup s.tr t)).zipIdx).map (fun p => withSuffix p.1 (p.2 + 1)) ∧
    ((s.assignSuffixes t).items.filter (inGroup s.tr t)).map (·.session) =
      ((s.items.filter (inGroup s.tr t)).zipIdx).map
        (fun p => useful p.1.orig ++ ':' :: natToStr (p.2 + 1)) ∧
    (s.assignSuffixes t).items.filter (fun it => !inGroup s.tr t it) =
      s.items.filter (fun it => !inGroup s.tr t it) ∧
    ∀ i, (s.assignSuffixes t).items[i]? = (s.items[i]?).map (fun it =>
      if inGroup s.tr t it then withSuffix it (countGroup s.tr t (s.items.take i) + 1) else it) := by
  unfold Section.assignSuffixes
  rw [if_pos h]
  refine ⟨rfl, renumber_length _ _ _ _, renumber_filter_in _ _ _ _, ?_, renumber_filter_out _ _ _ _, ?_⟩
  · simp only []
    rw [renumber_filter_in, List.map_map]
    rfl
  · intro i
    simp only []
    rw [renumber_getElem?]
    simp

theorem C13_inv_append (s : Section) (it : Item) (hs : SuffixForm it) (h : Inv s) : Inv (s.append it) :=
  inv_insert_assign s s.items [] it (List.append_nil _).symm h hs

theorem C13_inv_insert (s : Section) (i : Int) (it : Item) (hs : SuffixForm it) (h : Inv s) :
    Inv (s.insert i it) :=
  inv_insert_assign s _ _ it (List.take_append_drop _ _).symm h hs

theorem C13_inv_setItem (s : Section) (k : Key) (it : Item) (hs : SuffixForm it) (h : Inv s) :
    Inv (s.setItem k it) := by
  unfold Section.setItem
  cases s.find k with
  | none => exact C13_inv_append s it hs h
  | some i => exact inv_set_assign s.tr s.items i it h hs

theorem C13_inv_step (s : Section) (op : Op) (h : Inv s) : Inv (s.step op) := by
  cases op with
  | append o u v d => exact C13_inv_append s _ (suffixForm_mkItem o u v d) h
  | insert i o u v d => exact C13_inv_insert s i _ (suffixForm_mkItem o u v d) h
  | del k =>
    simp only [Section.step]
    unfold Section.delitem
    cases s.getitem k with
    | error e => exact h
    | ok i => exact inv_sublist s.tr s.items _ (List.eraseIdx_sublist _ _) h
  | pop i =>
    simp only [Section.step]
    unfold Section.pop
    cases pyIndex s.items.length i with
    | none => exact h
    | some j => exact inv_sublist s.tr s.items _ (List.eraseIdx_sublist _ _) h
  | setItem k o u v d => exact C13_inv_setItem s k _ (suffixForm_mkItem o u v d) h
  | setValue k v =>
    simp only [Section.step]
    unfold Section.setValue
    cases s.getitem k with
    | error e => exact h
    | ok i => exact inv_congr s.tr s.items _ (map_modify_same (fun it => (it.orig, it.session))
        (fun it => { it with value := v }) (fun _ => rfl) s.items i) h
  | getAdd m d =>
    simp only [Section.step]
    unfold Section.get
    cases s.find (.str m) with
    | some i => exact h
    | none => exact C13_inv_append s _ (suffixForm_mkItem m [] d []) h

theorem C13_inv_run_from (s : Section) (ops : List Op) (h : Inv s) : Inv (s.run ops) := by
  induction ops generalizing s with
  | nil => exact h
  | cons op ops ih => exact ih (s.step op) (C13_inv_step s op h)

theorem C13_inv_empty (tr : Bool) : Inv ⟨[], tr⟩ := ⟨by simp, List.Pairwise.nil⟩

theorem C13_inv_run (tr : Bool) (ops : List Op) : Inv (Section.run ⟨[], tr⟩ ops) :=
  C13_inv_run_from _ ops (C13_inv_empty tr)

theorem C13_distinct (s : Section) (h : Inv s) (hc : NoSuffixClash s) : Distinct s := by
  refine List.Pairwise.imp_of_mem (R := Rel s.tr) ?_ h.2
  intro a b ha hb hr
  rw [cmpStr_false_iff]
  intro heq
  by_cases hsame : ckey s.tr (useful a.orig) = ckey s.tr (useful b.orig)
  · obtain ⟨ka, kb, _, hlt, hsa, hsb⟩ := hr hsame
    rw [hsa, hsb, ckey_suffix, ckey_suffix, hsame] at heq
    have := (suffix_inj _ _ _ _ heq).2
    omega
  · rcases h.1 a ha with hsa | ⟨ka, _, hsa⟩ <;> rcases h.1 b hb with hsb | ⟨kb, _, hsb⟩
    · rw [hsa, hsb] at heq
      exact hsame heq
    · rw [hsa, hsb, ckey_suffix] at heq
      exact hc a ha b hb kb heq
    · rw [hsa, hsb, ckey_suffix] at heq
      exact hc b hb a ha ka heq.symm
    · rw [hsa, hsb, ckey_suffix, ckey_suffix] at heq
      exact hsame (suffix_inj _ _ _ _ heq).1

/-- every section reachable from the empty one whose useful names do not clash has distinct session names -/
theorem C13_distinct_run (tr : Bool) (ops : List Op) (hc : NoSuffixClash (Section.run ⟨[], tr⟩ ops)) :
    Distinct (Section.run ⟨[], tr⟩ ops) :=
  C13_distinct _ (C13_inv_run tr ops) hc

theorem C13_resolve (s : Section) (hd : Distinct s) (i : Nat) (it : Item) (hi : s.items[i]? = some it) :
    s.getitem (.str it.session) = .ok i ∧ s.contains (.str it.session) = true := by
  have hf : s.find (.str it.session) = some i := by
    unfold Section.find
    rw [findFirst_some_iff]
    refine ⟨⟨it, hi, cmpStr_refl _ _⟩, ?_⟩
    intro j b hj hb
    obtain ⟨hjl, hjb⟩ := List.getElem?_eq_some_iff.mp hb
    obtain ⟨hil, hib⟩ := List.getElem?_eq_some_iff.mp hi
    have := List.pairwise_iff_getElem.mp hd j i hjl hil hj
    rw [hjb, hib] at this
    exact this
  simp [Section.getitem, Section.contains, hf]

/-- appending originals "A:1", "A", "A" gives two items with the session name "A:1" -/
def clashSec : Section :=
  Section.run ⟨[], false⟩ [.append "A:1".toList [] [] [], .append "A".toList [] [] [], .append "A".toList [] [] []]

theorem C13_counterexample_clash :
    clashSec.keys = ["A:1".toList, "A:1".toList, "A:2".toList] ∧
    clashSec.origs = ["A:1".toList, "A".toList, "A".toList] ∧
    Inv clashSec ∧ ¬ Distinct clashSec ∧ ¬ NoSuffixClash clashSec := by
  have hk : clashSec.keys = ["A:1".toList, "A:1".toList, "A:2".toList] := by decide
  have hnd : ¬ Distinct clashSec := by
    intro hd
    have h0 : clashSec.getitem (.str "A:1".toList) = .ok 1 :=
      (C13_resolve clashSec hd 1 ⟨"A".toList, "A:1".toList, [], [], []⟩ (by decide)).1
    have h1 : clashSec.getitem (.str "A:1".toList) = .ok 0 := by rfl
    rw [h1] at h0
    simp at h0
  refine ⟨hk, by decide, C13_inv_run _ _, hnd, ?_⟩
  intro hc
  exact hnd (C13_distinct _ (C13_inv_run _ _) hc)

theorem noSuffixClash_of_no_colon (s : Section)
    (h : ∀ a ∈ s.items, ':' ∉ ckey s.tr (useful a.orig)) : NoSuffixClash s := by
  intro a ha b _ k heq
  apply h a ha
  rw [heq]
  simp

def exRun : Section :=
  Section.run ⟨[], true⟩
    [.append "A".toList [] [] [], .append "a".toList [] [] [], .append [] [] [] [],
     .insert 0 "A".toList [] [] [], .del (.str "A:2".toList)]

example :
    exRun.keys = ["A:1".toList, "a:3".toList, "UNKNOWN".toList] ∧
    exRun.origs = ["A".toList, "a".toList, []] ∧
    Inv exRun ∧ NoSuffixClash exRun ∧ Distinct exRun ∧
    exRun.getitem (.str "a:3".toList) = .ok 1 ∧ exRun.getitem (.str "A:3".toList) = .ok 1 := by
  have hc : NoSuffixClash exRun := noSuffixClash_of_no_colon _ (by decide +kernel)
  have hi : Inv exRun := C13_inv_run _ _
  have hd : Distinct exRun := C13_distinct _ hi hc
  exact ⟨by decide +kernel, by decide +kernel, hi, hc, hd,
    (C13_resolve exRun hd 1 ⟨"a".toList, "a:3".toList, [], [], []⟩ (by decide +kernel)).1, by decide +kernel⟩

#print axioms C13_originals_step
#print axioms C13_originals_append
#print axioms C13_originals_insert
#print axioms C13_originals_delete
#print axioms C13_originals_pop
#print axioms C13_originals_setItem
#print axioms C13_originals_setValue
#print axioms C13_originals_assign
#print axioms C13_blank_unknown
#print axioms C13_unique_untouched
#print axioms C13_numbering
#print axioms C13_inv_step
#print axioms C13_inv_run_from
#print axioms C13_inv_run
#print axioms C13_distinct
#print axioms C13_distinct_run
#print axioms C13_resolve
#print axioms C13_counterexample_clash

end Lasio
