import Mathlib.Tactic.Ring
import Mathlib.Tactic.FieldSimp
import Mathlib.Tactic.NormNum
import LasioModel.Views
import LasioProofs.Lemmas.ViewsLemmas
/-
C18 — JSON, CSV, Excel, DataFrame and depth views carry the same values as the curves.

What is proved here is the DECISION LOGIC lasio adds on top of its runtime:
  * JSON  : `_json_value` + `JSONEncoder.default` (type dispatch, NaN/inf ↦ null, numpy scalars like Python scalars, dict
            construction keyed by session mnemonics) — every emitted scalar is strict JSON and carries the value;
  * CSV   : which header rows `to_csv` writes for every combination of `mnemonics` / `units` / `units_loc`, data rows in order;
  * units : index-unit detection over the table `Generated.depthUnits` (REGENERATED from /repo/lasio/defaults.py on every
            check: the `decide` obligations below are re-proved against the current table), case-insensitivity for ALL strings
            of the modelled alphabet, conflicts ↦ None;
  * depth : `depth_m = depth_ft × 0.3048` as an identity of exact rational expressions (0.3048 = 381/1250).
NOT modelled (trusted runtime, covered by correspondence + oracle in harness/props/c18.py only): the json module's text
layout/escaping and float repr, csv quoting, openpyxl (to_excel), pandas (df, set_data_from_df), numpy; IEEE rounding of the
depth conversions.
-/
namespace Lasio

theorem C18_json_value_strict (v : HVal) : StrictJson (jsonValue v) := by
  cases v <;> simp [jsonValue, jsonValueConv, npItem, pyJsonNative, StrictJson]

/-- every scalar produced by `jsonValue` / `jsonSample` / `encodeLas` is accepted by a strict JSON parser: it is `null`,
`true`/`false`, a string, or a number whose text is a JSON number literal — never the bare tokens NaN / Infinity. -/
theorem C18_json_strict :
    (∀ v : HVal, StrictJson (jsonValue v)) ∧
    (∀ s : Sample, StrictJson (jsonSample s)) ∧
    (∀ l : LasView, ∀ v ∈ (encodeLas l).vals, StrictJson v) := by
  refine ⟨C18_json_value_strict, fun s => C18_json_value_strict _, ?_⟩
  intro l v hv
  unfold JTree.vals at hv
  rcases List.mem_append.mp hv with hv | hv
  · obtain ⟨vs, hvs, hin⟩ := List.mem_flatten.mp hv
    obtain ⟨ns, hns, rfl⟩ := List.mem_map.mp hvs
    have hmem := mem_dictOf _ _ hns
    obtain ⟨sv, _, rfl⟩ := List.mem_map.mp hmem
    cases hsv : sv.2 with
    | text s =>
      simp only [hsv, encodeSection, JSec.vals, List.mem_singleton] at hin
      subst hin; trivial
    | items its =>
      simp only [hsv, encodeSection, JSec.vals] at hin
      obtain ⟨kv, hkv, rfl⟩ := List.mem_map.mp hin
      have := mem_dictOf _ _ hkv
      obtain ⟨kv', _, rfl⟩ := List.mem_map.mp this
      exact C18_json_value_strict _
  · obtain ⟨vs, hvs, hin⟩ := List.mem_flatten.mp hv
    obtain ⟨c, hc, rfl⟩ := List.mem_map.mp hvs
    have hmem := mem_dictOf _ _ hc
    obtain ⟨c', _, rfl⟩ := List.mem_map.mp hmem
    obtain ⟨s, _, rfl⟩ := List.mem_map.mp hin
    exact C18_json_value_strict _

/-- the text of a `JVal.num` is a JSON number literal, hence none of the constants a strict parser rejects, nor Python's
spellings of the non-finite floats -/
theorem C18_json_num_not_constant (t : NumText) :
    isJsonNumber t.text = true ∧
    t.text ≠ "NaN".toList ∧ t.text ≠ "Infinity".toList ∧ t.text ≠ "-Infinity".toList ∧
    t.text ≠ "nan".toList ∧ t.text ≠ "inf".toList ∧ t.text ≠ "-inf".toList := by
  have h := t.ok
  refine ⟨h, ?_, ?_, ?_, ?_, ?_, ?_⟩ <;> intro e <;> rw [e] at h <;> exact absurd h (by decide)

/-- numbers as numbers (same text), text as text, None ↦ null, NaN / ±inf ↦ null, booleans as booleans; numpy scalars
exactly like the Python scalars they convert to -/
theorem C18_json_values :
    (∀ t, jsonValue (.pyInt t) = .num t) ∧ (∀ t, jsonValue (.pyFloat t) = .num t) ∧
    (∀ t, jsonValue (.npInt t) = .num t) ∧ (∀ t, jsonValue (.npFloat t) = .num t) ∧
    (∀ s, jsonValue (.text s) = .str s) ∧ jsonValue .none = .null ∧
    (∀ w, jsonValue (.pyFloatNonFinite w) = .null) ∧ (∀ w, jsonValue (.npFloatNonFinite w) = .null) ∧
    (∀ b, jsonValue (.bool b) = .bool b) ∧ (∀ b, jsonValue (.npBool b) = .bool b) ∧
    (∀ v, jsonValue (npItem v) = jsonValue v) ∧
    (∀ t, jsonSample (.f t) = .num t) ∧ jsonSample .nan = .null ∧ (∀ n, jsonSample (.inf n) = .null) ∧
    (∀ s, jsonSample (.text s) = .str s) ∧ (∀ t, jsonSample (.int t) = .num t) := by
  refine ⟨fun _ => rfl, fun _ => rfl, fun _ => rfl, fun _ => rfl, fun _ => rfl, rfl, fun _ => rfl, fun _ => rfl,
    fun _ => rfl, fun _ => rfl, ?_, fun _ => rfl, rfl, ?_, fun _ => rfl, fun _ => rfl⟩
  · intro v; cases v <;> rfl
  · intro n; cases n <;> rfl

/-- "carrying every header value": with pairwise distinct session mnemonics (C13, under NoSuffixClash) the JSON object of a
section lists every item, in order, with its converted value -/
theorem C18_json_carries_every_item (its : List (Str × HVal)) (h : (its.map (·.1)).Nodup) :
    encodeSection (.items its) = .obj (its.map fun kv => (kv.1, jsonValue kv.2)) := by
  show JSec.obj (dictOf ((dictOf its).map fun kv => (kv.1, jsonValue kv.2))) = _
  rw [dictOf_nodup its h, dictOf_nodup]
  simpa [List.map_map, Function.comp_def] using h

/-- "and every curve sample": with distinct section names and distinct curve names the tree is the plain map -/
theorem C18_json_carries_every_curve (l : LasView) (hs : (l.sections.map (·.1)).Nodup) (hc : (l.curves.map (·.1)).Nodup) :
    encodeLas l = { metadata := l.sections.map fun ns => (ns.1, encodeSection ns.2),
                    data := l.curves.map fun c => (c.1, c.2.map jsonSample) } := by
  unfold encodeLas
  rw [dictOf_nodup, dictOf_nodup]
  · simpa [List.map_map, Function.comp_def] using hc
  · simpa [List.map_map, Function.comp_def] using hs

/-- the distinctness hypothesis is necessary: `dictview()` is keyed by SESSION mnemonics, a repeated key (only possible
through the C13 suffix clash ['A:1','A','A'] ↦ ['A:1','A:1','A:2']) silently drops a header value -/
theorem C18_json_duplicate_key_drops :
    encodeSection (.items [("A:1".toList, .text "x".toList), ("A:1".toList, .text "y".toList), ("A:2".toList, .none)])
      = .obj [("A:1".toList, .str "y".toList), ("A:2".toList, .null)] := by
  decide

/-- BEFORE the repair (5e01986, R13): NaN header values were written as the bare token `NaN`, numpy integers as `null` -/
theorem C18_json_old_defects :
    (∀ w, ¬ StrictJson (jsonValueOld (.pyFloatNonFinite w))) ∧ (∀ w, ¬ StrictJson (jsonValueOld (.npFloatNonFinite w))) ∧
    (∀ t, jsonValueOld (.npInt t) = .null) ∧ (∀ t, jsonValue (.npInt t) = .num t) := by
  refine ⟨fun _ h => h, fun _ h => h, fun _ => rfl, fun _ => rfl⟩

/-- rows = mnemonic row? ++ unit row? ++ data rows, the data rows unchanged and in order (one record per depth step) -/
theorem C18_csv_layout (o : CsvOpts) (origs units : List Str) (rows : List (List Str)) :
    csvRows o origs units rows = (csvMnemonicRow o origs units).toList ++ (csvUnitRow o units).toList ++ rows ∧
    (csvRows o origs units rows).length =
      (csvMnemonicRow o origs units).toList.length + (csvUnitRow o units).toList.length + rows.length ∧
    (csvRows o origs units rows).drop
      ((csvMnemonicRow o origs units).toList.length + (csvUnitRow o units).toList.length) = rows ∧
    (csvMnemonicRow o origs units).toList.length ≤ 1 ∧ (csvUnitRow o units).toList.length ≤ 1 := by
  refine ⟨rfl, by simp [csvRows]; omega, ?_, ?_, ?_⟩
  · unfold csvRows
    rw [← List.length_append, List.drop_left]
  · cases csvMnemonicRow o origs units <;> simp
  · cases csvUnitRow o units <;> simp

/-- which header rows are written, for every option combination (`ms`/`us` = the lists after `True` ↦ defaults):
no mnemonics ↦ no mnemonic row; no units ↦ neither unit row nor decoration; `"line"` ↦ units on their own row;
`"()"`/`"[]"` ↦ `m + " (" + u + ")"` zipped (truncating to the shorter list) and no unit row; anything else ↦ plain
mnemonic row only -/
theorem C18_csv_units_loc (o : CsvOpts) (origs units ms us : List Str)
    (hm : o.mnemonics.resolve origs = ms) (hu : o.units.resolve units = us) :
    (ms = [] → csvMnemonicRow o origs units = none) ∧
    (us = [] → csvUnitRow o units = none) ∧
    (ms ≠ [] → us = [] → csvMnemonicRow o origs units = some ms) ∧
    (ms ≠ [] → o.unitsLoc = .line → csvMnemonicRow o origs units = some ms) ∧
    (us ≠ [] → o.unitsLoc = .line → csvUnitRow o units = some us) ∧
    (ms ≠ [] → us ≠ [] → o.unitsLoc = .paren → csvMnemonicRow o origs units = some (csvDecorate '(' ')' ms us)) ∧
    (ms ≠ [] → us ≠ [] → o.unitsLoc = .bracket → csvMnemonicRow o origs units = some (csvDecorate '[' ']' ms us)) ∧
    (ms ≠ [] → o.unitsLoc = .other → csvMnemonicRow o origs units = some ms) ∧
    (o.unitsLoc ≠ .line → csvUnitRow o units = none) ∧
    (∀ a b, (csvDecorate a b ms us).length = min ms.length us.length) := by
  have hne : ∀ {l : List Str}, l ≠ [] → l.isEmpty = false := by intro l h; cases l <;> simp_all
  rw [csvMnemonicRow_eq, csvUnitRow_eq, hm, hu]
  refine ⟨?_, ?_, ?_, ?_, ?_, ?_, ?_, ?_, ?_, fun a b => length_csvDecorate a b ms us⟩
  · intro h; simp [h]
  · intro h; simp [h]
  · intro h1 h2; rw [hne h1, h2]; cases o.unitsLoc <;> simp [UnitsLoc.brackets]
  · intro h1 h2; rw [hne h1, h2]; simp [UnitsLoc.brackets]
  · intro h1 h2; rw [hne h1, h2]; simp
  · intro h1 h2 h3; rw [hne h1, hne h2, h3]; simp [UnitsLoc.brackets]
  · intro h1 h2 h3; rw [hne h1, hne h2, h3]; simp [UnitsLoc.brackets]
  · intro h1 h3; rw [hne h1, h3]; simp [UnitsLoc.brackets]
  · intro h; simp [h]

/-- option values: `True` ↦ the curve's own lists, a list ↦ itself, `False`/`None` ↦ nothing, and an EMPTY list behaves
like `False` -/
theorem C18_csv_option_values (origs : List Str) (l : List Str) :
    RowOpt.dflt.resolve origs = origs ∧ (RowOpt.list l).resolve origs = l ∧ RowOpt.off.resolve origs = [] ∧
    (RowOpt.list []).resolve origs = RowOpt.off.resolve origs := ⟨rfl, rfl, rfl, rfl⟩

/-- default options on `n ≥ 1` curves: mnemonic row, unit row, then the data; with default mnemonics/units EVERY record has
as many fields as there are curves, whatever `units_loc` -/
theorem C18_csv_default_width (loc : UnitsLoc) (origs units : List Str) (rows : List (List Str)) (n : Nat)
    (ho : origs.length = n) (hu : units.length = n) (hr : ∀ r ∈ rows, r.length = n) :
    (n ≠ 0 → csvRows {} origs units rows = origs :: units :: rows) ∧
    (n = 0 → csvRows { unitsLoc := loc } origs units rows = rows) ∧
    ∀ r ∈ csvRows { unitsLoc := loc } origs units rows, r.length = n := by
  refine ⟨?_, ?_, ?_⟩
  · intro hn
    cases origs with
    | nil => exact absurd ho.symm hn
    | cons a as =>
      cases units with
      | nil => exact absurd hu.symm hn
      | cons b bs => simp [csvRows, csvMnemonicRow, csvUnitRow, RowOpt.resolve, UnitsLoc.brackets]
  · intro hn
    subst hn
    have h1 : origs = [] := List.eq_nil_of_length_eq_zero ho
    have h2 : units = [] := List.eq_nil_of_length_eq_zero hu
    subst h1; subst h2
    simp [csvRows, csvMnemonicRow, csvUnitRow, RowOpt.resolve]
  · intro r hr'
    unfold csvRows at hr'
    rcases List.mem_append.mp hr' with h | h
    · rcases List.mem_append.mp h with h | h
      · rcases csvMnemonicRow_some _ _ _ _ (Option.mem_toList.mp h) with h | ⟨a, b, h⟩
        · rw [h]; exact ho
        · rw [h, length_csvDecorate]; simp only [RowOpt.resolve]; omega
      · rw [(csvUnitRow_some _ _ _ (Option.mem_toList.mp h)).1]; exact hu
    · exact hr r h

/-- detection depends on the candidate units only through their upper-cased spelling (for EVERY string of the model,
in or outside the recognised sets) — in particular upper / lower / title case variants are treated alike -/
theorem C18_units_case_insensitive :
    (∀ units units', units.map upper = units'.map upper → detectIndexUnit units = detectIndexUnit units') ∧
    (∀ units, detectIndexUnit (units.map upper) = detectIndexUnit units) ∧
    (∀ units, detectIndexUnit (units.map lower) = detectIndexUnit units) := by
  have key : ∀ units units', units.map upper = units'.map upper → detectIndexUnit units = detectIndexUnit units' := by
    intro units units' h
    unfold detectIndexUnit detectWith
    rw [unitMatchList_upper, unitMatchList_upper, h]
  refine ⟨key, ?_, ?_⟩
  · intro units
    apply key
    simp [List.map_map, Function.comp_def, upper_idem]
  · intro units
    apply key
    simp [List.map_map, Function.comp_def, upper_lower]

/-- GENERATED OBLIGATION (re-proved against the current `defaults.DEPTH_UNITS`): every spelling of every entry — as written,
upper-cased and lower-cased — alone as a candidate is recognised as ITS key (no spelling is shared by two keys) -/
theorem C18_units_table_recognised :
    (depthUnitTable.all fun r => r.2.all fun p =>
      detectIndexUnit [p] == some r.1 && detectIndexUnit [upper p] == some r.1 && detectIndexUnit [lower p] == some r.1) = true := by
  decide +kernel

/-- exact characterisation: a key is returned iff some candidate matches it and every matching (key, candidate) pair
names that same key -/
theorem C18_units_detect_iff (units : List Str) (k : Str) :
    detectIndexUnit units = some k ↔
      (∃ r ∈ depthUnitTable, ∃ u ∈ units, unitMatches u r.2 = true) ∧
      (∀ r ∈ depthUnitTable, ∀ u ∈ units, unitMatches u r.2 = true → r.1 = k) := by
  unfold detectIndexUnit detectWith
  rw [uniqueKey_eq_some]
  constructor
  · rintro ⟨hne, hall⟩
    constructor
    · obtain ⟨x, hx⟩ := List.exists_mem_of_ne_nil _ hne
      obtain ⟨r, hr, _, u, hu, hm⟩ := (mem_unitMatchList _ _ _ _).mp hx
      exact ⟨r, hr, u, hu, hm⟩
    · intro r hr u hu hm
      exact hall r.1 ((mem_unitMatchList _ _ _ _).mpr ⟨r, hr, rfl, u, hu, hm⟩)
  · rintro ⟨⟨r, hr, u, hu, hm⟩, hall⟩
    constructor
    · exact List.ne_nil_of_mem ((mem_unitMatchList _ _ _ r.1).mpr ⟨r, hr, rfl, u, hu, hm⟩)
    · intro x hx
      obtain ⟨r', hr', hk, u', hu', hm'⟩ := (mem_unitMatchList _ _ _ _).mp hx
      rw [← hk]; exact hall r' hr' u' hu' hm'

/-- spellings outside the recognised sets (in any case) → undefined -/
theorem C18_units_unknown_undefined (units : List Str)
    (h : ∀ u ∈ units, ∀ r ∈ depthUnitTable, ∀ p ∈ r.2, upper u ≠ upper p) :
    detectIndexUnit units = none := by
  cases hd : detectIndexUnit units with
  | none => rfl
  | some k =>
    obtain ⟨⟨r, hr, u, hu, hm⟩, _⟩ := (C18_units_detect_iff units k).mp hd
    rw [unitMatches_eq] at hm
    obtain ⟨p, hp, he⟩ := List.any_eq_true.mp hm
    exact absurd (by simpa using he) (h u hu r hr p hp)

/-- two candidates matching DIFFERENT keys → the index unit is left undefined -/
theorem C18_units_conflict_undefined (units : List Str) (r1 r2 : Str × List Str) (u1 u2 : Str)
    (h1 : r1 ∈ depthUnitTable) (h2 : r2 ∈ depthUnitTable) (hne : r1.1 ≠ r2.1)
    (hu1 : u1 ∈ units) (hu2 : u2 ∈ units)
    (hm1 : unitMatches u1 r1.2 = true) (hm2 : unitMatches u2 r2.2 = true) :
    detectIndexUnit units = none := by
  unfold detectIndexUnit detectWith
  exact uniqueKey_none_of_two _ r1.1 r2.1
    ((mem_unitMatchList _ _ _ _).mpr ⟨r1, h1, rfl, u1, hu1, hm1⟩)
    ((mem_unitMatchList _ _ _ _).mpr ⟨r2, h2, rfl, u2, hu2, hm2⟩) hne

/-- GENERATED OBLIGATION: the keys of the current table are pairwise distinct and any two spellings taken from different
entries conflict (so the hypothesis of the conflict theorem is met by every cross-entry pair) -/
theorem C18_units_table_conflicts :
    (depthUnitTable.all fun r1 => depthUnitTable.all fun r2 => r1.1 == r2.1 ||
      (r1.2.all fun p1 => r2.2.all fun p2 =>
        detectIndexUnit [p1, p2] == none && detectIndexUnit [lower p1, upper p2] == none)) = true := by
  decide +kernel

/-- BEFORE the repair (ae3c068, R18): `unit.upper() == p` against a table storing `м` in lower case — Cyrillic upper-case
`М` was not recognised although `м` was; now both are -/
theorem C18_units_old_defect :
    detectIndexUnitOld ["М".toList] = none ∧ detectIndexUnitOld ["м".toList] = some "M".toList ∧
    detectIndexUnit ["М".toList] = some "M".toList ∧ detectIndexUnit ["м".toList] = some "M".toList := by
  decide +kernel

/-- both conversions take the same branch (first of "M", "F", ".1IN" contained in the upper-cased index unit), raise
together, and whenever defined `depth_m = depth_ft × 0.3048` EXACTLY over ℚ (0.3048 = 381/1250; IEEE rounding of the two
float computations is not modelled — the harness compares them with rtol 1e-12) -/
theorem C18_depth_consistent (iu : Option Str) :
    (depthM iu = none ↔ depthFt iu = none) ∧
    (depthM iu = none ↔ unitClass iu = none) ∧
    ∀ em ef, depthM iu = some em → depthFt iu = some ef → ∀ x : Rat, em.eval x = ef.eval x * (381 / 1250) := by
  unfold depthM depthFt unitClass
  cases indexUnitContains iu ['M'] with
  | true =>
    refine ⟨by simp, by simp, fun em ef hm hf x => ?_⟩
    cases hm; cases hf
    simp only [DepthExpr.eval, DConst.val]
    field_simp
  | false =>
    cases indexUnitContains iu ['F'] with
    | true =>
      refine ⟨by simp, by simp, fun em ef hm hf x => ?_⟩
      cases hm; cases hf
      simp only [DepthExpr.eval, DConst.val]
    | false =>
      cases indexUnitContains iu ['.', '1', 'I', 'N'] with
      | true =>
        refine ⟨by simp, by simp, fun em ef hm hf x => ?_⟩
        cases hm; cases hf
        simp only [DepthExpr.eval, DConst.val]
      | false => exact ⟨by simp, by simp, fun em ef hm => nomatch hm⟩

/-- GENERATED OBLIGATION: for every recognised index unit (every key of the current table) both conversions are defined -/
theorem C18_depth_defined_on_recognised :
    (depthUnitTable.all fun r => (depthM (some r.1)).isSome && (depthFt (some r.1)).isSome) = true := by
  decide +kernel

/-- undefined index unit → both raise -/
theorem C18_depth_undefined : depthM none = none ∧ depthFt none = none := ⟨rfl, rfl⟩

example : isJsonNumber "1e-07".toList = true ∧ isJsonNumber "-9999.25".toList = true ∧ isJsonNumber "1.5e+300".toList = true ∧
    isJsonNumber "1000000000000000000000000000000".toList = true ∧ isJsonNumber "-0.0".toList = true ∧
    isJsonNumber "01".toList = false ∧ isJsonNumber "1.".toList = false ∧ isJsonNumber ".5".toList = false := by decide +kernel

example : encodeLas { sections := [("Well".toList, .items [("STRT".toList, .pyFloatNonFinite .nan),
                                      ("X".toList, .npInt ⟨"3".toList, by decide⟩), ("C".toList, .text "ab".toList)]),
                                   ("Other".toList, .text "free".toList)],
                      curves := [("DEPT".toList, [.f ⟨"1.0".toList, by decide⟩, .nan]), ("T".toList, [.text "a".toList, .inf true])] }
    = { metadata := [("Well".toList, .obj [("STRT".toList, .null), ("X".toList, .num ⟨"3".toList, by decide⟩),
                                           ("C".toList, .str "ab".toList)]),
                     ("Other".toList, .text "free".toList)],
        data := [("DEPT".toList, [.num ⟨"1.0".toList, by decide⟩, .null]), ("T".toList, [.str "a".toList, .null])] } := by
  decide +kernel

example : csvRows { unitsLoc := .paren } ["DEPT".toList, "GR".toList] ["M".toList, "API".toList, "X".toList]
    [["1.0".toList, "nan".toList]] = [["DEPT (M)".toList, "GR (API)".toList], ["1.0".toList, "nan".toList]] := by decide +kernel

example : csvRows { mnemonics := .list ["a".toList], units := .off } ["DEPT".toList, "GR".toList] ["M".toList, "API".toList]
    [["1.0".toList, "nan".toList]] = [["a".toList], ["1.0".toList, "nan".toList]] := by decide +kernel

example : detectIndexUnit ["m".toList, "M".toList, "Metres".toList, "".toList] = some "M".toList ∧
    detectIndexUnit ["ft".toList, "m".toList] = none ∧ detectIndexUnit ["fathom".toList] = none ∧
    detectIndexUnit [] = none := by decide +kernel

example : depthM (some "FT".toList) = some (.mul .idx .ft) ∧ depthFt (some ".1IN".toList) = some (.div .idx .tenthIn) ∧
    depthM (some ".1in".toList) = some (.mul (.div .idx .tenthIn) .ft) ∧ depthM (some "s".toList) = none := by decide +kernel

example : (DepthExpr.mul (.div .idx .tenthIn) .ft).eval 120 = 381 / 1250 := by
  simp only [DepthExpr.eval, DConst.val]; norm_num

end Lasio

#print axioms Lasio.C18_json_value_strict
#print axioms Lasio.C18_json_strict
#print axioms Lasio.C18_json_num_not_constant
#print axioms Lasio.C18_json_values
#print axioms Lasio.C18_json_carries_every_item
#print axioms Lasio.C18_json_carries_every_curve
#print axioms Lasio.C18_json_duplicate_key_drops
#print axioms Lasio.C18_json_old_defects
#print axioms Lasio.C18_csv_layout
#print axioms Lasio.C18_csv_units_loc
#print axioms Lasio.C18_csv_option_values
#print axioms Lasio.C18_csv_default_width
#print axioms Lasio.C18_units_case_insensitive
#print axioms Lasio.C18_units_table_recognised
#print axioms Lasio.C18_units_detect_iff
#print axioms Lasio.C18_units_unknown_undefined
#print axioms Lasio.C18_units_conflict_undefined
#print axioms Lasio.C18_units_table_conflicts
#print axioms Lasio.C18_units_old_defect
#print axioms Lasio.C18_depth_consistent
#print axioms Lasio.C18_depth_defined_on_recognised
#print axioms Lasio.C18_depth_undefined
