import LasioProofs.Lemmas.FileDlm
import LasioProofs.Props.C11File
import LasioProofs.Props.C12File
/-
The whole-file theorems WITH a DLM item in the written ~Version section.

`C03_file` (readLines form), `C01_file*`, `C11_file_*`, `C12_file` assume `hdlm`: NO item of the written ~Version section is called DLM.
But `defaults.get_default_items()` gives every `lasio.LASFile()` the items VERS, WRAP and `DLM . SPACE : Column Data Section Delimiter`,
so every file written from such an object carries that line.  Here `hdlm` is replaced by

  `Fd.DlmOK o version wrap las`   when exactly one item of the written ~Version section is DLM for the reader, its value text is SPACE.

(Several DLM items make `"DLM" in section` False for the reader, whose session mnemonics are `DLM:1`, `DLM:2`: they are ignored like
none — `C01_file_dlm_two_items_ignored`; `Fd.dlmOK_of_single` is the form "at most one, of value SPACE"; "no DLM item" is the special
case `Fd.dlmOK_of_none` / `Fd.FileConf.toD`, so every theorem below contains its `hdlm` original.)  `Fd.FileConfD` = `Cy.FileConf`
with `DlmOK` for `hdlm`.  `Rd.finishRead` accepts the names SPACE / COMMA / TAB only, and `Tf.dlmOf (some "SPACE") = .space`: the
delimiter handed to `Dt.readData` is `.space` with and without the item, so the data-window theorems of C01 apply unchanged.

  `C03_file_dlm`            the five sections as `C03_file` states them, through `processSections` and through `readLines`, and the
                            steering values in full: `dlm = some "SPACE"` when the item is there (`Fr.steerVal … "DLM"`), `none` otherwise
  `C01_file_dlm`, `C01_file_dlm_wrapYes`, `C01_file_dlm_unwrapped`   = `C01_file*` (`C01_file_samples` needs no restating: it does
                            not mention the header)
  `C11_file_fixed_point_dlm`, `C11_file_iterate_dlm`   second re-read = first re-read (sections AND all four steering values), any
                            number of cycles; `lasOfRead` keeps the DLM item with the value text that was read
  `C12_file_dlm`            two configurations of one object: same sections apart from VERS / WRAP, same curves
Forced: `C01_file_dlm_counterexample_comma` (DLM COMMA over blank-separated data: the normal engine splits at commas — the known
finding `dlm-not-space`), `C01_file_dlm_counterexample_name` (a value that is no delimiter name: `read` raises KeyError).
NOT proved: files whose data ARE comma- or TAB-separated (lasio's writer never produces them).
-/
namespace Lasio.Fd
open Lasio Lasio.Wr Lasio.Cy

/-! ## C03 -/

/-- **`C03_file` with a DLM item.**  The header lines `write` emits, read by the whole-file reader: every section as `C03_file` says
(`firstRead`), and the steering values VERS = the version, WRAP / NULL / DLM = the value text of the single written item of that
name — so `dlm = some "SPACE"` for an object with the default DLM item. -/
theorem C03_file_dlm (o : Rd.ReadOpts) (version : String) (wrap : Option Bool) (w : Nat) (las las' : WLas)
    (lines : List Str) (h : headerLines version wrap w las = .ok (lines, las')) (hc : FileConfD o version wrap las) :
    (∃ st, Rd.processSections o lines (Rd.findSections lines) Rd.RState.init = .ok st ∧
      st.sections.filterMap (fun kv => kv.2.map fun v => (kv.1, v)) = firstRead o version wrap las ∧
      st.steer = fileSteerD o version wrap las) ∧
    Rd.readLines o lines = .ok ⟨firstRead o version wrap las, fileSteerD o version wrap las, []⟩ ∧
    (fileSteerD o version wrap las).vers = some version.toList ∧
    (∀ x, (RH.versionCopy version wrap las).filter (Cy.inGroup o "DLM".toList) = [x] →
      (fileSteerD o version wrap las).dlm = some "SPACE".toList) ∧
    ((∀ it ∈ RH.versionCopy version wrap las, upper it.orig ≠ "DLM".toList) → (fileSteerD o version wrap las).dlm = none) := by
  refine ⟨?_, readLines_header_dlm o version wrap w las las' lines h hc, rfl, ?_, ?_⟩
  · obtain ⟨secs5, st, hl, hw, _, hst, hsec, _, _, _, hsteer⟩ := header_state o version wrap w las las' lines h hc
    exact ⟨st, by rw [hl, RH.read_flat o secs5 _ hw, hst], hsec, hsteer⟩
  · intro x hx
    have hv : Fr.steerVal o "DLM" (RH.versionCopy version wrap las) = some x.value.text := by
      unfold Fr.steerVal; rw [hx]
    show Fr.steerVal o "DLM" (RH.versionCopy version wrap las) = _
    rw [hv, hc.hdlm _ hv]
  · intro hn
    exact Fr.steerVal_dlm_none o _ hn

/-! ## C01 -/

/-- **`C01_file` with a DLM item** -/
theorem C01_file_dlm (opts : Tf.Opts) (nullOf : Option Str → Option Str) (ft : Dt.FloatTable)
    (version : String) (wrap : Option Bool) (w : Nat) (las las' : WLas)
    (hlines : List Str) (hH : headerLines version wrap w las = .ok (hlines, las'))
    (hc : FileConfD opts.hdr version wrap las)
    {cfg : Dw.DataCfg} {null : Str} {mn : List Str} {rows : List (List Dw.F64)} {c : Dw.RowCfg} {n : Nat} {hdr : Str}
    {body : List Str} (wd : Rt.Written cfg null mn rows c n hdr body) (hn : null.head? ≠ some '~')
    (a : Char) (r : Str) (hd : cfg.dataSectionHeader = '~' :: a :: r) (ha : upperC a = 'A') :
    Tf.readFull opts nullOf ft (Fr.fileDoc hlines hdr body) = .ok
      ⟨firstRead opts.hdr version wrap las, fileSteerD opts.hdr version wrap las,
       [⟨hlines.length, hlines.length + body.length,
         Dt.readData opts.dat (Fr.fileDoc hlines hdr body) hlines.length (hlines.length + body.length)
           (Tf.dtSteer nullOf (fileSteerD opts.hdr version wrap las)) las.curves.length ft⟩]⟩ ∧
    (Tf.dtSteer nullOf (fileSteerD opts.hdr version wrap las)).delimiter = .space :=
  ⟨readFull_file_dlm opts nullOf ft version wrap w las las' hlines hH hc wd hn a r hd ha,
    (dtSteer_file_dlm nullOf opts.hdr version wrap las hc.hdlm).1⟩

theorem C01_file_dlm_wrapYes (opts : Tf.Opts) (nullOf : Option Str → Option Str) (ft : Dt.FloatTable)
    (version : String) (wrap : Option Bool) (w : Nat) (las las' : WLas)
    (hlines : List Str) (hH : headerLines version wrap w las = .ok (hlines, las'))
    (hc : FileConfD opts.hdr version wrap las)
    {cfg : Dw.DataCfg} {null : Str} {mn : List Str} {rows : List (List Dw.F64)} {c : Dw.RowCfg} {n : Nat} {hdr : Str}
    {body : List Str} (wd : Rt.Written cfg null mn rows c n hdr body) (hn : null.head? ≠ some '~')
    (a : Char) (r : Str) (hd : cfg.dataSectionHeader = '~' :: a :: r) (ha : upperC a = 'A')
    (hwy : Fr.steerVal opts.hdr "WRAP" (RH.versionCopy version wrap las) = some Dt.yesTxt)
    (hcur : las.curves.length = n) :
    Tf.readFull opts nullOf ft (Fr.fileDoc hlines hdr body) = .ok
      ⟨firstRead opts.hdr version wrap las, fileSteerD opts.hdr version wrap las,
       [⟨hlines.length, hlines.length + body.length,
         .ok (.normal, Dt.assignCurves n (Dt.applyNull (opts.dat.nullPolicy == .strict)
           (nullOf (Fr.steerVal opts.hdr "NULL" (standardizeItems las.well)))
           (Dt.matrixColumns ft n (Rt.tokenRows c null rows))))⟩]⟩ := by
  rw [(C01_file_dlm opts nullOf ft version wrap w las las' hlines hH hc wd hn a r hd ha).1, hcur]
  obtain ⟨h1, h2, h3⟩ := dtSteer_file_dlm nullOf opts.hdr version wrap las hc.hdlm
  obtain ⟨h4, h5⟩ := h3 _ hwy
  obtain ⟨e, p⟩ := opts.dat
  rw [Fr.readData_file_wrapYes wd hlines e p _ ft h1 h4 h5, h2]

theorem C01_file_dlm_unwrapped (opts : Tf.Opts) (nullOf : Option Str → Option Str) (ft : Dt.FloatTable)
    (version : String) (wrap : Option Bool) (w : Nat) (las las' : WLas)
    (hlines : List Str) (hH : headerLines version wrap w las = .ok (hlines, las'))
    (hc : FileConfD opts.hdr version wrap las)
    {cfg : Dw.DataCfg} {null : Str} {mn : List Str} {rows : List (List Dw.F64)} {c : Dw.RowCfg} {n : Nat} {hdr : Str}
    {body : List Str} (wd : Rt.Written cfg null mn rows c n hdr body) (hn : null.head? ≠ some '~')
    (a : Char) (r : Str) (hd : cfg.dataSectionHeader = '~' :: a :: r) (ha : upperC a = 'A')
    (hwrap : cfg.wrap = false) (t : Str)
    (hwt : Fr.steerVal opts.hdr "WRAP" (RH.versionCopy version wrap las) = some t) (hne : t ≠ Dt.yesTxt) :
    ∃ res, Tf.readFull opts nullOf ft (Fr.fileDoc hlines hdr body) = .ok
      ⟨firstRead opts.hdr version wrap las, fileSteerD opts.hdr version wrap las,
       [⟨hlines.length, hlines.length + body.length, res⟩]⟩ ∧
      res.map Prod.snd = .ok (Dt.assignCurves las.curves.length (Dt.applyNull (opts.dat.nullPolicy == .strict)
        (nullOf (Fr.steerVal opts.hdr "NULL" (standardizeItems las.well)))
        (Dt.matrixColumns ft n (Rt.tokenRows c null rows)))) := by
  refine ⟨_, (C01_file_dlm opts nullOf ft version wrap w las las' hlines hH hc wd hn a r hd ha).1, ?_⟩
  obtain ⟨h1, h2, h3⟩ := dtSteer_file_dlm nullOf opts.hdr version wrap las hc.hdlm
  obtain ⟨_, h5⟩ := h3 _ hwt
  obtain ⟨e, p⟩ := opts.dat
  rw [Fr.readData_file_unwrapped wd hwrap hlines e p _ _ ft h1 (by rw [h5]; exact hne), h2]

/-! ## C11 -/

theorem fileSteerD_of_firstRead (o : Rd.ReadOpts) (version : String) (wrap : Option Bool) (las1 las : WLas)
    (h : firstRead o version wrap las1 = firstRead o version wrap las) :
    fileSteerD o version wrap las1 = fileSteerD o version wrap las := by
  simp only [firstRead, List.cons.injEq, Prod.mk.injEq, Rd.SecVal.items.injEq, true_and] at h
  unfold fileSteerD
  rw [Fr.steerVal_of_map o "WRAP" _ _ h.1, Fr.steerVal_of_map o "DLM" _ _ h.1, Fr.steerVal_of_map o "NULL" _ _ h.2.1]

/-- **`C11_file_fixed_point` with a DLM item**: second re-read = first re-read — the sections and ALL FOUR steering values -/
theorem C11_file_fixed_point_dlm (o : Rd.ReadOpts) (rv : Str → WVal) (hrv : Retype rv) (version : String)
    (wrap : Option Bool) (w w2 : Nat) (las las' : WLas) (lines : List Str)
    (h : headerLines version wrap w las = .ok (lines, las'))
    (hc : FileConfD o version wrap las) (hx : CycleConf o version wrap las) (hsp : SpeltConf rv version wrap las) :
    ∃ hd, Rd.readLines o lines = .ok hd ∧ hd.sections = firstRead o version wrap las ∧
      ∃ lines2 las2', headerLines version wrap w2 (lasOfRead rv o hd.sections) = .ok (lines2, las2') ∧
        ∃ hd2, Rd.readLines o lines2 = .ok hd2 ∧ hd2.sections = hd.sections ∧ hd2.steer = hd.steer ∧ hd2.data = hd.data := by
  have hver := headerLines_version version wrap w las las' lines h
  have hr := readLines_header_dlm o version wrap w las las' lines h hc
  obtain ⟨hc1, _, _, hfix, htot⟩ := cycle_core_dlm o hrv version wrap las hver hc hx hsp
  obtain ⟨lines2, las2', h2⟩ := htot w2
  have hr2 := readLines_header_dlm o version wrap w2 _ las2' lines2 h2 hc1
  exact ⟨_, hr, rfl, lines2, las2', h2, _, hr2, hfix, fileSteerD_of_firstRead o version wrap _ las hfix, rfl⟩

/-- **`C11_file_iterate` with a DLM item** -/
theorem C11_file_iterate_dlm (o : Rd.ReadOpts) (rv : Str → WVal) (hrv : Retype rv) (version : String)
    (wrap : Option Bool) (las : WLas) (hver : version = "1.2" ∨ version = "2.0")
    (hc : FileConfD o version wrap las) (hx : CycleConf o version wrap las) (hsp : SpeltConf rv version wrap las)
    (ws : List Nat) :
    C11.recycleAll rv o version wrap ws (firstRead o version wrap las) = some (firstRead o version wrap las) := by
  have hstep : ∀ w2, C11.recycle rv o version wrap w2 (firstRead o version wrap las) = some (firstRead o version wrap las) := by
    intro w2
    obtain ⟨hc1, _, _, hfix, htot⟩ := cycle_core_dlm o hrv version wrap las hver hc hx hsp
    obtain ⟨lines2, las2', h2⟩ := htot w2
    have hr2 := readLines_header_dlm o version wrap w2 _ las2' lines2 h2 hc1
    unfold C11.recycle C11.reread
    rw [h2]
    simp only [hr2, hfix]
  induction ws with
  | nil => rfl
  | cons w ws ih => simp only [C11.recycleAll, hstep w, Option.bind_some, ih]

/-! ## C12 -/

/-- everything `C01_file_dlm` asks of one configuration -/
structure FileWrittenD (opts : Tf.Opts) (las : WLas) (null : Str) (rows : List (List Dw.F64)) (n : Nat)
    (version : String) (wrap : Option Bool) (w : Nat) (cfg : Dw.DataCfg) (mn : List Str) (c : Dw.RowCfg)
    (hlines : List Str) (hdr : Str) (body : List Str) : Prop where
  header : ∃ las', headerLines version wrap w las = .ok (hlines, las')
  conf : FileConfD opts.hdr version wrap las
  data : Rt.Written cfg null mn rows c n hdr body
  title : ∃ a r, cfg.dataSectionHeader = '~' :: a :: r ∧ upperC a = 'A'
  fit : Fc.Fit opts.hdr version wrap las cfg

/-- **`C12_file` with a DLM item** -/
theorem C12_file_dlm (opts : Tf.Opts) (nullOf : Option Str → Option Str) (ft : Dt.FloatTable)
    (las : WLas) (null : Str) (rows : List (List Dw.F64)) (n : Nat)
    {v1 v2 : String} {wr1 wr2 : Option Bool} {w1 w2 : Nat} {cfg1 cfg2 : Dw.DataCfg} {mn1 mn2 : List Str} {c1 c2 : Dw.RowCfg}
    {hl1 hl2 : List Str} {hdr1 hdr2 : Str} {body1 body2 : List Str}
    (F1 : FileWrittenD opts las null rows n v1 wr1 w1 cfg1 mn1 c1 hl1 hdr1 body1)
    (F2 : FileWrittenD opts las null rows n v2 wr2 w2 cfg2 mn2 c2 hl2 hdr2 body2)
    (hp : Rt.SamePrec c1 c2 n) (hn : null.head? ≠ some '~') (hcur : las.curves.length = n)
    (hs : Fc.SessionsSane opts.hdr las) :
    ∃ res1 res2,
      Tf.readFull opts nullOf ft (Fr.fileDoc hl1 hdr1 body1) = .ok
        ⟨(Rd.kVersion, .items ((RH.versionCopy v1 wr1 las).map (rdExpected opts.hdr))) :: Fc.commonSections opts.hdr las,
         fileSteerD opts.hdr v1 wr1 las, [⟨hl1.length, hl1.length + body1.length, res1⟩]⟩ ∧
      Tf.readFull opts nullOf ft (Fr.fileDoc hl2 hdr2 body2) = .ok
        ⟨(Rd.kVersion, .items ((RH.versionCopy v2 wr2 las).map (rdExpected opts.hdr))) :: Fc.commonSections opts.hdr las,
         fileSteerD opts.hdr v2 wr2 las, [⟨hl2.length, hl2.length + body2.length, res2⟩]⟩ ∧
      ((RH.versionCopy v1 wr1 las).map (rdExpected opts.hdr)).filter (Fc.notVW opts.hdr) =
        ((RH.versionCopy v2 wr2 las).map (rdExpected opts.hdr)).filter (Fc.notVW opts.hdr) ∧
      res1.map Prod.snd = res2.map Prod.snd ∧
      res1.map Prod.snd = .ok (Dt.assignCurves n (Dt.applyNull (opts.dat.nullPolicy == .strict)
        (nullOf (Fr.steerVal opts.hdr "NULL" (standardizeItems las.well)))
        (Dt.matrixColumns ft n (Rt.tokenRows c1 null rows)))) := by
  obtain ⟨las1', hH1⟩ := F1.header
  obtain ⟨las2', hH2⟩ := F2.header
  obtain ⟨a1, r1, hd1, ha1⟩ := F1.title
  obtain ⟨a2, r2, hd2, ha2⟩ := F2.title
  obtain ⟨res1, e1, q1⟩ := file_read_dlm opts nullOf ft v1 wr1 w1 las las1' hl1 hH1 F1.conf F1.data hn a1 r1 hd1 ha1 F1.fit hcur
  obtain ⟨res2, e2, q2⟩ := file_read_dlm opts nullOf ft v2 wr2 w2 las las2' hl2 hH2 F2.conf F2.data hn a2 r2 hd2 ha2 F2.fit hcur
  refine ⟨res1, res2, e1, e2, Fc.version_items_independent opts.hdr v1 v2 wr1 wr2 las hs, ?_, q1⟩
  rw [q1, q2, Rt.tokenRows_samePrec c1 c2 null rows n F1.data.rect hp]

/-! ## non-vacuity: the DEFAULT ~Version section of `lasio.LASFile()` (VERS, WRAP, DLM = SPACE) with the data of C01File -/

open Fr in
def dVers : WItem := mkWItem (fs "VERS") [] (.num (fs "2.0") false) (fs "CWLS log ASCII Standard -VERSION 2.0")
open Fr in
def dWrap : WItem := mkWItem (fs "WRAP") [] (.str (fs "NO")) (fs "One line per depth step")
open Fr in
def dDlm (v : String) : WItem := mkWItem (fs "DLM") [] (.str (fs v)) (fs "Column Data Section Delimiter")
open Fr in
/-- `defaults.get_default_items()["Version"]` (+ the DLM items `dl` instead of the default one), `mnemonic_transforms = False` -/
def dLasOf (dl : List WItem) : WLas := ⟨[dVers, dWrap] ++ dl, false, [fStrt, fStop, fStep, fNullIt], [fDept, fGr], [], []⟩
def dLas : WLas := dLasOf [dDlm "SPACE"]

theorem dConfV (it : WItem) (h : it = dVers ∨ it = dWrap ∨ it = dDlm "SPACE") : TextConf .version it :=
  textConf_of_forall [dVers, dWrap, dDlm "SPACE"] (by decide +kernel) _ it
    (by simpa only [List.mem_cons, List.not_mem_nil, or_false] using h)

open Fr in
theorem dFileConf : FileConfD fOpts.hdr "2.0" (some false) dLas :=
  fileConfD_of_check _ _ _ _ (by decide +kernel) ⟨dVers, by decide +kernel⟩
    (show ∀ d ∈ Fr.steerVal fOpts.hdr "DLM" (RH.versionCopy "2.0" (some false) dLas), d = "SPACE".toList by decide +kernel)

open Fr in
theorem dCycleConf : CycleConf fOpts.hdr "2.0" (some false) dLas :=
  ⟨⟨wrapItem false, by decide +kernel⟩, by decide +kernel, by decide +kernel, by decide +kernel⟩

open Fr in
/-- **the default header, written and read back**: VERS 2.0, WRAP NO, `DLM . SPACE`; the re-read has the three ~Version items,
`steer.dlm = some "SPACE"`, and the curves of C01File; two further load/save cycles return the same sections -/
example (hlines : List Str) (las' : WLas) (hH : headerLines "2.0" (some false) 20 dLas = .ok (hlines, las')) :
    ∃ res, Tf.readFull fOpts fNullOf fFt (fileDoc hlines fHdr fBody) = .ok
        ⟨firstRead fOpts.hdr "2.0" (some false) dLas, fileSteerD fOpts.hdr "2.0" (some false) dLas,
         [⟨hlines.length, hlines.length + 2, res⟩]⟩ ∧
      res.map Prod.snd = .ok [(.declared 0, .floats [fH1, fH2]), (.declared 1, .floats [fH012, Dt.nanTxt])] ∧
      fileSteerD fOpts.hdr "2.0" (some false) dLas =
        ⟨some (fs "2.0"), some (fs "NO"), some (fs "-999.25"), some (fs "SPACE")⟩ ∧
      Cy.secItems Rd.kVersion (firstRead fOpts.hdr "2.0" (some false) dLas) =
        [⟨fs "VERS", [], fs "2.0", fs "CWLS log ASCII Standard -VERSION 2.0"⟩,
         ⟨fs "WRAP", [], fs "NO", fs "One line per depth step"⟩,
         ⟨fs "DLM", [], fs "SPACE", fs "Column Data Section Delimiter"⟩] ∧
      C11.recycleAll WVal.str fOpts.hdr "2.0" (some false) [60, 5] (firstRead fOpts.hdr "2.0" (some false) dLas) =
        some (firstRead fOpts.hdr "2.0" (some false) dLas) := by
  obtain ⟨res, h1, h2⟩ := C01_file_dlm_unwrapped fOpts fNullOf fFt "2.0" (some false) 20 dLas las' hlines hH dFileConf fWritten
    (by decide) 'A' (fs "SCII") rfl (by decide) rfl (fs "NO") (by decide +kernel) (by decide)
  refine ⟨res, h1, ?_, by decide +kernel, by decide +kernel,
    C11_file_iterate_dlm fOpts.hdr WVal.str retype_str "2.0" (some false) dLas (Or.inr rfl) dFileConf dCycleConf
      (speltConf_str _ _ _) _⟩
  rw [h2]
  decide +kernel

open Fr in
/-- the document written for the header with the DLM items `dl` -/
def dDoc (dl : List WItem) : Tf.Doc :=
  match headerLines "2.0" (some false) 20 (dLasOf dl) with
  | .ok (hl, _) => fileDoc hl fHdr fBody
  | .error _ => []

open Fr in
/-- the same by running the models: the DLM line as written, the steering values, the window -/
example :
    (dDoc [dDlm "SPACE"])[3]? = some (fs "DLM . SPACE : Column Data Section Delimiter\n") ∧
    ((Tf.readFull fOpts fNullOf fFt (dDoc [dDlm "SPACE"])).toOption.map fun r => r.steer) =
      some ⟨some (fs "2.0"), some (fs "NO"), some (fs "-999.25"), some (fs "SPACE")⟩ ∧
    ((Tf.readFull fOpts fNullOf fFt (dDoc [dDlm "SPACE"])).toOption.map fun r =>
        r.data.map fun d => d.res.toOption.map Prod.snd) =
      some [some [(.declared 0, .floats [fH1, fH2]), (.declared 1, .floats [fH012, Dt.nanTxt])]] := by
  decide +kernel

/-! ## the hypothesis is needed -/

open Fr in
/-- `DlmOK` is needed (the known finding `dlm-not-space`): an object whose DLM item says COMMA is written blank-separated all the
same; the normal engine then splits the data lines at commas: one text cell per line (`1.00       0.12`), the second curve all NaN -/
theorem C01_file_dlm_counterexample_comma :
    ((Tf.readFull ⟨⟨false, .upper⟩, ⟨.normal, .strict⟩⟩ fNullOf fFt (dDoc [dDlm "COMMA"])).toOption.map fun r => r.steer.dlm) =
      some (some (fs "COMMA")) ∧
    ((Tf.readFull ⟨⟨false, .upper⟩, ⟨.normal, .strict⟩⟩ fNullOf fFt (dDoc [dDlm "COMMA"])).toOption.map fun r =>
        r.data.map fun d => d.res.toOption.map Prod.snd) =
      some [some [(.declared 0, .text [fs "1.00       0.12", fs "2.00    -999.25"]),
                  (.declared 1, .floats [Dt.nanTxt, Dt.nanTxt])]] := by
  decide +kernel

open Fr in
/-- … and a DLM value that is no delimiter name makes `read` raise KeyError (`define_line_splitter`) -/
theorem C01_file_dlm_counterexample_name :
    (match Tf.readFull fOpts fNullOf fFt (dDoc [dDlm "FOO"]) with
     | .error e => some e
     | .ok _ => none) = some Rd.RErr.keyError := by
  decide +kernel

open Fr in
/-- two DLM items (whatever their values) are NOT a counter-example: `"DLM" in section` is False for the reader, the delimiter
stays SPACE, `DlmOK` holds and the file reads as usual -/
theorem C01_file_dlm_two_items_ignored :
    DlmOK fOpts.hdr "2.0" (some false) (dLasOf [dDlm "COMMA", dDlm "TAB"]) ∧
    ((Tf.readFull fOpts fNullOf fFt (dDoc [dDlm "COMMA", dDlm "TAB"])).toOption.map fun r => r.steer.dlm) = some none ∧
    ((Tf.readFull fOpts fNullOf fFt (dDoc [dDlm "COMMA", dDlm "TAB"])).toOption.map fun r =>
        r.data.map fun d => d.res.toOption.map Prod.snd) =
      some [some [(.declared 0, .floats [fH1, fH2]), (.declared 1, .floats [fH012, Dt.nanTxt])]] := by
  refine ⟨show ∀ d ∈ Fr.steerVal fOpts.hdr "DLM" (RH.versionCopy "2.0" (some false) (dLasOf [dDlm "COMMA", dDlm "TAB"])),
    d = "SPACE".toList by decide +kernel, by decide +kernel⟩

end Lasio.Fd

#print axioms Lasio.Fd.C03_file_dlm
#print axioms Lasio.Fd.C01_file_dlm
#print axioms Lasio.Fd.C01_file_dlm_wrapYes
#print axioms Lasio.Fd.C01_file_dlm_unwrapped
#print axioms Lasio.Fd.C11_file_fixed_point_dlm
#print axioms Lasio.Fd.C11_file_iterate_dlm
#print axioms Lasio.Fd.C12_file_dlm
#print axioms Lasio.Fd.dFileConf
#print axioms Lasio.Fd.C01_file_dlm_counterexample_comma
#print axioms Lasio.Fd.C01_file_dlm_counterexample_name
#print axioms Lasio.Fd.C01_file_dlm_two_items_ignored
