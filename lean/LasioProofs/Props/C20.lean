import LasioModel.Generated
import LasioProofs.Lemmas.ResourceSound
/-
C20 — every file lasio opens is closed again, whatever fails and wherever.
`Generated.readProg / writeProg / toCsvProg` are produced from /repo's CURRENT source by harness/translate.py on every
run; the obligations below are therefore re-checked against what the code says now.
-/
namespace Lasio

/-- all behaviours of a generated program (any fault schedule, any loop counts) end with nothing held, nothing leaked -/
def ProgLeakFree (p : Option Stmt) : Prop :=
  ∃ q, p = some q ∧ ∀ fuel σ, (exec fuel q σ St.init).2.1.held = [] ∧ (exec fuel q σ St.init).2.1.leaked = false

theorem progLeakFree_of_check (p : Option Stmt) (h : (p.map leakFree) = some true) : ProgLeakFree p := by
  cases p with
  | none => simp at h
  | some q =>
    simp at h
    exact ⟨q, rfl, fun fuel σ => leakFree_sound q h fuel σ⟩

/-- soundness of the "no foreign close" analysis: on every behaviour no variable that holds no handle opened by the
program (i.e. a caller-supplied object) is ever closed -/
theorem noForeignClose_sound (p : Stmt) (h : noForeignClose p = true) (fuel : Nat) (σ : List Bool) :
    (exec fuel p σ St.init).2.1.foreign = false := by
  simpa [resOf] using outs_all_sound p _ h fuel σ

/-- read(): the handle opened for a path (through open_file / open_with_codecs / adhoc_test_encoding) is closed on
every path, including every raise point -/
theorem C20_read : ProgLeakFree Generated.readProg :=
  progLeakFree_of_check _ (by decide +kernel)

/-- both analyses of write() and of to_csv(): each program's outcomes are computed once -/
theorem writeProg_checks :
    Generated.writeProg.map leakFree = some true ∧ Generated.writeProg.map noForeignClose = some true := by
  decide +kernel

theorem toCsvProg_checks :
    Generated.toCsvProg.map leakFree = some true ∧ Generated.toCsvProg.map noForeignClose = some true := by
  decide +kernel

/-- write(path): closed on every path -/
theorem C20_write : ProgLeakFree Generated.writeProg :=
  progLeakFree_of_check _ writeProg_checks.1

/-- to_csv(path): closed on every path -/
theorem C20_to_csv : ProgLeakFree Generated.toCsvProg :=
  progLeakFree_of_check _ toCsvProg_checks.1

theorem noForeignClose_of_check (p : Option Stmt) (h : p.map noForeignClose = some true) :
    ∃ q, p = some q ∧ ∀ fuel σ, (exec fuel q σ St.init).2.1.foreign = false := by
  cases p with
  | none => cases h
  | some q => exact ⟨q, rfl, fun fuel σ => noForeignClose_sound q (Option.some.inj h) fuel σ⟩

/-- write()/to_csv() never close an object they did not open themselves (a file object supplied by the caller is left open) -/
theorem C20_caller_left_open :
    (∃ q, Generated.writeProg = some q ∧ ∀ fuel σ, (exec fuel q σ St.init).2.1.foreign = false) ∧
    (∃ q, Generated.toCsvProg = some q ∧ ∀ fuel σ, (exec fuel q σ St.init).2.1.foreign = false) :=
  ⟨noForeignClose_of_check _ writeProg_checks.2, noForeignClose_of_check _ toCsvProg_checks.2⟩

/-- the statement is not vacuous: a program shaped like the unrepaired write() (open; body may raise; close, no
finally) is rejected by the analysis and has a concrete leaking schedule -/
theorem C20_unrepaired_write_leaks :
    leakFree writeProg = false ∧ ∃ fuel σ, (exec fuel writeProg σ St.init).2.1.held ≠ [] :=
  ⟨writeProg_rejected, writeProg_leaks⟩

end Lasio
