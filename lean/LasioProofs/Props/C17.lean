import LasioModel.Copy
import LasioProofs.Lemmas.CopyLemmas
/-
C17 — a pickle round trip (protocols 0..5) or `copy.deepcopy` of an item, a section or a LASFile reproduces it:
same original and session mnemonics (stale or odd ones included), unit, value, description, data.

Model: `LasioModel/Copy.lean` (the call patterns of the CPython runtime were determined experimentally and are
re-checked by harness/props/c17.py on every run).  Two defects were found by this property and repaired in lasio;
their old behaviour is kept here as `reduceItemOld` / `rebuildSectionOld` with counter-example theorems.
Independence of the copy (no shared mutable state) is a statement about object identity, which a functional model
cannot express; it is covered by the oracle of the harness (mutate the copy, re-dump the original).
-/
namespace Lasio

/-- header fields of EVERY item survive, whatever its session mnemonic looks like (the state dict restores it
verbatim, bypassing `__setattr__`) -/
theorem C17_item_fields (it : Item) : copyItem it = it := copyItem_id it

/-- an item object (fields + data + class) is reproduced; for a `CurveItem` the `data` attribute must not be `None`
(`CurveItem.__init__` turns `None` into an empty array) -/
theorem C17_item (o : PyItem) (h : o.isCurve = true → o.data ≠ none) : rebuildItem (reduceItem o) = o := by
  obtain ⟨it, data, isCurve⟩ := o
  cases it
  cases isCurve with
  | false => rfl
  | true =>
    cases data with
    | none => exact absurd rfl (h rfl)
    | some d => rfl

/-- the hypothesis of `C17_item` is needed -/
theorem C17_counterexample_curve_data_none :
    rebuildItem (reduceItem ⟨mkItem "A".toList [] [] [], none, true⟩) =
      ⟨mkItem "A".toList [] [] [], some emptyArrayTag, true⟩ := by
  rfl

theorem C17_items (l : List PyItem) (h : ∀ o ∈ l, o.isCurve = true → o.data ≠ none) : rebuildObjs l = l := by
  unfold rebuildObjs
  induction l with
  | nil => rfl
  | cons a as ih =>
    rw [List.map_cons, C17_item a (h a (by simp)), ih (fun o ho => h o (by simp [ho]))]

/-- the ORIGINAL defect (R12): `__reduce__` passed the session mnemonic to the constructor, so the second of two
curves named `A` (session `A:2`) came back with the ORIGINAL mnemonic `A:2` -/
theorem C17_counterexample_session_reduce :
    (rebuildItem (reduceItemOld ⟨⟨"A".toList, "A:2".toList, [], [], []⟩, none, false⟩)).it =
      ⟨"A:2".toList, "A:2".toList, [], [], []⟩ ∧
    (rebuildItem (reduceItem ⟨⟨"A".toList, "A:2".toList, [], [], []⟩, none, false⟩)).it =
      ⟨"A".toList, "A:2".toList, [], [], []⟩ := by
  constructor <;> rfl

/-- … while an item whose session mnemonic equals its original one was not affected (the only case the test suite
sampled) -/
theorem C17_old_reduce_ok_without_suffix (o : PyItem) (h : o.it.session = o.it.orig) (hu : useful o.it.orig = o.it.orig)
    (hd : o.isCurve = true → o.data ≠ none) : rebuildItem (reduceItemOld o) = o := by
  obtain ⟨it, data, isCurve⟩ := o
  obtain ⟨orig, session, unit, value, descr⟩ := it
  simp only [] at h hu
  subst h
  have e : rebuildItem (reduceItemOld ⟨⟨session, session, unit, value, descr⟩, data, isCurve⟩) =
      ⟨⟨session, useful session, unit, value, descr⟩,
        if isCurve then some (data.getD emptyArrayTag) else data, isCurve⟩ := rfl
  rw [e, hu]
  cases isCurve with
  | false => rfl
  | true =>
    cases data with
    | none => exact absurd rfl (hd rfl)
    | some d => rfl

theorem C17_section_path (p : RebuildPath) (s : Section) : rebuildSection p s = s := by
  cases s
  cases p <;> simp [rebuildSection, cpSetState, cpListExtend, cpNewObj, cpClassCall, map_copyItem]

/-- in particular a section with stale suffixes (after a deletion) keeps them -/
def staleSec : Section :=
  Section.run ⟨[], false⟩
    [.append "A".toList [] [] [], .append "A".toList [] [] [], .append "A".toList [] [] [], .pop 0]

theorem C17_section_stale :
    staleSec.keys = ["A:2".toList, "A:3".toList] ∧ ∀ p, (rebuildSection p staleSec).keys = staleSec.keys :=
  ⟨by decide, fun p => by rw [C17_section_path]⟩

/-- the whole LASFile: every section is reproduced, plain attributes are copied as they are -/
theorem C17_las (p : RebuildPath) (l : CopyLas) : rebuildLas p l = l := by
  obtain ⟨secs, other, attrs⟩ := l
  unfold rebuildLas
  simp only []
  congr 1
  induction secs with
  | nil => rfl
  | cons a as ih =>
    rw [List.map_cons, ih, C17_section_path]

/-- the defect found by this property: `copy._reconstruct` rebuilt the list with lasio's `append`, which re-assigned
the suffixes of the copy: session names `A:2`, `A:3` became `A:1`, `A:2` -/
theorem C17_counterexample_deepcopy_old :
    staleSec.keys = ["A:2".toList, "A:3".toList] ∧
    (rebuildSectionOld staleSec).keys = ["A:1".toList, "A:2".toList] ∧
    (rebuildSectionOld staleSec).origs = staleSec.origs ∧
    ¬ Canonical staleSec := by
  refine ⟨C17_section_stale.1, by decide +kernel, by decide +kernel, fun h => absurd (h "A".toList) (by decide +kernel)⟩

/-- the old path was the identity exactly on the hypothesis `Canonical` (re-running `assign_duplicate_suffixes` for
any mnemonic changes nothing) -/
theorem C17_deepcopy_old_canonical (s : Section) (h : Canonical s) : rebuildSectionOld s = s := by
  obtain ⟨l, tr⟩ := s
  unfold rebuildSectionOld cpSetState cpNewObj
  simp only [map_copyItem]
  simpa using foldl_append_canonical_from tr [] l (by simpa using h)

/-- `Canonical` is inherited by prefixes (the sections `append` sees while the copy is rebuilt) -/
theorem C17_canonical_prefix (tr : Bool) (l1 l2 : List Item) (h : Canonical ⟨l1 ++ l2, tr⟩) : Canonical ⟨l1, tr⟩ :=
  canonical_prefix tr l1 l2 h

/-- `Canonical` holds for the empty section and is preserved by `append` and `insert` of ANY item (so it holds for
every section the reader builds and after every history of additions); deletions break it
(`C17_counterexample_deepcopy_old`: `staleSec` is three appends and one `pop`) -/
theorem C17_canonical_empty (tr : Bool) : Canonical ⟨[], tr⟩ := by
  intro t
  unfold Section.assignSuffixes
  simp [countGroup]

theorem C17_canonical_append (s : Section) (it : Item) (h : Canonical s) : Canonical (s.append it) :=
  canonical_insert_assign s s.items [] it (List.append_nil _).symm h

theorem C17_canonical_insert (s : Section) (i : Int) (it : Item) (h : Canonical s) : Canonical (s.insert i it) :=
  canonical_insert_assign s _ _ it (List.take_append_drop _ _).symm h

/-- a section built by appending items one after the other (what the reader does) is canonical, hence even the old
`deepcopy` path reproduced it -/
theorem C17_canonical_build (tr : Bool) (l : List Item) : Canonical (l.foldl Section.append ⟨[], tr⟩) := by
  have : ∀ s : Section, Canonical s → Canonical (l.foldl Section.append s) := by
    induction l with
    | nil => exact fun s h => h
    | cons a as ih => exact fun s h => ih _ (C17_canonical_append s a h)
  exact this _ (C17_canonical_empty tr)

def exDup : Section := Section.run ⟨[], true⟩
  [.append "A".toList "u".toList "1".toList "d".toList, .append "a".toList [] [] [], .append [] [] [] []]

example :
    exDup.keys = ["A:1".toList, "a:2".toList, "UNKNOWN".toList] ∧
    (∀ p, rebuildSection p exDup = exDup) ∧
    rebuildSectionOld exDup = exDup ∧
    rebuildItem (reduceItem ⟨⟨"A".toList, "zz:9".toList, [], [], []⟩, some "f8:[1,2]".toList, true⟩) =
      ⟨⟨"A".toList, "zz:9".toList, [], [], []⟩, some "f8:[1,2]".toList, true⟩ := by
  refine ⟨by decide +kernel, fun p => C17_section_path p _, by decide +kernel, by rfl⟩

#print axioms C17_item_fields
#print axioms C17_item
#print axioms C17_counterexample_curve_data_none
#print axioms C17_items
#print axioms C17_counterexample_session_reduce
#print axioms C17_old_reduce_ok_without_suffix
#print axioms C17_section_path
#print axioms C17_section_stale
#print axioms C17_las
#print axioms C17_counterexample_deepcopy_old
#print axioms C17_deepcopy_old_canonical
#print axioms C17_canonical_prefix
#print axioms C17_canonical_empty
#print axioms C17_canonical_append
#print axioms C17_canonical_insert
#print axioms C17_canonical_build

end Lasio
