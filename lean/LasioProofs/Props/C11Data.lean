import LasioProofs.Lemmas.CycleDataLemmas
/-
C11 (data section) — the data section `write` emits is a fixed point of  read -> write -> read:
"no accumulating precision loss … the same curve data as the first re-read".

Set-up (`Lemmas/CycleDataLemmas.lean`, namespace `Lasio.Cd`).  `rows : List (List Dw.F64)` is the matrix of binary64 samples,
`c : Dw.RowCfg` the row configuration (a `%.Nf` format per column), `null` the NULL text `write` prints for NaN.
  cycle 1   `T1 = Rt.tokenRows c null rows`, the matrix of written tokens.  The reader turns a token into a canonical float text
            through the float table `ft` (Python's `float()`), and replaces a float `==` the header NULL `nv` by NaN outside
            column 0 (strict NULL policy): `Cd.readTxt`.  `val : Str → Option Dw.F64` is "the binary64 a canonical float text
            denotes"; `rows1 = Cd.reRows ft val null nv c rows` is the matrix read back (`C11_data_reread_is_read` ties it to
            `Dt.applyNull` of `Dt.matrixColumns`, what the engines of `Dt.readData` return for the written text by C01/C06).
  cycle 2   `T2 = Rt.tokenRows c null rows1`; `rows2 = Cd.reRows … rows1`.

Hypotheses.
  `hr : Cd.ReadOK ft val null nv`     the NULL text converts to `nv`, `nv == nv`, the text `nan` denotes NaN
  `hs : Cd.StrtodClose ft val c rows` the strtod assumption of C01, on the cells of the matrix: the token of every sample `x` that
        is not NaN converts, and the binary64 its float text denotes is `Cd.Near` `x`: `x` itself, or a finite value of the same
        sign STRICTLY within half a unit of the last printed digit of the printed decimal (`C01_fmt_stable`); ±inf ↦ ±inf.
        (Correctly rounded `strtod` returns the binary64 nearest to the decimal, `x` lies within half a unit of it by
        `C01_value`: so the result is `x` or strictly closer than `x`.)
  `hc : Rt.NoNullClash ft nv c rows`  no sample outside column 0 that is not NaN prints to a token whose float is `==` NULL
  `hi : Cd.IndexOK val nv null c rows` no NaN in the index column, or the index format prints the number NULL as the NULL text

Theorems.
  `C11_data_cell`            one sample, no index hypothesis: outside the index column, and in the index column when the sample is
                             not NaN, the sample read back prints to the SAME TOKEN (finite: `C01_fmt_stable`; NaN: NULL text ->
                             NULL-ed -> NaN -> NULL text)
  `C11_data_index_nan`       a NaN of the index column is written as the NULL text, read back as the NUMBER NULL and re-printed
                             with the index format: the same token exactly when that format prints NULL exactly
  `C11_data_tokens_fixed`    T2 = T1
  `C11_data_text_fixed`      with no NaN in the index column: `dataLines` on `rows1` = `dataLines` on `rows`, the same TEXT
                             (header line, every body line, wrapped or not)
  `C11_data_reread_fixed`    rows2 = rows1 — WITHOUT `NoNullClash` (a clashing sample is NaN from the first re-read on)
  `C11_data_read_fixed`      the strict reader's columns (float texts) for T2 are its columns for T1
  `C11_data_iterate`         the k-th re-read is the first, the k-th output has the tokens of the second (of the first with `hc`)
  `C11_data_readData_unwrapped`, `C11_data_readData_wrapYes`   `Dt.readData` of the second output = `Dt.readData` of the first
                             (any engine / NULL policy / surrounding lines), via `C01_roundtrip_read_*`
Counter-examples (forced hypotheses): `…_index_nan_drift` (NULL -999.25, index format `%.1f`: -999.25, -999.2, …),
`…_needs_noNullClash` (-999.25 printed `%.3f` under NULL -999.25: token `-999.250` then `-999.25`; the re-read does not change),
`…_needs_strtod` (a `float()` that is off by one unit).

NOT proved / not modelled: that CPython's `float()` satisfies `StrtodClose` (a runtime service; the harness checks it on every
run); the `null_policy="none"` cycle (there every NaN behaves like a NaN of the index column); text columns.
-/
namespace Lasio.C11
open Lasio Lasio.Cd

/-! ## one sample -/

/-- **One sample through write -> read -> write** (no hypothesis on the index column).  `x` is sample `j` of a row of the matrix, and
it is not a NaN of the index column.  The sample read back prints to the same token; it is NaN iff `x` is. -/
theorem C11_data_cell {ft : Dt.FloatTable} {val : Str → Option Dw.F64} {null nv : Str} {c : Dw.RowCfg}
    {rows : List (List Dw.F64)} (hr : ReadOK ft val null nv) (hs : StrtodClose ft val c rows)
    (hc : Rt.NoNullClash ft nv c rows)
    (row : List Dw.F64) (hrow : row ∈ rows) (j : Nat) (x : Dw.F64) (hx : row[j]? = some x)
    (hnot : j ≠ 0 ∨ x.isNaN = false) :
    Dw.cellToken null (c.colFmt j) (reCell ft val null nv c j x) = Dw.cellToken null (c.colFmt j) x ∧
    (reCell ft val null nv c j x).isNaN = x.isNaN := by
  have hi : j = 0 → x.isNaN = true → NullExact val nv null (c.colFmt 0) := by
    intro h1 h2
    rcases hnot with h | h
    · exact absurd h1 h
    · rw [h2] at h; cases h
  refine ⟨reCell_token hr hs hc row hrow j x hx hi, ?_⟩
  rcases reCell_cases hr hs row hrow j x hx hi with ⟨h, _⟩ | ⟨h1, h2, _, _⟩ | ⟨hj, hn, _, v, hv, hf⟩
  · exact h
  · exact absurd h2 (by rcases hnot with h | h; exact absurd h1 h; rw [h]; simp)
  · have := hc row hrow j x hj hx hn v hv
    rw [hf] at this; cases this

/-- a finite sample: the binary64 read back re-prints to the same digits (`C11_fmt_stable` under the strtod assumption) -/
theorem C11_data_cell_finite {ft : Dt.FloatTable} {val : Str → Option Dw.F64} {null nv : Str} {c : Dw.RowCfg}
    {rows : List (List Dw.F64)} (hr : ReadOK ft val null nv) (hs : StrtodClose ft val c rows)
    (hc : Rt.NoNullClash ft nv c rows)
    (row : List Dw.F64) (hrow : row ∈ rows) (j : Nat) (neg : Bool) (m : Nat) (e : Int)
    (hx : row[j]? = some (.finite neg m e)) :
    Dw.fmtFixed (c.colFmt j).prec (reCell ft val null nv c j (.finite neg m e)) =
      Dw.fmtFixed (c.colFmt j).prec (.finite neg m e) := by
  obtain ⟨h1, h2⟩ := C11_data_cell hr hs hc row hrow j _ hx (Or.inr rfl)
  rwa [cellToken_num null _ _ (by rw [h2]; rfl), cellToken_num null _ _ rfl] at h1

/-- **A NaN of the index column**: written as the NULL text, it is read back as the NUMBER NULL `y` (column 0 is never NULL-ed)
and re-printed with the index format — the same token exactly when that format prints NULL exactly. -/
theorem C11_data_index_nan {ft : Dt.FloatTable} {val : Str → Option Dw.F64} {null nv : Str} (c : Dw.RowCfg)
    (hr : ReadOK ft val null nv) (x y : Dw.F64) (hx : x.isNaN = true) (hy : val nv = some y) (hyn : y.isNaN = false) :
    Dw.cellToken null (c.colFmt 0) x = null ∧ reCell ft val null nv c 0 x = y ∧
    Dw.cellToken null (c.colFmt 0) (reCell ft val null nv c 0 x) = Dw.fmtFixed (c.colFmt 0).prec y := by
  have e : reCell ft val null nv c 0 x = y := by
    unfold reCell
    rw [cellToken_nan null _ x hx, reTok_null_index hr, hy]; rfl
  exact ⟨cellToken_nan null _ x hx, e, by rw [e, cellToken_num null _ y hyn]⟩

/-! ## the matrix -/

/-- **Token level: the second output has the tokens of the first**, `T2 = T1`, every cell of every column. -/
theorem C11_data_tokens_fixed {ft : Dt.FloatTable} {val : Str → Option Dw.F64} {null nv : Str} {c : Dw.RowCfg}
    {rows : List (List Dw.F64)} (hr : ReadOK ft val null nv) (hs : StrtodClose ft val c rows)
    (hc : Rt.NoNullClash ft nv c rows) (hi : IndexOK val nv null c rows) :
    Rt.tokenRows c null (reRows ft val null nv c rows) = Rt.tokenRows c null rows :=
  tokenRows_reRows hr hs hi hc

/-- **Text level: the written data section is a fixed point.**  With no NaN in the index column, `write` on the re-read matrix emits
the same `~A` line and the same body lines (any supported formats, field width, spacers, `wrap`, `data_width`, header style). -/
theorem C11_data_text_fixed {ft : Dt.FloatTable} {val : Str → Option Dw.F64} {null nv : Str} {c : Dw.RowCfg}
    {rows : List (List Dw.F64)} (cfg : Dw.DataCfg) (mn : List Str) (hcfg : cfg.rowCfg = some c)
    (hr : ReadOK ft val null nv) (hs : StrtodClose ft val c rows)
    (hc : Rt.NoNullClash ft nv c rows) (hfree : IndexNaNFree rows) :
    Dw.dataLines cfg null mn (reRows ft val null nv c rows) = Dw.dataLines cfg null mn rows :=
  dataLines_reRows cfg mn hcfg hr hs hfree hc

/-- **Re-read level: the second re-read is the first re-read**, `rows2 = rows1`, sample by sample as binary64 values.
`NoNullClash` is not needed: a sample whose token reads as NULL is NaN in the first re-read and stays NaN. -/
theorem C11_data_reread_fixed {ft : Dt.FloatTable} {val : Str → Option Dw.F64} {null nv : Str} {c : Dw.RowCfg}
    {rows : List (List Dw.F64)} (hr : ReadOK ft val null nv) (hs : StrtodClose ft val c rows)
    (hi : IndexOK val nv null c rows) :
    reRows ft val null nv c (reRows ft val null nv c rows) = reRows ft val null nv c rows :=
  reRows_idem hr hs hi

/-- **`reRows` is what the reader returns**: cell (i, j) of the strict reader's columns for the written tokens (`applyNull` of
`matrixColumns`, the result of the engines by `C01_roundtrip_normal` / `C01_roundtrip_numpy`) is `readTxt` of the written token,
and cell (i, j) of `reRows` is the binary64 that float text denotes. -/
theorem C11_data_reread_is_read {ft : Dt.FloatTable} {val : Str → Option Dw.F64} {null nv : Str} {c : Dw.RowCfg}
    {rows : List (List Dw.F64)} (n : Nat) (hrect : ∀ r ∈ rows, r.length = n)
    (hr : ReadOK ft val null nv) (hs : StrtodClose ft val c rows)
    (i j : Nat) (row : List Dw.F64) (x : Dw.F64) (hi : rows[i]? = some row) (hx : row[j]? = some x) :
    ∃ row1, (reRows ft val null nv c rows)[i]? = some row1 ∧
      row1[j]? = some (((Dt.floatCell (Dt.applyNull true (some nv)
        (Dt.matrixColumns ft n (Rt.tokenRows c null rows))) j i).bind val).getD .nan) := by
  obtain ⟨row1, h1, h2⟩ := reRows_cell ft val null nv c rows i j row x hi hx
  refine ⟨row1, h1, ?_⟩
  rw [h2, floatCell_read ft null nv c rows n hrect (numeric_of hr hs) i j row x hi hx]
  rfl

/-- **The second re-read equals the first as float texts**: the strict reader's columns for the second output are its columns for
the first. -/
theorem C11_data_read_fixed {ft : Dt.FloatTable} {val : Str → Option Dw.F64} {null nv : Str} {c : Dw.RowCfg}
    {rows : List (List Dw.F64)} (n : Nat) (hr : ReadOK ft val null nv) (hs : StrtodClose ft val c rows)
    (hc : Rt.NoNullClash ft nv c rows) (hi : IndexOK val nv null c rows) :
    Dt.applyNull true (some nv) (Dt.matrixColumns ft n (Rt.tokenRows c null (reRows ft val null nv c rows))) =
      Dt.applyNull true (some nv) (Dt.matrixColumns ft n (Rt.tokenRows c null rows)) := by
  rw [C11_data_tokens_fixed hr hs hc hi]

/-- **Nothing accumulates**: `k + 1` load/save cycles give the matrix of the first re-read; what is written after them has the
tokens of the second output — of the first one under `NoNullClash`. -/
theorem C11_data_iterate {ft : Dt.FloatTable} {val : Str → Option Dw.F64} {null nv : Str} {c : Dw.RowCfg}
    {rows : List (List Dw.F64)} (hr : ReadOK ft val null nv) (hs : StrtodClose ft val c rows)
    (hi : IndexOK val nv null c rows) (k : Nat) :
    iter (reRows ft val null nv c) (k + 1) rows = reRows ft val null nv c rows ∧
    Rt.tokenRows c null (iter (reRows ft val null nv c) (k + 1) rows) = Rt.tokenRows c null (reRows ft val null nv c rows) ∧
    (Rt.NoNullClash ft nv c rows →
      Rt.tokenRows c null (iter (reRows ft val null nv c) (k + 1) rows) = Rt.tokenRows c null rows) := by
  have h := iter_idem (reRows ft val null nv c) rows (reRows_idem hr hs hi) k
  refine ⟨h, by rw [h], fun hc => by rw [h]; exact tokenRows_reRows hr hs hi hc⟩

/-! ## through `Dt.readData` on the whole data section text -/

/-- with no NaN in the index column the re-read matrix is written as the same lines: the hypotheses of the round trip
(`Rt.Written`) hold for it with the same header line and body -/
theorem C11_data_written_again {ft : Dt.FloatTable} {val : Str → Option Dw.F64} {null nv : Str}
    {cfg : Dw.DataCfg} {mn : List Str} {rows : List (List Dw.F64)} {c : Dw.RowCfg} {n : Nat} {hdr : Str} {body : List Str}
    (w : Rt.Written cfg null mn rows c n hdr body)
    (hr : ReadOK ft val null nv) (hs : StrtodClose ft val c rows)
    (hc : Rt.NoNullClash ft nv c rows) (hfree : IndexNaNFree rows) :
    Rt.Written cfg null mn (reRows ft val null nv c rows) c n hdr body :=
  ⟨w.rowCfg, w.ok, w.nullQuiet, by rw [C11_data_text_fixed cfg mn w.rowCfg hr hs hc hfree]; exact w.lines,
    reRows_ne ft val null nv c rows w.rne, w.npos, reRows_rect ft val null nv c rows n w.rect⟩

/-- **`readData` of the second output = `readData` of the first output**, files written with `wrap=False` and read with WRAP ≠ YES:
any engine, any NULL policy, any number of declared curves, any lines before / after the section, any line ends. -/
theorem C11_data_readData_unwrapped {ft : Dt.FloatTable} {val : Str → Option Dw.F64} {null nv : Str}
    {cfg : Dw.DataCfg} {mn : List Str} {rows : List (List Dw.F64)} {c : Dw.RowCfg} {n : Nat} {hdr1 hdr2 : Str}
    {body1 body2 : List Str}
    (w1 : Rt.Written cfg null mn rows c n hdr1 body1)
    (w2 : Rt.Written cfg null mn (reRows ft val null nv c rows) c n hdr2 body2) (hwrap : cfg.wrap = false)
    (hr : ReadOK ft val null nv) (hs : StrtodClose ft val c rows)
    (hc : Rt.NoNullClash ft nv c rows) (hi : IndexOK val nv null c rows)
    (e : Dt.Engine) (p : Dt.NullPolicy) (st : Dt.Steer) (d : Nat) (eol1 eol2 : Str) (h1 : Dt.AllWs eol1) (h2 : Dt.AllWs eol2)
    (pre1 pre2 : List Str) (title1 title2 : Str) (after1 after2 : List Str)
    (hdlm : st.delimiter = .space) (hw : st.wrapped ≠ Dt.yesTxt)
    (hn1 : after1 = [] ∨ ∃ ln rest t ts, after1 = ln :: rest ∧ Dt.npTokens ln = t :: ts ∧ Dt.toFloat ft t = none)
    (hn2 : after2 = [] ∨ ∃ ln rest t ts, after2 = ln :: rest ∧ Dt.npTokens ln = t :: ts ∧ Dt.toFloat ft t = none) :
    (Dt.readData ⟨e, p⟩ (pre2 ++ title2 :: (body2.map (· ++ eol2) ++ after2)) pre2.length
        (pre2.length + (body2.map (· ++ eol2)).length) st d ft).map Prod.snd =
    (Dt.readData ⟨e, p⟩ (pre1 ++ title1 :: (body1.map (· ++ eol1) ++ after1)) pre1.length
        (pre1.length + (body1.map (· ++ eol1)).length) st d ft).map Prod.snd := by
  rw [Dw.C01_roundtrip_read_unwrapped w2 hwrap e p st d ft eol2 h2 pre2 title2 after2 hdlm hw hn2,
    Dw.C01_roundtrip_read_unwrapped w1 hwrap e p st d ft eol1 h1 pre1 title1 after1 hdlm hw hn1,
    C11_data_tokens_fixed hr hs hc hi]

/-- the same for files read with WRAP = YES declared (written with any `wrap`), `n` declared curves -/
theorem C11_data_readData_wrapYes {ft : Dt.FloatTable} {val : Str → Option Dw.F64} {null nv : Str}
    {cfg : Dw.DataCfg} {mn : List Str} {rows : List (List Dw.F64)} {c : Dw.RowCfg} {n : Nat} {hdr1 hdr2 : Str}
    {body1 body2 : List Str}
    (w1 : Rt.Written cfg null mn rows c n hdr1 body1)
    (w2 : Rt.Written cfg null mn (reRows ft val null nv c rows) c n hdr2 body2)
    (hr : ReadOK ft val null nv) (hs : StrtodClose ft val c rows)
    (hc : Rt.NoNullClash ft nv c rows) (hi : IndexOK val nv null c rows)
    (e : Dt.Engine) (p : Dt.NullPolicy) (st : Dt.Steer) (eol1 eol2 : Str) (h1 : Dt.AllWs eol1) (h2 : Dt.AllWs eol2)
    (pre1 pre2 : List Str) (title1 title2 : Str) (after1 after2 : List Str)
    (hdlm : st.delimiter = .space) (hwd : st.wrapDeclared = true) (hwy : st.wrapped = Dt.yesTxt) :
    Dt.readData ⟨e, p⟩ (pre2 ++ title2 :: (body2.map (· ++ eol2) ++ after2)) pre2.length
        (pre2.length + (body2.map (· ++ eol2)).length) st n ft =
    Dt.readData ⟨e, p⟩ (pre1 ++ title1 :: (body1.map (· ++ eol1) ++ after1)) pre1.length
        (pre1.length + (body1.map (· ++ eol1)).length) st n ft := by
  rw [Dw.C01_roundtrip_read_wrapYes w2 e p st ft eol2 h2 pre2 title2 after2 hdlm hwd hwy,
    Dw.C01_roundtrip_read_wrapYes w1 e p st ft eol1 h1 pre1 title1 after1 hdlm hwd hwy,
    C11_data_tokens_fixed hr hs hc hi]

/-! ## the hypotheses are needed -/

def hOne : Str := "0x1.0000000000000p+0".toList
def hTwo : Str := "0x1.0000000000000p+1".toList
/-- `float("-999.25").hex()` -/
def hNull : Str := "-0x1.f3a0000000000p+9".toList
def nullTxt : Str := "-999.25".toList
/-- −999.25 = −3997 / 4 -/
def nullNum : Dw.F64 := .finite true 3997 (-2)
def cfg1 : Dw.RowCfg := ⟨⟨none, 1⟩, [], 10, [' '], [' ']⟩
def cfg3 : Dw.RowCfg := ⟨⟨none, 3⟩, [], 10, [' '], [' ']⟩

def lookupVal (t : List (Str × Dw.F64)) (s : Str) : Option Dw.F64 := t.lookup s

/-- **`IndexOK` is needed** (the known drift of a NaN in the index column): NULL −999.25, every column `%.1f`, the matrix
`[[NaN, 1.0]]`.  The index NaN is written `-999.25`, read back as the number −999.25, written `-999.2` (round-half-even), read back
as −999.2: the tokens AND the re-read drift.  Every other hypothesis (`ReadOK`, no sample outside column 0 clashes) holds. -/
theorem C11_data_counterexample_index_nan_drift :
    let ft : Dt.FloatTable := [("-999.25".toList, hNull), ("1.0".toList, hOne), ("-999.2".toList, "-0x1.f39999999999ap+9".toList)]
    let val := lookupVal [(hNull, nullNum), (hOne, .finite false 1 0),
      ("-0x1.f39999999999ap+9".toList, .finite true 4394528073895117 (-42)), (Dt.nanTxt, .nan)]
    let rows : List (List Dw.F64) := [[.nan, .finite false 1 0]]
    Rt.tokenRows cfg1 nullTxt rows = [["-999.25".toList, "1.0".toList]] ∧
    reRows ft val nullTxt hNull cfg1 rows = [[nullNum, .finite false 1 0]] ∧
    Rt.tokenRows cfg1 nullTxt (reRows ft val nullTxt hNull cfg1 rows) = [["-999.2".toList, "1.0".toList]] ∧
    reRows ft val nullTxt hNull cfg1 (reRows ft val nullTxt hNull cfg1 rows) =
      [[.finite true 4394528073895117 (-42), .finite false 1 0]] := by
  decide +kernel

/-- **`NoNullClash` is needed for the fixed point of the TOKENS** (not for the re-read): NULL −999.25, the sample −999.25 in column
1 printed with `%.3f`: the first output has `-999.250`, which reads as a float `==` NULL, hence NaN, which the second output prints
as the NULL text `-999.25`.  The re-read is NaN both times. -/
theorem C11_data_counterexample_needs_noNullClash :
    let ft : Dt.FloatTable := [("-999.25".toList, hNull), ("-999.250".toList, hNull), ("1.000".toList, hOne)]
    let val := lookupVal [(hNull, nullNum), (hOne, .finite false 1 0), (Dt.nanTxt, .nan)]
    let rows : List (List Dw.F64) := [[.finite false 1 0, nullNum]]
    Rt.tokenRows cfg3 nullTxt rows = [["1.000".toList, "-999.250".toList]] ∧
    reRows ft val nullTxt hNull cfg3 rows = [[.finite false 1 0, .nan]] ∧
    Rt.tokenRows cfg3 nullTxt (reRows ft val nullTxt hNull cfg3 rows) = [["1.000".toList, "-999.25".toList]] ∧
    reRows ft val nullTxt hNull cfg3 (reRows ft val nullTxt hNull cfg3 rows) = [[.finite false 1 0, .nan]] := by
  decide +kernel

/-- **`StrtodClose` is needed**: a `float()` / `val` pair that returns 1.1 for the token `1.0` (off by one unit of the last digit)
makes every cycle add 0.1 -/
theorem C11_data_counterexample_needs_strtod :
    let ft : Dt.FloatTable := [("1.0".toList, hOne), ("1.1".toList, hTwo)]
    let val := lookupVal [(hOne, .finite false 2476979795053773 (-51)), (hTwo, .finite false 5404319552844595 (-52))]
    let rows : List (List Dw.F64) := [[.finite false 1 0]]
    Rt.tokenRows cfg1 nullTxt rows = [["1.0".toList]] ∧
    Rt.tokenRows cfg1 nullTxt (reRows ft val nullTxt hNull cfg1 rows) = [["1.1".toList]] ∧
    Rt.tokenRows cfg1 nullTxt (reRows ft val nullTxt hNull cfg1 (reRows ft val nullTxt hNull cfg1 rows)) = [["1.2".toList]] := by
  decide +kernel

/-! ## non-vacuity -/

def exCfg : Dw.RowCfg := ⟨⟨none, 2⟩, [], 10, [' '], [' ']⟩
/-- 1.0 and the binary64 nearest to 0.123456; 2.0 and a NaN -/
def exRows : List (List Dw.F64) :=
  [[.finite false 1 0, .finite false 8895942329546431 (-56)], [.finite false 1 1, .nan]]
/-- `float("0.12").hex()` -/
def h012 : Str := "0x1.eb851eb851eb8p-4".toList
def exFt : Dt.FloatTable := [("1.00".toList, hOne), ("2.00".toList, hTwo), ("0.12".toList, h012), ("-999.25".toList, hNull)]
/-- 2.0 comes back as `2 · 2^0` (another spelling of the same binary64), 0.12 as the binary64 nearest to 0.12 -/
def exVal : Str → Option Dw.F64 :=
  lookupVal [(hOne, .finite false 1 0), (hTwo, .finite false 2 0), (h012, .finite false 1080863910568919 (-53)),
    (hNull, nullNum), (Dt.nanTxt, .nan)]

theorem ex_read : ReadOK exFt exVal nullTxt hNull := ⟨by decide +kernel, by decide +kernel, by decide +kernel⟩

theorem ex_strtod : StrtodClose exFt exVal exCfg exRows := strtodClose_of_check _ _ _ _ (by decide +kernel)

theorem ex_noClash : Rt.NoNullClash exFt hNull exCfg exRows := Rt.noNullClash_of_check (by decide +kernel)

theorem ex_indexFree : IndexNaNFree exRows := indexNaNFree_of_check _ (by decide +kernel)

def exDataCfg : Dw.DataCfg := ⟨true, "%.2f".toList, [], none, [' '], [' '], 12, 20, "~A".toList, false⟩

/-- a 2 × 2 matrix with a sample that does not survive the `%.2f` (0.123456), a NaN and a value that comes back in another
spelling satisfies every hypothesis; the theorems give: same tokens, same text (wrapped at 12 columns), same re-read, for ever -/
example :
    Rt.tokenRows exCfg nullTxt exRows = [["1.00".toList, "0.12".toList], ["2.00".toList, "-999.25".toList]] ∧
    reRows exFt exVal nullTxt hNull exCfg exRows =
      [[.finite false 1 0, .finite false 1080863910568919 (-53)], [.finite false 2 0, .nan]] ∧
    Rt.tokenRows exCfg nullTxt (reRows exFt exVal nullTxt hNull exCfg exRows) = Rt.tokenRows exCfg nullTxt exRows ∧
    Dw.dataLines exDataCfg nullTxt ["DEPT".toList, "A".toList] (reRows exFt exVal nullTxt hNull exCfg exRows) =
      Dw.dataLines exDataCfg nullTxt ["DEPT".toList, "A".toList] exRows ∧
    Dw.dataLines exDataCfg nullTxt ["DEPT".toList, "A".toList] exRows =
      some ["~A -----------------".toList, "       1.00".toList, "0.12".toList, "       2.00".toList, "-999.25".toList] ∧
    (∀ k, iter (reRows exFt exVal nullTxt hNull exCfg) (k + 1) exRows = reRows exFt exVal nullTxt hNull exCfg exRows) :=
  ⟨by decide +kernel, by decide +kernel,
   C11_data_tokens_fixed ex_read ex_strtod ex_noClash (Or.inl ex_indexFree),
   C11_data_text_fixed exDataCfg _ (by rfl) ex_read ex_strtod ex_noClash ex_indexFree,
   by decide +kernel,
   fun k => (C11_data_iterate ex_read ex_strtod (Or.inl ex_indexFree) k).1⟩

/-- the hypothesis `NullExact` can be met: NULL −999.25 is printed exactly by `%.2f`, so a NaN in the index column is harmless there -/
example : NullExact exVal hNull nullTxt (exCfg.colFmt 0) := ⟨nullNum, by decide +kernel, by decide +kernel, by decide +kernel⟩

end Lasio.C11

#print axioms Lasio.C11.C11_data_cell
#print axioms Lasio.C11.C11_data_cell_finite
#print axioms Lasio.C11.C11_data_index_nan
#print axioms Lasio.C11.C11_data_tokens_fixed
#print axioms Lasio.C11.C11_data_text_fixed
#print axioms Lasio.C11.C11_data_reread_fixed
#print axioms Lasio.C11.C11_data_reread_is_read
#print axioms Lasio.C11.C11_data_read_fixed
#print axioms Lasio.C11.C11_data_iterate
#print axioms Lasio.C11.C11_data_written_again
#print axioms Lasio.C11.C11_data_readData_unwrapped
#print axioms Lasio.C11.C11_data_readData_wrapYes
#print axioms Lasio.C11.C11_data_counterexample_index_nan_drift
#print axioms Lasio.C11.C11_data_counterexample_needs_noNullClash
#print axioms Lasio.C11.C11_data_counterexample_needs_strtod
#print axioms Lasio.C11.ex_strtod
#print axioms Lasio.C11.ex_noClash
