import LasioModel.Writer
import LasioProofs.Lemmas.WriterLemmas
import LasioProofs.Lemmas.RoundTripHeader
/-
C03 — header round trip: what `write` lays out (version 1.2 / 2.0) the reader parses back to the same items.
Helper lemmas are in LasioProofs/Lemmas/WriterLemmas.lean and RoundTripHeader.lean; the general forms the section and
file-level theorems are instances of (`readSection_written`, `header_state_of`, `file_read_of`) stand here, next to the
predicates their statements use.  The header-line grammar round trip is C04 (`C04_main_all`).
-/
namespace Lasio.Wr

/-! ## widths -/

/-- **Padding lemma.**  With the widths computed from the items that are formatted (for ~Well / ~Parameter:
the NORMALISED items, see `headerLines`), every item gets at least one blank between the unit and the
right-hand field, and the mnemonic column is at least as wide as every mnemonic.  Arbitrary item lists, arbitrary
order function (so in particular the one keyed by the original mnemonic). -/
theorem C03_pad_ge_one (ord : Str → Order) (items : List WItem) (it : WItem) (h : it ∈ items) :
    1 ≤ (sectionWidths ord items).middle - it.unit.length - (rhsOf (ord it.orig) it).length ∧
    it.orig.length ≤ (sectionWidths ord items).left := by
  have := sectionWidths_ge ord items it h
  exact ⟨by omega, this.1⟩

/-- the same statement for the lines `write` emits for ~Well / ~Parameter: the widths are those of the
standardised items -/
theorem C03_pad_ge_one_standardized (ord : Str → Order) (items : List WItem) (it : WItem)
    (h : it ∈ standardizeItems items) :
    1 ≤ (sectionWidths ord (standardizeItems items)).middle - it.unit.length -
      (rhsOf (ord it.orig) it).length :=
  (C03_pad_ge_one ord (standardizeItems items) it h).1

/-- why the order of the two steps matters (the repaired defect R8): widths measured BEFORE the
empty-with-unit → 0 normalisation leave no blank, `P1.LONGUNIT0 : d` -/
theorem C03_counterexample_widths_before_normalise :
    let raw : WItem := ⟨"P1".toList, "P1".toList, "LONGUNIT".toList, .str [], "d".toList⟩
    formatItem .valueDescr (sectionWidths (fun _ => .valueDescr) [raw])
      { raw with value := standardizeValue raw.value raw.unit } = "P1.LONGUNIT0 : d".toList := by
  decide +kernel

/-! ## the order tables (generated obligation: re-proved against `Generated.orderDefinitions` on every run) -/

/-- For every version string, every mnemonic:
* reader-side lookup (`SectionParser.__init__` + `metadata`) = writer-side lookup
  (`get_section_order_function`) for the four section kinds;
* in ~Curves and ~Parameter — where the reader never swaps — the writer never swaps either;
* a version present in the table has a usable order for each of the four sections. -/
theorem C03_order_tables (v : String) (m : Str) :
    (∀ kind, kind ≠ .other → readerOrderOf v kind m = orderOf v (secKey kind) m) ∧
    (∀ o, orderOf v "Curves" m = .ok o → o = .valueDescr) ∧
    (∀ o, orderOf v "Parameter" m = .ok o → o = .valueDescr) ∧
    (versionPresent v = true →
      ∀ s ∈ ["Version", "Well", "Curves", "Parameter"], ∃ o, orderOf v s m = .ok o) :=
  ⟨fun kind hk => readerOrderOf_eq v kind hk m,
   fun o h => orderOf_fixed v "Curves" (Or.inl rfl) m o h,
   fun o h => orderOf_fixed v "Parameter" (Or.inr rfl) m o h,
   fun hv s hs => orderOf_total v hv s hs m⟩

/-- the two versions `write` accepts are in the table -/
theorem C03_versions_present : versionPresent "1.2" = true ∧ versionPresent "2.0" = true := by decide +kernel

/-- version 2.0: "value:descr" everywhere -/
theorem C03_order_v20 (kind : SecName) (hk : kind ≠ .other) (m : Str) :
    orderOf "2.0" (secKey kind) m = .ok .valueDescr := by
  have h : sectionOrders "2.0" (secKey kind) = some ("value:descr", []) := by
    cases kind <;> first | exact absurd rfl hk | decide +kernel
  exact orderOf_norows h parseOrder_valueDescr m

/-- the mnemonics written value-first in a 1.2 ~Well section: STRT/STOP/STEP/NULL in any mixture of cases
(the table lists the all-upper and all-lower spellings; a mnemonic is looked up as it is and then upper-cased) -/
def wellValueFirst (m : Str) : Bool :=
  ["STRT", "STOP", "STEP", "NULL", "strt", "stop", "step", "null"].any fun x => x.toList == upper m

/-- version 1.2 ~Well: `MNEM.UNIT VALUE : DESCR` for STRT/STOP/STEP/NULL (any case),
`MNEM.UNIT DESCR : VALUE` for every other mnemonic -/
theorem C03_order_v12_well (m : Str) :
    orderOf "1.2" "Well" m = .ok (if wellValueFirst m then .valueDescr else .descrValue) := by
  have h : sectionOrders "1.2" "Well" = some ("descr:value",
      [("value:descr", ["STRT", "STOP", "STEP", "NULL", "strt", "stop", "step", "null"])]) := by decide +kernel
  have hp := parseOrder_valueDescr
  have hq : parseOrder "descr:value" = some .descrValue := by decide +kernel
  have hcl := List.all_eq_true.mp table_upper_closed _ (sectionOrders_mem h)
  have hg : ordersGet [("value:descr", ["STRT", "STOP", "STEP", "NULL", "strt", "stop", "step", "null"])] (upper m) =
      if wellValueFirst m = true then some "value:descr" else none := by
    simp [ordersGet, wellValueFirst]
  unfold orderOf
  simp only [h, ordersGet2_eq_upper _ hcl, hg]
  cases hwv : wellValueFirst m <;> simp [hp, hq]

/-! ## conformant items -/

/-- the property's field conditions on an item of a section of kind `kind` -/
structure TextConf (kind : SecName) (it : WItem) : Prop where
  mnem_ne : it.orig ≠ []
  mnem_strip : strip it.orig = it.orig
  mnem_chars : ∀ c ∈ it.orig, c ≠ '.' ∧ c ≠ ':'
  unit_nosp : ∀ c ∈ it.unit, isPySpace c = false
  unit_nodd : ¬ hasDotDot it.unit
  unit_notnum : it.unit = [] ∨ ¬ allDigits it.unit
  unit_nobr : isBracketed it.unit = false
  unit_first : it.unit.head? ≠ some '.'
  unit_last : it.unit.getLast? ≠ some '.'
  value_strip : strip it.value.text = it.value.text
  value_nocolon : ∀ c ∈ it.value.text, c ≠ ':'
  value_nodd : kind = .curves → ¬ hasDotDot it.value.text
  descr_strip : strip it.descr = it.descr
  descr_nocolon : ∀ c ∈ it.descr, c ≠ ':'

/-- the conditions of the property text give C04's `Conf` for the fields in the order they are written
(in a 1.2 ~Well line the description stands in the value slot and vice versa) -/
theorem C03_conf_of_text (kind : SecName) (o : Order) (it : WItem) (h : TextConf kind it)
    (ho : o = .descrValue → kind ≠ .curves) : Conf kind (lineFields o it) := by
  cases o with
  | valueDescr =>
    exact ⟨h.mnem_ne, h.mnem_strip, h.mnem_chars, h.unit_nosp, h.unit_nodd, h.unit_first, h.unit_last,
      h.value_strip, Or.inl h.value_nocolon, h.value_nodd, h.descr_strip, fun _ => h.descr_nocolon⟩
  | descrValue =>
    exact ⟨h.mnem_ne, h.mnem_strip, h.mnem_chars, h.unit_nosp, h.unit_nodd, h.unit_first, h.unit_last,
      h.descr_strip, Or.inl h.descr_nocolon, fun hk => absurd hk (ho rfl), h.value_strip,
      fun _ => h.value_nocolon⟩

/-- the same with the order the writer looked up: in ~Curves that is never description-first (`orderOf_fixed`) -/
theorem conf_of_order {v : String} {kind : SecName} {o : Order} {it : WItem}
    (hw : orderOf v (secKey kind) it.orig = .ok o) (h : TextConf kind it) : Conf kind (lineFields o it) :=
  C03_conf_of_text kind o it h (by
    rintro rfl rfl
    exact absurd (orderOf_fixed v "Curves" (Or.inl rfl) _ _ hw) (by decide))

/-- **Item round trip, general form**: the fields as laid out satisfy C04's `Conf` (so in ~Parameter clock-time
values and colons in the description are covered), the unit is neither purely numeric nor bracketed, and at
least one blank separates unit and right-hand field.  No hypothesis on the case map is needed any more: reader and
writer look the order up case-insensitively (`C03_case_stable`; before the repair see
`C03_counterexample_case_variant`). -/
theorem C03_item_general (v : String) (kind : SecName) (c : MCase) (o : Order) (W : Widths) (it : WItem)
    (hkind : kind ≠ .other)
    (hw : orderOf v (secKey kind) it.orig = .ok o)
    (hconf : Conf kind (lineFields o it))
    (hnum : it.unit = [] ∨ ¬ allDigits it.unit) (hbr : isBracketed it.unit = false)
    (hpad : rhsOf o it ≠ [] → 1 ≤ W.middle - it.unit.length - (rhsOf o it).length) :
    readItem v kind c (formatItem o W it) = some (expected c it) := by
  rw [formatItem_layout]
  exact readItem_layout v kind c o it _ _ [' '] hkind hw hconf hnum hbr
    (blank_replicate _) (blank_replicate _) blank_one
    (fun h => pad_ne_nil (hpad h)) (by intro _; simp)

/-- **Item round trip** for a conformant item (`TextConf` = the property text): reading the written line
returns the original mnemonic under the case map, the unit, the value text and the description.
`o` is the order the writer used (looked up by the original mnemonic), `W` any widths that leave a blank
(`C03_pad_ge_one`). -/
theorem C03_item (v : String) (kind : SecName) (c : MCase) (o : Order) (W : Widths) (it : WItem)
    (hkind : kind ≠ .other)
    (hw : orderOf v (secKey kind) it.orig = .ok o)
    (hconf : TextConf kind it)
    (hpad : 1 ≤ W.middle - it.unit.length - (rhsOf o it).length) :
    readItem v kind c (formatItem o W it) = some (expected c it) := by
  exact C03_item_general v kind c o W it hkind hw (conf_of_order hw hconf) hconf.unit_notnum hconf.unit_nobr
    (fun _ => hpad)

/-- **Reader and writer agree under every `mnemonic_case`** (every version, every section, every mnemonic):
the order found under the case-mapped name is the order found under the original one.  Rests on
`upper (upper m) = upper m` and `upper (lower m) = upper m` for every string, and on the generated table being
closed under `upper` (`table_upper_closed`). -/
theorem C03_case_stable (v s : String) (c : MCase) (m : Str) :
    orderOf v s (caseMap c m) = orderOf v s m := orderOf_caseMap v s c m

/-- **The repaired defect** (lasio 4979e47), documented on the OLD exact-key lookup `orderOfOld`: `Null` in a
1.2 ~Well section was written description-first (the writer looked up `Null`), while with
`mnemonic_case='upper'` the reader looked up `NULL` and took the description for the value.  With the
two-step lookup both sides say value-first, and the written line reads back under every case map. -/
theorem C03_counterexample_case_variant :
    orderOfOld "1.2" "Well" "Null".toList = .ok .descrValue ∧
    orderOfOld "1.2" "Well" (caseMap .upper "Null".toList) = .ok .valueDescr ∧
    orderOf "1.2" "Well" "Null".toList = .ok .valueDescr ∧
    orderOf "1.2" "Well" (caseMap .upper "Null".toList) = .ok .valueDescr ∧
    formatItem .valueDescr ⟨4, 10⟩ ⟨"Null".toList, "Null".toList, [], .str "the value".toList, "the descr".toList⟩ =
      "Null. the value : the descr".toList ∧
    readItem "1.2" .well .upper "Null. the value : the descr".toList =
      some ⟨"NULL".toList, [], "the value".toList, "the descr".toList⟩ := by
  decide +kernel

/-! ## sections -/

/-- the section writer followed by the section reader, given what the reader's loop does on each written line: `o` is the
order the writer looked up, `W` are widths that leave a blank before the right-hand field (`C03_pad_ge_one`) -/
theorem readSection_written (v : String) (kind : SecName) (c : MCase) (items : List WItem) (lines : List Str)
    (hw : writeSection v (secKey kind) items = .ok lines)
    (hline : ∀ it ∈ items, ∀ o W, orderOf v (secKey kind) it.orig = .ok o →
      1 ≤ W.middle - it.unit.length - (rhsOf o it).length →
      readLine v kind c (formatItem o W it) = .item (expected c it)) :
    readSection v kind c lines = some (items.map (expected c)) := by
  unfold writeSection at hw
  rcases hso : sectionOrders v (secKey kind) with _ | tbl
  · simp [hso] at hw
  · simp only [hso] at hw
    split at hw
    · rename_i hall
      simp only [Except.ok.injEq] at hw
      subst hw
      generalize hord : (fun m => match orderOf v (secKey kind) m with
        | .ok o => o | .error _ => Order.valueDescr) = ord
      have hok : ∀ it ∈ items, orderOf v (secKey kind) it.orig = .ok (ord it.orig) := by
        intro it hit
        have := List.all_eq_true.mp hall it hit
        subst hord
        rcases h : orderOf v (secKey kind) it.orig with e | o
        · simp [h] at this
        · simp [h]
      unfold sectionLines
      apply readSection_map
      intro it hit
      exact hline it hit _ _ (hok it hit) (C03_pad_ge_one ord items it hit).1
    · simp at hw

/-- **Section round trip**: reading back the lines `write` emits for one section gives the items in the same
order, duplicates included.  `hmark` is forced: a line starting with '#' is a comment and one starting with
'~' a section title (`C03_counterexample_comment_mnemonic`). -/
theorem C03_section (v : String) (kind : SecName) (c : MCase) (items : List WItem) (lines : List Str)
    (hkind : kind ≠ .other)
    (hw : writeSection v (secKey kind) items = .ok lines)
    (hconf : ∀ it ∈ items, TextConf kind it)
    (hmark : ∀ it ∈ items, it.orig.head? ≠ some '#' ∧ it.orig.head? ≠ some '~') :
    readSection v kind c lines = some (items.map (expected c)) := by
  exact readSection_written v kind c items lines hw fun it hit o W hwo hpad =>
    readLine_formatItem v kind c o W it hkind hwo (conf_of_order hwo (hconf it hit)) (hconf it hit).unit_notnum
      (hconf it hit).unit_nobr (fun _ => hpad) (hmark it hit)

/-- for the two versions `write` accepts the section writer never fails -/
theorem C03_writeSection_total (v : String) (hv : v = "1.2" ∨ v = "2.0") (kind : SecName)
    (hkind : kind ≠ .other) (items : List WItem) : ∃ lines, writeSection v (secKey kind) items = .ok lines := by
  have hp : versionPresent v = true := by rcases hv with rfl | rfl <;> decide
  have hs : secKey kind ∈ ["Version", "Well", "Curves", "Parameter"] := by
    cases kind <;> simp_all [secKey]
  have htot := fun m => orderOf_total v hp (secKey kind) hs m
  unfold writeSection
  rcases hso : sectionOrders v (secKey kind) with _ | tbl
  · obtain ⟨o, ho⟩ := htot []
    simp [orderOf, hso] at ho
  · simp only []
    split
    · exact ⟨_, rfl⟩
    · rename_i hn
      exfalso
      apply hn
      apply List.all_eq_true.mpr
      intro it _
      obtain ⟨o, ho⟩ := htot it.orig
      simp [ho]

/-- `hmark` is needed: an item named `#A` is written as a comment line and disappears -/
theorem C03_counterexample_comment_mnemonic :
    let it : WItem := ⟨"#A".toList, "#A".toList, "M".toList, .str "1".toList, "d".toList⟩
    writeSection "2.0" "Well" [it] = .ok ["#A.M 1 : d".toList] ∧
    readSection "2.0" .well .preserve ["#A.M 1 : d".toList] = some [] := by
  dsimp only
  decide +kernel

/-! ## value normalisation -/

/-- **`standardize_value` is idempotent** (so a second `write` of the same object changes nothing) for
values whose flags are consistent (`None` is falsy and not zero) -/
theorem C03_standardize_idem (v : WVal) (u : Str) (hwf : v.WF) :
    standardizeValue (standardizeValue v u) u = standardizeValue v u := by
  obtain ⟨t, f, z, n⟩ := v
  unfold WVal.WF at hwf
  simp only at hwf
  cases hu : u.isEmpty <;> cases f <;> cases z <;> cases n <;>
    first
    | (simp at hwf; done)
    | simp [standardizeValue, hu, WVal.intZero, WVal.str]

/-- the well-formedness hypothesis is needed (flags no Python object has) -/
theorem C03_counterexample_standardize_flags :
    let v : WVal := ⟨[], false, false, true⟩
    standardizeValue (standardizeValue v ['M']) ['M'] ≠ standardizeValue v ['M'] := by
  dsimp only
  decide +kernel

/-- the documented difference: an empty (or `None`) value on an item that has a unit is written as 0;
`None` without unit is written as the empty string; everything else is written as it is -/
theorem C03_standardize_cases (v : WVal) (u : Str) (hwf : v.WF) :
    (u ≠ [] → v.falsy = true → v.isZero = false → standardizeValue v u = WVal.intZero) ∧
    (u = [] → v.isNone = true → standardizeValue v u = WVal.str []) ∧
    ((u = [] ∨ v.falsy = false ∨ v.isZero = true) → v.isNone = false → standardizeValue v u = v) := by
  obtain ⟨t, f, z, n⟩ := v
  unfold WVal.WF at hwf
  simp only at hwf
  refine ⟨?_, ?_, ?_⟩
  · intro h1 h2 h3
    simp only at h2 h3
    subst h2 h3
    have : u.isEmpty = false := by cases u <;> simp_all
    simp [standardizeValue, this, WVal.intZero]
  · intro h1 h2
    simp only at h2
    subst h1 h2
    simp [standardizeValue]
  · intro h1 h2
    simp only at h1 h2
    subst h2
    cases hu : u.isEmpty <;> cases f <;> cases z <;> simp_all [standardizeValue]

/-! ## ~Other -/

/-- normal form of the ~Other text: the only line break character is '\n' and the text does not end with one
(`str.splitlines` drops a final break; `\r`, `\x0b`, `\x0c`, `\x1c`–`\x1e`, `\x85`, U+2028/9 also break lines) -/
def OtherNF (t : Str) : Prop := (∀ c ∈ t, isLineBreak c = true → c = '\n') ∧ t.getLast? ≠ some '\n'

/-- **~Other**: the lines written for the ~Other text, joined with '\n' (what the reader stores, given that
each line is already stripped), are the text itself when it is in normal form -/
theorem C03_other (t : Str) (h : OtherNF t) : joinWith ['\n'] (splitlines t) = t := by
  have := splitlinesAux_join t [] h.1 (by simpa using h.2)
  simpa [splitlines] using this

/-- the normal form is needed: a final newline is not written -/
theorem C03_counterexample_other_trailing_newline :
    joinWith ['\n'] (splitlines "a\n".toList) = "a".toList := by decide +kernel

/-! ## Non-vacuity -/

/-- a conformant item of every section kind -/
theorem C03_example_conf (kind : SecName) :
    TextConf kind ⟨"DEPT".toList, "DEPT".toList, "M".toList, .str "1670.0".toList, "start (depth) \"x\"".toList⟩ where
  mnem_ne := by decide +kernel
  mnem_strip := by decide +kernel
  mnem_chars := by decide +kernel
  unit_nosp := by decide +kernel
  unit_nodd := by decide +kernel
  unit_notnum := Or.inr (by decide +kernel)
  unit_nobr := by decide +kernel
  unit_first := by decide +kernel
  unit_last := by decide +kernel
  value_strip := by decide +kernel
  value_nocolon := by decide +kernel
  value_nodd := fun _ => by decide +kernel
  descr_strip := by decide +kernel
  descr_nocolon := by decide +kernel

/-- a 1.2 ~Well item is written description-first and read back with value and description in place,
under every case map -/
example (c : MCase) :
    readItem "1.2" .well c (formatItem .descrValue ⟨6, 25⟩
      ⟨"DEPT".toList, "DEPT".toList, "M".toList, .str "1670.0".toList, "start (depth) \"x\"".toList⟩) =
      some ⟨caseMap c "DEPT".toList, "M".toList, "1670.0".toList, "start (depth) \"x\"".toList⟩ :=
  C03_item "1.2" .well c .descrValue ⟨6, 25⟩ _ (by decide) (by decide +kernel) (C03_example_conf .well) (by decide +kernel)

example : formatItem .descrValue ⟨6, 25⟩
    ⟨"DEPT".toList, "DEPT".toList, "M".toList, .str "1670.0".toList, "start (depth) \"x\"".toList⟩ =
    "DEPT  .M       start (depth) \"x\" : 1670.0".toList := by decide +kernel

#print axioms C03_pad_ge_one
#print axioms C03_pad_ge_one_standardized
#print axioms C03_counterexample_widths_before_normalise
#print axioms C03_order_tables
#print axioms C03_versions_present
#print axioms C03_order_v20
#print axioms C03_order_v12_well
#print axioms C03_conf_of_text
#print axioms C03_item_general
#print axioms C03_item
#print axioms C03_case_stable
#print axioms C03_counterexample_case_variant
#print axioms C03_section
#print axioms C03_writeSection_total
#print axioms C03_counterexample_comment_mnemonic
#print axioms C03_standardize_idem
#print axioms C03_counterexample_standardize_flags
#print axioms C03_standardize_cases
#print axioms C03_other
#print axioms C03_counterexample_other_trailing_newline
#print axioms C03_example_conf

/-! ## the file-level clause: the whole-file reader model (`Lasio.Rd`) inverts the header writer model -/

/-- no ~Other line may look like a section title (`line.strip().startswith("~")`) -/
def OtherOK (t : Str) : Prop := ∀ l ∈ splitlines t, (strip l).head? ≠ some '~'

/-- every ~Other line is stripped already (the reader stores `line.strip()`) -/
def OtherStripped (t : Str) : Prop := ∀ l ∈ splitlines t, strip l = l

/-- the part of `hmark`/`TextConf` that keeps an item line from being taken for a title -/
def NoTitleMnem (it : WItem) : Prop := it.orig ≠ [] ∧ strip it.orig = it.orig ∧ it.orig.head? ≠ some '~'

theorem NoTitleMnem.of_conf {kind : SecName} {it : WItem} (h : TextConf kind it)
    (hm : it.orig.head? ≠ some '#' ∧ it.orig.head? ≠ some '~') : NoTitleMnem it :=
  ⟨h.mnem_ne, h.mnem_strip, hm.2⟩

theorem standardizeItems_orig (items : List WItem) (P : Str → Prop) (h : ∀ it ∈ items, P it.orig) :
    ∀ it ∈ standardizeItems items, P it.orig := by
  intro it hit
  obtain ⟨y, hy, rfl⟩ := List.mem_map.mp hit
  exact h y hy

theorem OtherOK.notitle {t : Str} (ho : OtherOK t) : ∀ b ∈ splitlines t, Rd.isTitle b = false := by
  intro b hb
  rw [Rd.isTitle_eq, RH.startsTilde_false_iff]
  exact ho b hb

/-- **The written header is a well-formed document of the reader model**: `headerLines` is the five written
sections laid flat (title line `title.ljust(width, "-")`, then the body), every title line is recognised as a title by
the reader's title scan and no body line is — so `C05_windows` / `C05_read_rendered` apply.  Item lines: the mnemonic
is non-empty, stripped and does not start with '~' (`NoTitleMnem`, a part of `TextConf` + `hmark`); ~Other lines:
`OtherOK`. -/
theorem C03_written_document_wellformed (version : String) (wrap : Option Bool) (w : Nat) (las las' : WLas)
    (lines : List Str) (h : headerLines version wrap w las = .ok (lines, las'))
    (hmv : ∀ it ∈ RH.versionCopy version wrap las, NoTitleMnem it)
    (hmw : ∀ it ∈ las.well, NoTitleMnem it) (hmc : ∀ it ∈ las.curves, NoTitleMnem it)
    (hmp : ∀ it ∈ las.params, NoTitleMnem it) (ho : OtherOK las.other) :
    ∃ secs, headerSections version wrap las = .ok (secs, las') ∧
      lines = Rd.flat (RH.written w secs) ∧ Rd.WellFormed (RH.written w secs) ∧
      Rd.findSections lines = Rd.docWindows (RH.written w secs) 0 := by
  obtain ⟨_, lv, lw, lc, lp, wv, ww, wc, wp, hs, hl⟩ := RH.headerLines_ok version wrap w las las' lines h
  have hw := RH.wellFormed_written w lv lw lc lp (splitlines las.other)
    (RH.writeSection_notitle _ _ _ _ wv hmv)
    (RH.writeSection_notitle _ _ _ _ ww (standardizeItems_orig las.well
      (fun o => o ≠ [] ∧ strip o = o ∧ o.head? ≠ some '~') hmw))
    (RH.writeSection_notitle _ _ _ _ wc hmc)
    (RH.writeSection_notitle _ _ _ _ wp (standardizeItems_orig las.params
      (fun o => o ≠ [] ∧ strip o = o ∧ o.head? ≠ some '~') hmp))
    ho.notitle
  exact ⟨_, hs, hl, hw, by rw [hl, RH.windows_flat _ hw]⟩

/-- **Per line, the whole-file reader computes what `readLine`/`readItem` compute.**  `kind` one of the four item
sections, `v` a version whose table has that section (1.2 and 2.0 do).  The reader derives from the written title
`~Version ---…` / `~Well ---…` / `~Curve Information ---…` / `~Params ---…` (any header width `w`): section type
"Header items", the key "Version" / "Well" / "Curves" / "Parameter", and the parser object `p` (`metadata` over the
version's order table for ~V/~W, `curves`, `params`); with that parser `Rd.lineRes` on ANY line is `Wr.readLine`
(skip ↦ skip, stop ↦ title, error ↦ bad, item ↦ the same name, unit, raw value, description): both are
`read_header_line` + the case map + the two-step order lookup + `strip_brackets`. -/
theorem C03_rd_item_eq_wr_item (o : Rd.ReadOpts) (v : String) (kind : SecName) (hk : kind ≠ .other)
    (hso : (sectionOrders v (secKey kind)).isSome = true) (ver : Rd.VerVal) (w : Nat) :
    Rd.sectionType (Rd.sline (titleLine (RH.titleOf kind) w)) = .items ∧
    Rd.routeKey (Rd.sline (titleLine (RH.titleOf kind) w)) ver = .ok (RH.keyOf kind) ∧
    ∃ p, Rd.mkParser (Rd.lineStrip (titleLine (RH.titleOf kind) w)) (.known v.toList) = .ok p ∧
      ∀ line, Rd.lineRes o p line = RH.cvtRes (readLine v kind (RH.cvtCase o.mnemonicCase) line) := by
  obtain ⟨h1, h2, h3⟩ := RH.written_title_dispatch kind hk v ver w
  exact ⟨h1, h2, _, h3, fun line => RH.lineRes_eq o v kind hk hso line⟩

/-- on a written item line the whole-file reader's per-line function returns the item: original mnemonic under the
case map, unit, value text, description -/
theorem C03_rd_written_line (o : Rd.ReadOpts) (v : String) (kind : SecName) (ord : Order) (W : Widths) (it : WItem)
    (hk : kind ≠ .other) (hw : orderOf v (secKey kind) it.orig = .ok ord) (hconf : TextConf kind it)
    (hpad : 1 ≤ W.middle - it.unit.length - (rhsOf ord it).length)
    (hmark : it.orig.head? ≠ some '#' ∧ it.orig.head? ≠ some '~') :
    Rd.lineRes o (RH.parserOf v kind) (formatItem ord W it) =
      .item ⟨caseMap (RH.cvtCase o.mnemonicCase) it.orig, it.unit, it.value.text, it.descr⟩ := by
  have hso : (sectionOrders v (secKey kind)).isSome = true := by
    unfold orderOf at hw
    cases h : sectionOrders v (secKey kind) with
    | none => rw [h] at hw; cases hw
    | some x => rfl
  rw [RH.lineRes_eq o v kind hk hso,
    readLine_formatItem v kind (RH.cvtCase o.mnemonicCase) ord W it hk hw (conf_of_order hw hconf)
      hconf.unit_notnum hconf.unit_nobr (fun _ => hpad) hmark]
  rfl

/-- what the reader returns for a written item -/
def rdExpected (o : Rd.ReadOpts) (it : WItem) : Rd.RItem :=
  ⟨caseMap (RH.cvtCase o.mnemonicCase) it.orig, it.unit, it.value.text, it.descr⟩

/-- the reader finds the VERS item of the written ~Version section: exactly one item of that section has the
(case-mapped, useful) mnemonic VERS in the sense of `SectionItems.__contains__`, and its value is the version -/
def VersOK (o : Rd.ReadOpts) (version : String) (vcopy : List WItem) : Prop :=
  ∃ x, vcopy.filter (fun it => Rd.mcmp (o.mnemonicCase != .preserve)
      (Rd.usefulMn (caseMap (RH.cvtCase o.mnemonicCase) it.orig)) "VERS".toList) = [x] ∧
    x.value.text = version.toList

theorem map_expected_toRd (o : Rd.ReadOpts) (items : List WItem) :
    (items.map (expected (RH.cvtCase o.mnemonicCase))).map RH.toRd = items.map (rdExpected o) := by
  rw [List.map_map]; rfl

/-- writing `items` as the section of kind `kind` gives no line that the reader takes for a title, and the lines read back
as `r`: all that the file-level round trip needs to know of a section -/
def ReadsBack (o : Rd.ReadOpts) (v : String) (kind : SecName) (items : List WItem) (r : List RItem) : Prop :=
  ∀ l, writeSection v (secKey kind) items = .ok l →
    (∀ b ∈ l, Rd.isTitle b = false) ∧ readSection v kind (RH.cvtCase o.mnemonicCase) l = some r

theorem ReadsBack.of_conf {o : Rd.ReadOpts} {v : String} {kind : SecName} {items : List WItem} (hk : kind ≠ .other)
    (hc : ∀ it ∈ items, TextConf kind it) (hm : ∀ it ∈ items, it.orig.head? ≠ some '#' ∧ it.orig.head? ≠ some '~') :
    ReadsBack o v kind items (items.map (expected (RH.cvtCase o.mnemonicCase))) :=
  fun l hl => ⟨RH.writeSection_notitle _ _ _ _ hl fun it hit => NoTitleMnem.of_conf (hc it hit) (hm it hit),
    C03_section v kind _ items l hk hl hc hm⟩

/-- the steering lookup finds the VERS item -/
theorem VersOK.lookup {o : Rd.ReadOpts} {version : String} {vcopy : List WItem} (h : VersOK o version vcopy) :
    (Rd.lookupItem (o.mnemonicCase != .preserve) ((vcopy.map (expected (RH.cvtCase o.mnemonicCase))).map RH.toRd)
      "VERS".toList).map (·.value) = some version.toList := by
  obtain ⟨x, hx, hxv⟩ := h
  rw [RH.lookup_written _ _ _ (Rd.steerKey_nocolon _ _ (by simp [Rd.steerKeys])), hx]
  simp [Rd.uniq, RH.toRd, expected, hxv]

/-- no written item is a DLM item: the steering lookup finds none -/
theorem lookup_dlm_written (o : Rd.ReadOpts) (vcopy : List WItem) (h : ∀ it ∈ vcopy, upper it.orig ≠ "DLM".toList) :
    (Rd.lookupItem (o.mnemonicCase != .preserve) (vcopy.map (rdExpected o)) "DLM".toList).map (·.value) = none := by
  have : vcopy.filter (fun it => Rd.mcmp (o.mnemonicCase != .preserve)
      (Rd.usefulMn (caseMap (RH.cvtCase o.mnemonicCase) it.orig)) "DLM".toList) = [] :=
    List.filter_eq_nil_iff.mpr fun it hit => by rw [RH.mcmp_dlm_false o it.orig (h it hit)]; simp
  rw [← map_expected_toRd, RH.lookup_written _ _ _ (Rd.steerKey_nocolon _ _ (by simp [Rd.steerKeys])), this]
  rfl

/-- **The reader's state after the five written sections**, for sections that read back as `iv`, `iw`, `ic`, `ip`.  The
header lines are a well-formed document `secs` of the reader model, and reading it section by section stores the items
under the five keys and sets the steering values: VERS (the written version), WRAP and DLM from the ~Version items, NULL
from the ~Well items. -/
theorem header_state_of (o : Rd.ReadOpts) (version : String) (wrap : Option Bool) (w : Nat) (las las' : WLas)
    (lines : List Str) (h : headerLines version wrap w las = .ok (lines, las')) (iv iw ic ip : List RItem)
    (hv : ReadsBack o version .version (RH.versionCopy version wrap las) iv)
    (hw : ReadsBack o version .well (standardizeItems las.well) iw)
    (hc : ReadsBack o version .curves las.curves ic)
    (hp : ReadsBack o version .parameter (standardizeItems las.params) ip)
    (hlv : (Rd.lookupItem (o.mnemonicCase != .preserve) (iv.map RH.toRd) "VERS".toList).map (·.value) =
      some version.toList)
    (ho : OtherOK las.other) :
    ∃ secs st, lines = Rd.flat secs ∧ Rd.WellFormed secs ∧ secs ≠ [] ∧
      Rd.docSections o secs 0 Rd.RState.init = .ok st ∧
      st.sections =
        [(Rd.kVersion, some (.items (iv.map RH.toRd))), (Rd.kWell, some (.items (iw.map RH.toRd))),
         (Rd.kCurves, some (.items (ic.map RH.toRd))), (Rd.kParameter, some (.items (ip.map RH.toRd))),
         (Rd.kOther, some (.text (joinWith ['\n'] ((splitlines las.other).map strip))))] ∧
      st.curvesPlain = false ∧ st.data = [] ∧ st.las3 = [] ∧
      st.steer = ⟨some version.toList,
        (Rd.lookupItem (o.mnemonicCase != .preserve) (iv.map RH.toRd) "WRAP".toList).map (·.value),
        (Rd.lookupItem (o.mnemonicCase != .preserve) (iw.map RH.toRd) "NULL".toList).map (·.value),
        (Rd.lookupItem (o.mnemonicCase != .preserve) (iv.map RH.toRd) "DLM".toList).map (·.value)⟩ := by
  obtain ⟨hver, lv, lw, lc, lp, wv, ww, wc, wp, _, hl⟩ := RH.headerLines_ok version wrap w las las' lines h
  obtain ⟨nv, rv⟩ := hv lv wv
  rw [← RH.readSection_version_prov version hver] at rv
  obtain ⟨nw, rw'⟩ := hw lw ww
  obtain ⟨nc, rc⟩ := hc lc wc
  obtain ⟨np, rp⟩ := hp lp wp
  obtain ⟨st, hst, hsec, hpl, hdata, hlas3, hsteer⟩ := RH.docSections_written_steer o version w lv lw lc lp
    (splitlines las.other) iv iw ic ip version.toList (RH.sectionOrders_some version hver) nv nw nc np rv rw' rc rp hlv
    (RH.classifyVer_written version hver)
  exact ⟨_, st, hl, RH.wellFormed_written w lv lw lc lp _ nv nw nc np ho.notitle, by simp [RH.written], hst, hsec, hpl,
    hdata, hlas3, hsteer⟩

/-- the whole-file reader on those lines: `processSections` over the windows `findSections` finds, and `readLines` when
the DLM value (if any) names a delimiter -/
theorem file_read_of (o : Rd.ReadOpts) (version : String) (wrap : Option Bool) (w : Nat) (las las' : WLas)
    (lines : List Str) (h : headerLines version wrap w las = .ok (lines, las')) (iv iw ic ip : List RItem)
    (hv : ReadsBack o version .version (RH.versionCopy version wrap las) iv)
    (hw : ReadsBack o version .well (standardizeItems las.well) iw)
    (hc : ReadsBack o version .curves las.curves ic)
    (hp : ReadsBack o version .parameter (standardizeItems las.params) ip)
    (hlv : (Rd.lookupItem (o.mnemonicCase != .preserve) (iv.map RH.toRd) "VERS".toList).map (·.value) =
      some version.toList)
    (ho : OtherOK las.other) :
    ∃ st, Rd.processSections o lines (Rd.findSections lines) Rd.RState.init = .ok st ∧
      st.sections =
        [(Rd.kVersion, some (.items (iv.map RH.toRd))), (Rd.kWell, some (.items (iw.map RH.toRd))),
         (Rd.kCurves, some (.items (ic.map RH.toRd))), (Rd.kParameter, some (.items (ip.map RH.toRd))),
         (Rd.kOther, some (.text (joinWith ['\n'] ((splitlines las.other).map strip))))] ∧
      st.steer.vers = some version.toList ∧
      ((∀ d, (Rd.lookupItem (o.mnemonicCase != .preserve) (iv.map RH.toRd) "DLM".toList).map (·.value) = some d →
          Rd.delimiters.contains d = true) →
        ∃ steer, Rd.readLines o lines = .ok
          ⟨[(Rd.kVersion, .items (iv.map RH.toRd)), (Rd.kWell, .items (iw.map RH.toRd)),
            (Rd.kCurves, .items (ic.map RH.toRd)), (Rd.kParameter, .items (ip.map RH.toRd)),
            (Rd.kOther, .text (joinWith ['\n'] ((splitlines las.other).map strip)))], steer, []⟩ ∧
          steer.vers = some version.toList) := by
  obtain ⟨secs, st, hl, hwf, hne, hst, hsec, hpl, hdata, hlas3, hsteer⟩ :=
    header_state_of o version wrap w las las' lines h iv iw ic ip hv hw hc hp hlv ho
  refine ⟨st, by rw [hl, RH.read_flat o _ _ hwf, hst], hsec, by rw [hsteer], fun hdlm => ⟨st.steer, ?_, by rw [hsteer]⟩⟩
  rw [hl, RH.readLines_flat o _ hwf hne, hst]
  simp only []
  rw [RH.finishRead_ok st (fun d hd => hdlm d (by rw [← hd, hsteer])) hpl, hsec, hdata, hlas3]
  rfl

/-- `header_state_of` for conformant items -/
theorem written_header_state (o : Rd.ReadOpts) (version : String) (wrap : Option Bool) (w : Nat) (las las' : WLas)
    (lines : List Str) (h : headerLines version wrap w las = .ok (lines, las'))
    (hcv : ∀ it ∈ RH.versionCopy version wrap las, TextConf .version it)
    (hcw : ∀ it ∈ standardizeItems las.well, TextConf .well it)
    (hcc : ∀ it ∈ las.curves, TextConf .curves it)
    (hcp : ∀ it ∈ standardizeItems las.params, TextConf .parameter it)
    (hmv : ∀ it ∈ RH.versionCopy version wrap las, it.orig.head? ≠ some '#' ∧ it.orig.head? ≠ some '~')
    (hmw : ∀ it ∈ las.well, it.orig.head? ≠ some '#' ∧ it.orig.head? ≠ some '~')
    (hmc : ∀ it ∈ las.curves, it.orig.head? ≠ some '#' ∧ it.orig.head? ≠ some '~')
    (hmp : ∀ it ∈ las.params, it.orig.head? ≠ some '#' ∧ it.orig.head? ≠ some '~')
    (hvers : VersOK o version (RH.versionCopy version wrap las))
    (ho : OtherOK las.other) :
    ∃ secs st, lines = Rd.flat secs ∧ Rd.WellFormed secs ∧ secs ≠ [] ∧
      Rd.docSections o secs 0 Rd.RState.init = .ok st ∧
      st.sections =
        [(Rd.kVersion, some (.items ((RH.versionCopy version wrap las).map (rdExpected o)))),
         (Rd.kWell, some (.items ((standardizeItems las.well).map (rdExpected o)))),
         (Rd.kCurves, some (.items (las.curves.map (rdExpected o)))),
         (Rd.kParameter, some (.items ((standardizeItems las.params).map (rdExpected o)))),
         (Rd.kOther, some (.text (joinWith ['\n'] ((splitlines las.other).map strip))))] ∧
      st.curvesPlain = false ∧ st.data = [] ∧ st.las3 = [] ∧
      st.steer = ⟨some version.toList,
        (Rd.lookupItem (o.mnemonicCase != .preserve) ((RH.versionCopy version wrap las).map (rdExpected o))
          "WRAP".toList).map (·.value),
        (Rd.lookupItem (o.mnemonicCase != .preserve) ((standardizeItems las.well).map (rdExpected o))
          "NULL".toList).map (·.value),
        (Rd.lookupItem (o.mnemonicCase != .preserve) ((RH.versionCopy version wrap las).map (rdExpected o))
          "DLM".toList).map (·.value)⟩ := by
  have := header_state_of o version wrap w las las' lines h _ _ _ _ (.of_conf (by decide) hcv hmv)
    (.of_conf (by decide) hcw (standardizeItems_orig las.well (fun m => m.head? ≠ some '#' ∧ m.head? ≠ some '~') hmw)) (.of_conf (by decide) hcc hmc)
    (.of_conf (by decide) hcp (standardizeItems_orig las.params (fun m => m.head? ≠ some '#' ∧ m.head? ≠ some '~') hmp)) hvers.lookup ho
  simp only [map_expected_toRd] at this
  exact this

/-- **File-level round trip (header).**  The lines `write` emits before the data section, read by the whole-file
reader (`find_sections_in_file` + the section loop of `LASFile.read`): every section is found, read with the parser of
its kind under the version its VERS item announces, and stored under "Version", "Well", "Curves", "Parameter" with
exactly the written items in order (original mnemonic under the case map, unit, value text, description), and the
stripped ~Other lines joined by '\n' under "Other".  The written items are: the ~Version copy with WRAP and VERS
substituted (`RH.versionCopy`), the standardised ~Well and ~Parameter items, the ~Curves items. -/
theorem C03_file (o : Rd.ReadOpts) (version : String) (wrap : Option Bool) (w : Nat) (las las' : WLas)
    (lines : List Str) (h : headerLines version wrap w las = .ok (lines, las'))
    (hcv : ∀ it ∈ RH.versionCopy version wrap las, TextConf .version it)
    (hcw : ∀ it ∈ standardizeItems las.well, TextConf .well it)
    (hcc : ∀ it ∈ las.curves, TextConf .curves it)
    (hcp : ∀ it ∈ standardizeItems las.params, TextConf .parameter it)
    (hmv : ∀ it ∈ RH.versionCopy version wrap las, it.orig.head? ≠ some '#' ∧ it.orig.head? ≠ some '~')
    (hmw : ∀ it ∈ las.well, it.orig.head? ≠ some '#' ∧ it.orig.head? ≠ some '~')
    (hmc : ∀ it ∈ las.curves, it.orig.head? ≠ some '#' ∧ it.orig.head? ≠ some '~')
    (hmp : ∀ it ∈ las.params, it.orig.head? ≠ some '#' ∧ it.orig.head? ≠ some '~')
    (hvers : VersOK o version (RH.versionCopy version wrap las))
    (ho : OtherOK las.other) :
    ∃ st, Rd.processSections o lines (Rd.findSections lines) Rd.RState.init = .ok st ∧
      st.sections =
        [(Rd.kVersion, some (.items ((RH.versionCopy version wrap las).map (rdExpected o)))),
         (Rd.kWell, some (.items ((standardizeItems las.well).map (rdExpected o)))),
         (Rd.kCurves, some (.items (las.curves.map (rdExpected o)))),
         (Rd.kParameter, some (.items ((standardizeItems las.params).map (rdExpected o)))),
         (Rd.kOther, some (.text (joinWith ['\n'] ((splitlines las.other).map strip))))] ∧
      st.steer.vers = some version.toList ∧
      ((∀ it ∈ RH.versionCopy version wrap las, upper it.orig ≠ "DLM".toList) →
        ∃ steer, Rd.readLines o lines = .ok
          ⟨[(Rd.kVersion, .items ((RH.versionCopy version wrap las).map (rdExpected o))),
            (Rd.kWell, .items ((standardizeItems las.well).map (rdExpected o))),
            (Rd.kCurves, .items (las.curves.map (rdExpected o))),
            (Rd.kParameter, .items ((standardizeItems las.params).map (rdExpected o))),
            (Rd.kOther, .text (joinWith ['\n'] ((splitlines las.other).map strip)))], steer, []⟩ ∧
          steer.vers = some version.toList) := by
  obtain ⟨st, hst, hsec, hv, hr⟩ := file_read_of o version wrap w las las' lines h _ _ _ _ (.of_conf (by decide) hcv hmv)
    (.of_conf (by decide) hcw (standardizeItems_orig las.well (fun m => m.head? ≠ some '#' ∧ m.head? ≠ some '~') hmw)) (.of_conf (by decide) hcc hmc)
    (.of_conf (by decide) hcp (standardizeItems_orig las.params (fun m => m.head? ≠ some '#' ∧ m.head? ≠ some '~') hmp)) hvers.lookup ho
  simp only [map_expected_toRd] at hsec hr
  exact ⟨st, hst, hsec, hv, fun hdlm => hr fun d hd => by rw [lookup_dlm_written o _ hdlm] at hd; cases hd⟩

/-- the per-section form: under each of the four keys the reader returns exactly the read-back of that section's
own items, in order -/
theorem C03_file_section (o : Rd.ReadOpts) (version : String) (wrap : Option Bool) (w : Nat) (las las' : WLas)
    (lines : List Str) (h : headerLines version wrap w las = .ok (lines, las'))
    (hcv : ∀ it ∈ RH.versionCopy version wrap las, TextConf .version it)
    (hcw : ∀ it ∈ standardizeItems las.well, TextConf .well it)
    (hcc : ∀ it ∈ las.curves, TextConf .curves it)
    (hcp : ∀ it ∈ standardizeItems las.params, TextConf .parameter it)
    (hmv : ∀ it ∈ RH.versionCopy version wrap las, it.orig.head? ≠ some '#' ∧ it.orig.head? ≠ some '~')
    (hmw : ∀ it ∈ las.well, it.orig.head? ≠ some '#' ∧ it.orig.head? ≠ some '~')
    (hmc : ∀ it ∈ las.curves, it.orig.head? ≠ some '#' ∧ it.orig.head? ≠ some '~')
    (hmp : ∀ it ∈ las.params, it.orig.head? ≠ some '#' ∧ it.orig.head? ≠ some '~')
    (hvers : VersOK o version (RH.versionCopy version wrap las))
    (ho : OtherOK las.other) :
    ∃ st, Rd.processSections o lines (Rd.findSections lines) Rd.RState.init = .ok st ∧
      Rd.lookupSec Rd.kVersion st.sections = some (.items ((RH.versionCopy version wrap las).map (rdExpected o))) ∧
      Rd.lookupSec Rd.kWell st.sections = some (.items ((standardizeItems las.well).map (rdExpected o))) ∧
      Rd.lookupSec Rd.kCurves st.sections = some (.items (las.curves.map (rdExpected o))) ∧
      Rd.lookupSec Rd.kParameter st.sections = some (.items ((standardizeItems las.params).map (rdExpected o))) ∧
      Rd.lookupSec Rd.kOther st.sections = some (.text (joinWith ['\n'] ((splitlines las.other).map strip))) := by
  obtain ⟨st, hst, hsec, _, _⟩ := C03_file o version wrap w las las' lines h hcv hcw hcc hcp hmv hmw hmc hmp hvers ho
  refine ⟨st, hst, ?_, ?_, ?_, ?_, ?_⟩ <;> rw [hsec] <;> rfl

/-- the stored ~Other text is the original text when that is in normal form and its lines are stripped -/
theorem C03_file_other_text (t : Str) (hnf : OtherNF t) (hs : OtherStripped t) :
    joinWith ['\n'] ((splitlines t).map strip) = t := by
  have : (splitlines t).map strip = splitlines t := by
    conv => rhs; rw [← List.map_id (splitlines t)]
    apply List.map_congr_left
    intro l hl; exact hs l hl
  rw [this, C03_other t hnf]

/-! ### the hypotheses on the written ~Version section from hypotheses on `las.version` -/

theorem TextConf.of_text {kind : SecName} {a b : WItem} (h : RH.textOf a = RH.textOf b) (hb : TextConf kind b) :
    TextConf kind a := by
  obtain ⟨a1, a2, a3, a4, a5⟩ := a
  obtain ⟨b1, b2, b3, b4, b5⟩ := b
  simp only [RH.textOf, Prod.mk.injEq] at h
  obtain ⟨rfl, rfl, rfl, rfl⟩ := h
  exact ⟨hb.1, hb.2, hb.3, hb.4, hb.5, hb.6, hb.7, hb.8, hb.9, hb.10, hb.11, hb.12, hb.13, hb.14⟩

instance (kind : SecName) (it : WItem) : Decidable (TextConf kind it) :=
  decidable_of_iff
    (it.orig ≠ [] ∧ strip it.orig = it.orig ∧ (∀ c ∈ it.orig, c ≠ '.' ∧ c ≠ ':') ∧
      (∀ c ∈ it.unit, isPySpace c = false) ∧ ¬ hasDotDot it.unit ∧ (it.unit = [] ∨ ¬ allDigits it.unit) ∧
      isBracketed it.unit = false ∧ it.unit.head? ≠ some '.' ∧ it.unit.getLast? ≠ some '.' ∧
      strip it.value.text = it.value.text ∧ (∀ c ∈ it.value.text, c ≠ ':') ∧
      (kind = .curves → ¬ hasDotDot it.value.text) ∧ strip it.descr = it.descr ∧ ∀ c ∈ it.descr, c ≠ ':')
    ⟨fun ⟨h1, h2, h3, h4, h5, h6, h7, h8, h9, h10, h11, h12, h13, h14⟩ =>
      ⟨h1, h2, h3, h4, h5, h6, h7, h8, h9, h10, h11, h12, h13, h14⟩,
     fun h => ⟨h.1, h.2, h.3, h.4, h.5, h.6, h.7, h.8, h.9, h.10, h.11, h.12, h.13, h.14⟩⟩

theorem conf_wrapItem (b : Bool) : TextConf .version (wrapItem b) := by
  cases b <;> decide +kernel

theorem conf_versItem (v : String) (it : WItem) (h : versItem v = some it) : TextConf .version it :=
  RH.versItem_forall (P := fun _ it => TextConf .version it) (by decide +kernel) (by decide +kernel) h

/-- WRAP and VERS are conformant items, and `set_item` changes session mnemonics only: the conditions on the written
~Version section follow from the same conditions on `las.version` -/
theorem C03_versionCopy_conf (version : String) (wrap : Option Bool) (las : WLas)
    (hc : ∀ it ∈ las.version, TextConf .version it)
    (hm : ∀ it ∈ las.version, it.orig.head? ≠ some '#' ∧ it.orig.head? ≠ some '~') :
    (∀ it ∈ RH.versionCopy version wrap las, TextConf .version it) ∧
    (∀ it ∈ RH.versionCopy version wrap las, it.orig.head? ≠ some '#' ∧ it.orig.head? ≠ some '~') := by
  refine ⟨RH.versionCopy_forall version wrap las (TextConf .version) (fun _ _ => TextConf.of_text) hc conf_wrapItem
    (conf_versItem version), RH.versionCopy_forall version wrap las _ ?_ hm ?_ ?_⟩
  · intro a b e h
    rw [show a.orig = b.orig from congrArg (·.1) e]
    exact h
  · intro b
    cases b <;> decide
  · exact fun y => RH.versItem_forall (P := fun _ y => y.orig.head? ≠ some '#' ∧ y.orig.head? ≠ some '~')
      (by decide +kernel) (by decide +kernel)

/-! ### the hypotheses are needed; non-vacuity -/

def exDept : WItem :=
  ⟨"DEPT".toList, "DEPT".toList, "M".toList, .str "1670.0".toList, "start (depth) \"x\"".toList⟩
def exVers : WItem := mkWItem "VERS".toList [] (.num "1.2".toList false) "old".toList

/-- `VersOK` is needed: a ~Version section with duplicate VERS items (session mnemonics VERS:1, VERS:2, so
`version["VERS"] = …` appends a third) is written as three VERS lines; the reader's `"VERS" in section` is then
False, the provisional version stays 2.0, and the 1.2 ~Well line (description first) is read value-first: value and
description come back swapped -/
theorem C03_counterexample_duplicate_vers :
    let las : WLas := ⟨[{ exVers with session := "VERS:1".toList }, { exVers with session := "VERS:2".toList },
      wrapItem true], true, [exDept], [], [], []⟩
    (headerLines "1.2" (some false) 20 las).toOption.map (fun r =>
      (Rd.readLines ⟨false, .upper⟩ r.1).toOption.map (fun hd =>
        (hd.steer.vers, Rd.lookupSec Rd.kWell (hd.sections.map fun kv => (kv.1, some kv.2))))) =
    some (some (none, some (.items
      [⟨"DEPT".toList, "M".toList, "start (depth) \"x\"".toList, "1670.0".toList⟩]))) := by
  decide +kernel

/-- `OtherOK` is needed: an ~Other line that starts with '~' is a section title for the reader -/
theorem C03_counterexample_other_title :
    let las : WLas := ⟨[exVers, wrapItem true], true, [], [], [], "a\n~b\nc".toList⟩
    (headerLines "2.0" (some false) 20 las).toOption.map (fun r =>
      (Rd.processSections ⟨true, .upper⟩ r.1 (Rd.findSections r.1) Rd.RState.init).toOption.map (fun st =>
        Rd.lookupSec Rd.kOther st.sections)) = some (some (some (.text "a".toList))) := by
  decide +kernel

/-- the '~' half of `hmark` is needed at file level too: the line of an item named `~X` starts a new section -/
theorem C03_counterexample_tilde_mnemonic :
    let it : WItem := ⟨"~X".toList, "~X".toList, "M".toList, .str "1".toList, "d".toList⟩
    let las : WLas := ⟨[exVers, wrapItem true], true, [exDept, it], [], [], []⟩
    (headerLines "2.0" (some false) 20 las).toOption.map (fun r =>
      (Rd.findSections r.1).map (·.2.2)) =
    some ["~Version -----------".toList, "~Well --------------".toList, "~X  .M      1 : d".toList,
      "~Curve Information -".toList, "~Params ------------".toList, "~Other -------------".toList] := by
  decide +kernel

/-- a LASFile header that satisfies every hypothesis of `C03_file`, written as version 1.2 (description-first ~Well
lines) and read back with `mnemonic_case="upper"` -/
example :
    let las : WLas := ⟨[exVers, wrapItem true], true, [exDept], [exDept], [exDept], "hello\nworld".toList⟩
    ∃ lines las', headerLines "1.2" (some false) 20 las = .ok (lines, las') ∧
      ∃ steer, Rd.readLines ⟨false, .upper⟩ lines = .ok
        ⟨[(Rd.kVersion, .items ((RH.versionCopy "1.2" (some false) las).map (rdExpected ⟨false, .upper⟩))),
          (Rd.kWell, .items [⟨"DEPT".toList, "M".toList, "1670.0".toList, "start (depth) \"x\"".toList⟩]),
          (Rd.kCurves, .items [⟨"DEPT".toList, "M".toList, "1670.0".toList, "start (depth) \"x\"".toList⟩]),
          (Rd.kParameter, .items [⟨"DEPT".toList, "M".toList, "1670.0".toList, "start (depth) \"x\"".toList⟩]),
          (Rd.kOther, .text "hello\nworld".toList)], steer, []⟩ ∧ steer.vers = some "1.2".toList := by
  intro las
  have hc : ∀ kind, ∀ it ∈ [exDept], TextConf kind it := by
    intro kind it hit
    have : it = exDept := by simpa using hit
    subst this; exact C03_example_conf kind
  have hm : ∀ it ∈ [exDept], it.orig.head? ≠ some '#' ∧ it.orig.head? ≠ some '~' := by
    intro it hit
    have : it = exDept := by simpa using hit
    subst this; decide
  have hvc : ∀ it ∈ las.version, TextConf .version it := by
    intro it hit
    have : it = exVers ∨ it = wrapItem true := by simpa [las] using hit
    rcases this with rfl | rfl
    · decide +kernel
    · exact conf_wrapItem true
  have hvm : ∀ it ∈ las.version, it.orig.head? ≠ some '#' ∧ it.orig.head? ≠ some '~' := by
    intro it hit
    have : it = exVers ∨ it = wrapItem true := by simpa [las] using hit
    rcases this with rfl | rfl <;> decide
  obtain ⟨hcv, hmv⟩ := C03_versionCopy_conf "1.2" (some false) las hvc hvm
  have hsome : (headerLines "1.2" (some false) 20 las).toOption.isSome = true := by decide +kernel
  cases hl : headerLines "1.2" (some false) 20 las with
  | error e => rw [hl] at hsome; cases hsome
  | ok r =>
  obtain ⟨lines, las'⟩ := r
  obtain ⟨st, _, _, _, hr⟩ := C03_file ⟨false, .upper⟩ "1.2" (some false) 20 las las' lines hl hcv
    (hc .well) (hc .curves) (hc .parameter) hmv hm hm hm
    ⟨mkWItem "VERS".toList [] (.num "1.2".toList false) "CWLS LOG ASCII STANDARD - VERSION 1.2".toList,
      by decide +kernel, by decide⟩
    (show ∀ l ∈ splitlines las.other, (strip l).head? ≠ some '~' by decide +kernel)
  obtain ⟨steer, h1, h2⟩ := hr (by decide +kernel)
  exact ⟨lines, las', rfl, steer, h1, h2⟩

#print axioms NoTitleMnem.of_conf
#print axioms standardizeItems_orig
#print axioms C03_written_document_wellformed
#print axioms C03_rd_item_eq_wr_item
#print axioms C03_rd_written_line
#print axioms C03_file
#print axioms C03_file_section
#print axioms C03_file_other_text
#print axioms TextConf.of_text
#print axioms conf_wrapItem
#print axioms conf_versItem
#print axioms C03_versionCopy_conf
#print axioms C03_counterexample_duplicate_vers
#print axioms C03_counterexample_other_title
#print axioms C03_counterexample_tilde_mnemonic

end Lasio.Wr
