import LasioProofs.Props.C11FixedText
/-
C11 END TO END, WRAPPED — `C11_cycle_end_to_end_partial`, `C11_cycle_text_fixed_point` and `C11_cycle_text_iterate` for `wrap=True`.

HOW THE MODEL DECIDES THE WRAPPED PATH.  `Ro.readObjFullLines` has no option for it: as `Tf.readFull`, it hands `Tf.dtSteer nullOf h.steer` to
`Dt.readData`, where `h.steer.wrap` is the raw text of the WRAP item of the ~Version section it has just read.  `Dt.effectiveEngine` switches to
the normal engine when that text is `"YES"`, and `Dt.readerColumns` then takes the number of ~Curves items as the number of columns.  So the
written header steers the read: `write(wrap=True)` puts `WRAP. YES` into the ~Version copy, the reader finds it (`hwy`) and re-assembles the depth
steps from the physical lines (`Fd.C01_file_dlm_wrapYes`).  Everything after the read is independent of `wrap` (`end_to_end_core`).

ASSUMED, besides what C11EndToEnd / C11FixedText assume: `hwy` (in place of "the written WRAP text is not YES"; it is NEEDED:
`C11_wrapped_needs_wrap_yes`; it is not derived from `wrap = some true` + `CycleConf.hwrap`) and `hcur`, on which the READER relies.  `h6` with
`(dataCfg wcfg).wrap = true` contains the wrapping condition, which is only `data_width ≠ 0` (`C11_wrapped_width_zero`); a field wider than
`data_width` stands alone on its line (`break_long_words=False`, see LasioModel/DataWrite.lean): `C11_wrapped_narrow_example`.
-/
namespace Lasio.Ro
open Lasio Lasio.Wo

/-- **End to end, WRAPPED (partial: `wrap=True`, no mnemonics header, strict NULL policy, numeric columns).** -/
theorem C11_cycle_end_to_end_wrapped_partial (env : Env) (opts : Tf.Opts) (wcfg : WriteCfg) (v : String)
    (hv : wcfg.version = some v) (hwr : wcfg.wrap = some true) (hmh : wcfg.mnemonicsHeader = false)
    (hstrict : opts.dat.nullPolicy = .strict)
    -- the first write, by its steps
    {sd : Option F64} {o : WObj} {vsec : List OItem} {o2 : WObj} {hl : List Str × Wr.WLas} {null : Str} {hdr : Str} {body : List Str}
    (hs1 : (o.data.length != o.curves.length || !sameLengths o.data) = false)
    (h1 : setWrap wcfg o = .ok vsec) (h2 : resolveVersion wcfg o.versionTr vsec = .ok v) (h3 : prepare sd o = .ok o2)
    (h4 : Wr.headerLines v wcfg.wrap wcfg.headerWidth (toWLas o2) = .ok hl)
    (h5 : nullText (afterHeader wcfg o2) = .ok null)
    (h6 : Dw.dataLines (dataCfg wcfg) null ((afterHeader wcfg o2).curves.map (·.session)) (rowsOf (afterHeader wcfg o2).data)
      = some (hdr :: body))
    -- configuration well-formedness (C03 / C01 / C11)
    (hc : Fd.FileConfD opts.hdr v wcfg.wrap (toWLas o2)) (hx : Cy.CycleConf opts.hdr v wcfg.wrap (toWLas o2))
    {c : Dw.RowCfg} {n : Nat}
    (wd : Rt.Written (dataCfg wcfg) null ((afterHeader wcfg o2).curves.map (·.session)) (rowsOf (afterHeader wcfg o2).data) c n hdr body)
    (hn : null.head? ≠ some '~') (a : Char) (r : Str) (hdA : wcfg.dataSectionHeader = '~' :: a :: r) (ha : upperC a = 'A')
    (hcur : (toWLas o2).curves.length = n)
    (hwy : Fr.steerVal opts.hdr "WRAP" (RH.versionCopy v wcfg.wrap (toWLas o2)) = some Dt.yesTxt)
    -- runtime services
    (hsp : Cy.SpeltConf (rvNum env.py) v wcfg.wrap (toWLas o2))
    (nv : Str) (hnull : env.nullOf (Fr.steerVal opts.hdr "NULL" (Wr.standardizeItems (toWLas o2).well)) = some nv)
    (hrd : Cd.ReadOK env.ft env.val null nv) (hst : Cd.StrtodClose env.ft env.val c (rowsOf (afterHeader wcfg o2).data))
    (hcl : Rt.NoNullClash env.ft nv c (rowsOf (afterHeader wcfg o2).data))
    (hfree : Cd.IndexNaNFree (rowsOf (afterHeader wcfg o2).data)) :
    writeObj wcfg sd o = .ok (hl.1 ++ hdr :: body, afterHeader wcfg o2) ∧
    ∃ th o2r,
      readObjLines opts.hdr (Fr.fileDoc hl.1 hdr body) = .ok th ∧
      readObjFullLines env opts (Fr.fileDoc hl.1 hdr body) = .ok o2r ∧
      th.raw.sections = Cy.firstRead opts.hdr v wcfg.wrap (toWLas o2) ∧
      o2r = withData (headerObj env.py opts.hdr th) o2r.data o2r.indexInitial ∧
      rowsOf o2r.data = Cd.reRows env.ft env.val null nv c (rowsOf (afterHeader wcfg o2).data) ∧
      o2r.data.length = o2r.curves.length ∧ sameLengths o2r.data = true ∧
      o2r.indexInitial = o2r.index ∧ o2r.index = o2r.data.head? ∧
      (LinkOK env.py th → ∀ (sd' : Option F64) (u : Str) (a' b' c' : Nat),
        refreshDecision o2r = .ok false → Cr.UnitsAligned o2r u a' b' c' →
        nullText (afterHeader wcfg o2r) = .ok null →
        ∃ lines2 las2', Wr.headerLines v wcfg.wrap wcfg.headerWidth (toWLas o2r) = .ok (lines2, las2') ∧
          writeObj wcfg sd' o2r = .ok (lines2 ++ hdr :: body, afterHeader wcfg o2r) ∧
          Rd.readLines opts.hdr hl.1 =
            .ok ⟨Cy.firstRead opts.hdr v wcfg.wrap (toWLas o2), Fd.fileSteerD opts.hdr v wcfg.wrap (toWLas o2), []⟩ ∧
          Rd.readLines opts.hdr lines2 =
            .ok ⟨Cy.firstRead opts.hdr v wcfg.wrap (toWLas o2), Fd.fileSteerD opts.hdr v wcfg.wrap (toWLas o2), []⟩ ∧
          (afterHeader wcfg o2r).data = o2r.data ∧ (afterHeader wcfg o2r).indexInitial = o2r.indexInitial) := by
  have hfull := Fd.C01_file_dlm_wrapYes opts env.nullOf env.ft v wcfg.wrap wcfg.headerWidth (toWLas o2) hl.2 hl.1 h4 hc
    wd hn a r hdA ha hwy hcur
  have hst' : (opts.dat.nullPolicy == Dt.NullPolicy.strict) = true := by rw [hstrict]; rfl
  rw [hst', hnull] at hfull
  exact end_to_end_core env opts wcfg v hv hwr hmh (writeObj_of_steps hs1 h1 h2 h3 h4 h5 h6) h4 hc hx wd hcur hsp hrd hst hcl hfree hfull rfl

/-- **The whole WRAPPED text is a fixed point.** -/
theorem C11_cycle_text_fixed_point_wrapped (env : Env) (opts : Tf.Opts) (wcfg : WriteCfg) (v : String)
    (hv : wcfg.version = some v) (hwr : wcfg.wrap = some true) (hmh : wcfg.mnemonicsHeader = false)
    (hstrict : opts.dat.nullPolicy = .strict)
    {sd : Option F64} {o : WObj} {vsec : List OItem} {o2 : WObj} {hl : List Str × Wr.WLas} {null : Str} {hdr : Str} {body : List Str}
    (hs1 : (o.data.length != o.curves.length || !sameLengths o.data) = false)
    (h1 : setWrap wcfg o = .ok vsec) (h2 : resolveVersion wcfg o.versionTr vsec = .ok v) (h3 : prepare sd o = .ok o2)
    (h4 : Wr.headerLines v wcfg.wrap wcfg.headerWidth (toWLas o2) = .ok hl)
    (h5 : nullText (afterHeader wcfg o2) = .ok null)
    (h6 : Dw.dataLines (dataCfg wcfg) null ((afterHeader wcfg o2).curves.map (·.session)) (rowsOf (afterHeader wcfg o2).data)
      = some (hdr :: body))
    (hc : Fd.FileConfD opts.hdr v wcfg.wrap (toWLas o2)) (hx : Cy.CycleConf opts.hdr v wcfg.wrap (toWLas o2))
    {c : Dw.RowCfg} {n : Nat}
    (wd : Rt.Written (dataCfg wcfg) null ((afterHeader wcfg o2).curves.map (·.session)) (rowsOf (afterHeader wcfg o2).data) c n hdr body)
    (hn : null.head? ≠ some '~') (a : Char) (r : Str) (hdA : wcfg.dataSectionHeader = '~' :: a :: r) (ha : upperC a = 'A')
    (hcur : (toWLas o2).curves.length = n)
    (hwy : Fr.steerVal opts.hdr "WRAP" (RH.versionCopy v wcfg.wrap (toWLas o2)) = some Dt.yesTxt)
    (hsp : Cy.SpeltConf (rvNum env.py) v wcfg.wrap (toWLas o2))
    (nv : Str) (hnull : env.nullOf (Fr.steerVal opts.hdr "NULL" (Wr.standardizeItems (toWLas o2).well)) = some nv)
    (hrd : Cd.ReadOK env.ft env.val null nv) (hst : Cd.StrtodClose env.ft env.val c (rowsOf (afterHeader wcfg o2).data))
    (hcl : Rt.NoNullClash env.ft nv c (rowsOf (afterHeader wcfg o2).data))
    (hfree : Cd.IndexNaNFree (rowsOf (afterHeader wcfg o2).data))
    -- the three conditions of the TEXTUAL fixed point
    (hcase : Hc.CaseStable opts.hdr (Cy.writtenItems v wcfg.wrap (toWLas o2)))
    (hcase1 : Hc.CaseStable opts.hdr (Cy.writtenItems v wcfg.wrap
      (Cy.lasOfRead (rvNum env.py) opts.hdr (Cy.firstRead opts.hdr v wcfg.wrap (toWLas o2)))))
    (hoth : Hc.OtherStripped o2.other) :
    writeObj wcfg sd o = .ok (hl.1 ++ hdr :: body, afterHeader wcfg o2) ∧
    ∃ th o2r,
      readObjLines opts.hdr ((hl.1 ++ hdr :: body).map (· ++ Tf.nl)) = .ok th ∧
      readObjFullLines env opts ((hl.1 ++ hdr :: body).map (· ++ Tf.nl)) = .ok o2r ∧
      (LinkOK env.py th → ∀ (sd' : Option F64) (u : Str) (a' b' c' : Nat),
        refreshDecision o2r = .ok false → Cr.UnitsAligned o2r u a' b' c' →
        nullText (afterHeader wcfg o2r) = .ok null →
        writeObj wcfg sd' o2r = .ok (hl.1 ++ hdr :: body, afterHeader wcfg o2r)) :=
  text_fixed_of_partial
    (C11_cycle_end_to_end_wrapped_partial env opts wcfg v hv hwr hmh hstrict hs1 h1 h2 h3 h4 h5 h6 hc hx wd hn a r hdA ha hcur hwy hsp nv hnull
      hrd hst hcl hfree) h4 hc hx hsp hcase hcase1 hoth

/-- **Nothing changes any more**: the text `t1` of the first write is returned by every number of further read/write cycles.  The hypotheses on
the object read back (`LinkOK`, no refresh, units aligned, NULL text) are asked of WHATEVER `readObjLines` / `readObjFullLines` return for `t1`. -/
theorem C11_cycle_text_iterate_wrapped (env : Env) (opts : Tf.Opts) (wcfg : WriteCfg) (v : String)
    (hv : wcfg.version = some v) (hwr : wcfg.wrap = some true) (hmh : wcfg.mnemonicsHeader = false)
    (hstrict : opts.dat.nullPolicy = .strict)
    {sd : Option F64} {o : WObj} {vsec : List OItem} {o2 : WObj} {hl : List Str × Wr.WLas} {null : Str} {hdr : Str} {body : List Str}
    (hs1 : (o.data.length != o.curves.length || !sameLengths o.data) = false)
    (h1 : setWrap wcfg o = .ok vsec) (h2 : resolveVersion wcfg o.versionTr vsec = .ok v) (h3 : prepare sd o = .ok o2)
    (h4 : Wr.headerLines v wcfg.wrap wcfg.headerWidth (toWLas o2) = .ok hl)
    (h5 : nullText (afterHeader wcfg o2) = .ok null)
    (h6 : Dw.dataLines (dataCfg wcfg) null ((afterHeader wcfg o2).curves.map (·.session)) (rowsOf (afterHeader wcfg o2).data)
      = some (hdr :: body))
    (hc : Fd.FileConfD opts.hdr v wcfg.wrap (toWLas o2)) (hx : Cy.CycleConf opts.hdr v wcfg.wrap (toWLas o2))
    {c : Dw.RowCfg} {n : Nat}
    (wd : Rt.Written (dataCfg wcfg) null ((afterHeader wcfg o2).curves.map (·.session)) (rowsOf (afterHeader wcfg o2).data) c n hdr body)
    (hn : null.head? ≠ some '~') (a : Char) (r : Str) (hdA : wcfg.dataSectionHeader = '~' :: a :: r) (ha : upperC a = 'A')
    (hcur : (toWLas o2).curves.length = n)
    (hwy : Fr.steerVal opts.hdr "WRAP" (RH.versionCopy v wcfg.wrap (toWLas o2)) = some Dt.yesTxt)
    (hsp : Cy.SpeltConf (rvNum env.py) v wcfg.wrap (toWLas o2))
    (nv : Str) (hnull : env.nullOf (Fr.steerVal opts.hdr "NULL" (Wr.standardizeItems (toWLas o2).well)) = some nv)
    (hrd : Cd.ReadOK env.ft env.val null nv) (hst : Cd.StrtodClose env.ft env.val c (rowsOf (afterHeader wcfg o2).data))
    (hcl : Rt.NoNullClash env.ft nv c (rowsOf (afterHeader wcfg o2).data))
    (hfree : Cd.IndexNaNFree (rowsOf (afterHeader wcfg o2).data))
    (hcase : Hc.CaseStable opts.hdr (Cy.writtenItems v wcfg.wrap (toWLas o2)))
    (hcase1 : Hc.CaseStable opts.hdr (Cy.writtenItems v wcfg.wrap
      (Cy.lasOfRead (rvNum env.py) opts.hdr (Cy.firstRead opts.hdr v wcfg.wrap (toWLas o2)))))
    (hoth : Hc.OtherStripped o2.other)
    -- the object read back
    (hlink : ∀ th, readObjLines opts.hdr ((hl.1 ++ hdr :: body).map (· ++ Tf.nl)) = .ok th → LinkOK env.py th)
    (hback : ∀ o2r, readObjFullLines env opts ((hl.1 ++ hdr :: body).map (· ++ Tf.nl)) = .ok o2r →
      refreshDecision o2r = .ok false ∧ (∃ u a' b' c', Cr.UnitsAligned o2r u a' b' c') ∧ nullText (afterHeader wcfg o2r) = .ok null)
    (stepOf : WObj → Option F64) :
    writeObj wcfg sd o = .ok (hl.1 ++ hdr :: body, afterHeader wcfg o2) ∧
    ∀ k, cycleTextN env opts wcfg stepOf k (hl.1 ++ hdr :: body) = some (hl.1 ++ hdr :: body) :=
  iterate_of_fixed
    (C11_cycle_text_fixed_point_wrapped env opts wcfg v hv hwr hmh hstrict hs1 h1 h2 h3 h4 h5 h6 hc hx wd hn a r hdA ha hcur hwy hsp nv hnull
      hrd hst hcl hfree hcase hcase1 hoth) hlink hback stepOf

/-! ## a wrapped file, evaluated -/

/-- `wrap=True`, `data_width=24`: two fields per physical line -/
def wCfg : WriteCfg := ⟨some "2.0", some true, 20, Cr.rs "%.5f", [], none, [' '], [' '], 24, Cr.rs "~ASCII", false⟩
def wVersion : List OItem :=
  [mkOItem sVERS [] (.num (Cr.rf false 2 0) (Cr.rs "2.0")) (Cr.rs "CWLS log ASCII Standard -VERSION 2.0"),
   mkOItem sWRAP [] (.str (Cr.rs "YES")) (Cr.rs "Multiple lines per depth step"),
   mkOItem (Cr.rs "DLM") [] (.str (Cr.rs "SPACE")) (Cr.rs "Column Data Section Delimiter")]
def wCurves : List OItem :=
  [mkOItem (Cr.rs "DEPT") (Cr.rs "M") (.str []) (Cr.rs "depth"), mkOItem (Cr.rs "A") (Cr.rs "API") (.str []) (Cr.rs "a"),
   mkOItem (Cr.rs "B") (Cr.rs "API") (.str []) (Cr.rs "b"), mkOItem (Cr.rs "C") (Cr.rs "API") (.str []) (Cr.rs "c"),
   mkOItem (Cr.rs "D") (Cr.rs "API") (.str []) (Cr.rs "d")]
def wData : List (List F64) :=
  [[Cr.rf false 1 0, Cr.rf false 2 0], [Cr.rf false 3 0, Cr.rf false 1 (-1)], [.nan, Cr.rf false 2 0],
   [Cr.rf false 1 (-1), Cr.rf false 3 0], [Cr.rf false 2 0, .nan]]
/-- five curves, two depth steps, as `read()` builds it from a wrapped file (`mnemonic_case="upper"`) -/
def wObj : WObj :=
  ⟨wVersion, true, Cr.rWell (Cr.rNum 1 0 "1.0") (Cr.rNum 2 0 "2.0") (Cr.rNum 1 0 "1.0"), true, wCurves, [], [], wData,
   some [Cr.rf false 1 0, Cr.rf false 2 0]⟩
def wHdr : Str := Cr.rs "~ASCII -------------"
def wBody : List Str :=
  [Cr.rs "    1.00000    3.00000", Cr.rs "-999.25    0.50000", Cr.rs "2.00000",
   Cr.rs "    2.00000    0.50000", Cr.rs "2.00000    3.00000", Cr.rs "-999.25"]

/-- the wrapped file of `wObj` (24 lines, the last 7 of them the data section), written and read back once -/
theorem wFile : (cycleCheck exEnv exFOpts wCfg wObj).map (fun t => (t.length, t.drop 17)) = some (24, wHdr :: wBody) := by
  decide +kernel

/-- **write wrapped → read the whole file → write, evaluated**: every depth step spans THREE physical lines (`wBody`); the object read back is
`wObj` itself (header values, the 5 × 2 data, `index_initial`), and writing it gives the same 24 lines -/
theorem C11_wrapped_example :
    (match writeObj wCfg none wObj with
     | .ok (t1, _) =>
       match readObjFullLines exEnv exFOpts (t1.map (· ++ Tf.nl)) with
       | .ok o2r =>
         (match writeObj wCfg none o2r with
          | .ok (t2, _) => some (decide (t2 = t1), decide (o2r = wObj), decide (t1.drop 17 = wHdr :: wBody), t1.length)
          | .error _ => none)
       | .error _ => none
     | .error _ => none) = some (true, true, true, 24) := by
  obtain ⟨t, w, _, hw, hp, _, _, hfull⟩ := cycleCheck_sound wFile
  simp only [Prod.mk.injEq] at hp
  simp only [hw, hfull, hp.1, hp.2, eq_self, decide_true]

theorem C11_wrapped_iterate_example :
    (match writeObj wCfg none wObj with
     | .ok (t1, _) => some (decide (cycleTextN exEnv exFOpts wCfg (fun _ => none) 3 t1 = some t1))
     | .error _ => none) = some true := by
  obtain ⟨t, w, _, hw, _, _, _, hfull⟩ := cycleCheck_sound wFile
  simp only [hw, cycleTextN_fixed _ _ _ (fun _ => none) t (cycleText_of_read hfull hw) 3, decide_true]

/-- **the wrapping condition inside `h6`**: `textwrap.TextWrapper(width=0)` raises: `Dw.dataLines` answers `none` and `writeObj` is `unmodelled`.
(Every positive `data_width` is fine: see `C11_wrapped_narrow_example`.) -/
theorem C11_wrapped_width_zero :
    Dw.dataLines (dataCfg { wCfg with dataWidth := 0 }) (Cr.rs "-999.25") [] (rowsOf wData) = none ∧
    (match writeObj { wCfg with dataWidth := 0 } none wObj with | .error .unmodelled => true | _ => false) = true := by
  decide +kernel

/-- **a field wider than `data_width` stands alone on its line** (`break_long_words=False`): with `data_width = 5` every value is on a line of its
own (a depth step spans FIVE physical lines, 10 body lines in all); the cycle is a fixed point all the same -/
theorem C11_wrapped_narrow_example :
    (match writeObj { wCfg with dataWidth := 5 } none wObj with
     | .ok (t1, _) =>
       match readObjFullLines exEnv exFOpts (t1.map (· ++ Tf.nl)) with
       | .ok o2r =>
         (match writeObj { wCfg with dataWidth := 5 } none o2r with
          | .ok (t2, _) => some (decide (t2 = t1), decide (o2r = wObj), t1.length)
          | .error _ => none)
       | .error _ => none
     | .error _ => none) = some (true, true, 28) := by
  decide +kernel

/-- **`hwy` is what steers the read**: the same data lines under a header that says `WRAP NO` are read line by line (the numpy engine refuses
the ragged lines, the normal engine cuts after the FIRST line's 2 values): the object is not `wObj` -/
theorem C11_wrapped_needs_wrap_yes :
    (match writeObj wCfg none wObj with
     | .ok (t1, _) =>
       (match readObjFullLines exEnv exFOpts ((t1.map fun l => if l = Cr.rs "WRAP.   YES : Multiple lines per depth step"
            then Cr.rs "WRAP.    NO : Multiple lines per depth step" else l).map (· ++ Tf.nl)) with
        | .ok o2r => some (decide (o2r = wObj))
        | .error _ => some false)
     | .error _ => none) = some false := by
  decide +kernel

/-! ## non-vacuity: the wrapped theorems apply to `wObj` -/

def wLas : Wr.WLas := toWLas wObj
def wRows : List (List F64) :=
  [[Cr.rf false 1 0, Cr.rf false 3 0, .nan, Cr.rf false 1 (-1), Cr.rf false 2 0],
   [Cr.rf false 2 0, Cr.rf false 1 (-1), Cr.rf false 2 0, Cr.rf false 3 0, .nan]]

theorem wRows_eq : rowsOf (afterHeader wCfg wObj).data = wRows := by decide +kernel

theorem wConf (kind : SecName) (it : Wr.WItem) (h : it ∈ wLas.version ++ wLas.well ++ wLas.curves) : Wr.TextConf kind it :=
  Cy.textConf_of_forall _ (by decide +kernel) kind it h

theorem wFileConf : Fd.FileConfD Cr.rOpts "2.0" (some true) wLas :=
  Fd.fileConfD_of_check _ _ _ _ (by decide +kernel)
    ⟨(mkOItem sVERS [] (.num (Cr.rf false 2 0) (Cr.rs "2.0")) (Cr.rs "CWLS log ASCII Standard -VERSION 2.0")).toW, by decide +kernel⟩
    (show ∀ d ∈ Fr.steerVal Cr.rOpts "DLM" (RH.versionCopy "2.0" (some true) wLas), d = Cr.rs "SPACE" by decide +kernel)

theorem wCycleConf : Cy.CycleConf Cr.rOpts "2.0" (some true) wLas :=
  ⟨⟨Wr.wrapItem true, by decide +kernel⟩, by decide +kernel, by decide +kernel, by decide +kernel⟩

theorem wSpelt : Cy.SpeltConf (rvNum exPy) "2.0" (some true) wLas := by
  have : ∀ it ∈ Cy.writtenItems "2.0" (some true) wLas, (rvNum exPy it.value.text).text = it.value.text := by decide +kernel
  exact this

theorem wWritten : Rt.Written (dataCfg wCfg) (Cr.rs "-999.25") ((afterHeader wCfg wObj).curves.map (·.session))
    (rowsOf (afterHeader wCfg wObj).data) exRowCfg5 5 wHdr wBody :=
  ⟨rfl, exWritten.ok, exWritten.nullQuiet, by decide +kernel, by decide +kernel, by decide +kernel, by decide +kernel⟩

theorem wStrtod : Cd.StrtodClose exFt exVal exRowCfg5 wRows := Cd.strtodClose_of_check _ _ _ _ (by decide +kernel)

theorem wNoClash : Rt.NoNullClash exFt eHn exRowCfg5 wRows := Rt.noNullClash_of_check (by decide +kernel)

theorem wIndexFree : Cd.IndexNaNFree wRows := Cd.indexNaNFree_of_check _ (by decide +kernel)

theorem wUnits : Cr.UnitsAligned wObj (Cr.rs "M") 0 1 2 :=
  ⟨by decide +kernel, by decide +kernel, by decide +kernel,
   fun x hx => by cases hx; rfl, fun x hx => by cases hx; rfl, fun x hx => by cases hx; rfl, fun c0 hc => by cases hc; rfl⟩

theorem wNoRefresh : refreshDecision wObj = .ok false := by decide +kernel

/-- **non-vacuity of `C11_cycle_end_to_end_wrapped_partial`**: every hypothesis holds for `write(wrap=True, data_width=24)` on `wObj` -/
theorem wPartial (hl : List Str × Wr.WLas) (h4 : Wr.headerLines "2.0" (some true) 20 (toWLas wObj) = .ok hl) :
    EndToEnd exEnv exFOpts wCfg "2.0" none wObj wObj hl (Cr.rs "-999.25") wHdr wBody exRowCfg5 eHn :=
  C11_cycle_end_to_end_wrapped_partial exEnv exFOpts wCfg "2.0" rfl rfl rfl rfl
    (by decide +kernel) rfl (by decide +kernel) (Cr.prepare_noop none wObj _ 0 1 2 wNoRefresh wUnits) h4 (by decide +kernel) wWritten.lines
    wFileConf wCycleConf wWritten (by decide +kernel) 'A' (Cr.rs "SCII") rfl (by decide +kernel) rfl (by decide +kernel) wSpelt eHn
    (by decide +kernel) exReadOK
    (by rw [wRows_eq]; exact wStrtod) (by rw [wRows_eq]; exact wNoClash) (by rw [wRows_eq]; exact wIndexFree)

/-- whatever the typed reads return for the wrapped text written for `wObj`: `LinkOK` holds and the object IS `wObj` (evaluated) -/
theorem wKeyFull :
    (match Wr.headerLines "2.0" (some true) 20 (toWLas wObj) with
     | .ok (l, _) =>
       (match readObjLines Cr.rOpts ((l ++ wHdr :: wBody).map (· ++ Tf.nl)),
              readObjFullLines exEnv exFOpts ((l ++ wHdr :: wBody).map (· ++ Tf.nl)) with
        | .ok th, .ok o2r => some (linkOKB exPy th && decide (o2r = wObj))
        | _, _ => none)
     | .error _ => none) = some true := by
  obtain ⟨l, las', h4⟩ := Cy.headerLines_total "2.0" (some true) 20 (toWLas wObj) (Or.inr rfl) (fun h => nomatch h)
  obtain ⟨_, th, hth, hlink, hfull⟩ := cycleCheck_of_write wFile (wPartial (l, las') h4).1
  simp only [h4, show readObjLines Cr.rOpts _ = _ from hth, hfull, show linkOKB exPy th = true from hlink, eq_self, decide_true,
    Bool.and_self]

/-- **non-vacuity of `C11_cycle_text_iterate_wrapped`** (= `iterate_of_fixed` of `text_fixed_of_partial` of the wrapped partial theorem): its
hypotheses are those of the partial theorem (`wPartial`), the three of the textual fixed point and the two about the object read back (`wFile`);
the wrapped text is returned by every number of further cycles -/
example (hl : List Str × Wr.WLas) (h4 : Wr.headerLines "2.0" (some true) 20 (toWLas wObj) = .ok hl) :
    writeObj wCfg none wObj = .ok (hl.1 ++ wHdr :: wBody, afterHeader wCfg wObj) ∧
    ∀ k, cycleTextN exEnv exFOpts wCfg (fun _ => none) k (hl.1 ++ wHdr :: wBody) = some (hl.1 ++ wHdr :: wBody) := by
  obtain ⟨_, th, hth, hlink, hfull⟩ := cycleCheck_of_write wFile (wPartial hl h4).1
  exact iterate_of_fixed
    (text_fixed_of_partial (wPartial hl h4) h4 wFileConf wCycleConf wSpelt (by unfold Hc.CaseStable; decide +kernel)
      (by unfold Hc.CaseStable; decide +kernel) (by decide +kernel))
    (fun th' h => by rw [hth] at h; cases h; exact linkOKB_sound _ _ hlink)
    (fun o' h => by rw [hfull] at h; cases h; exact ⟨wNoRefresh, ⟨_, _, _, _, wUnits⟩, by decide +kernel⟩) (fun _ => none)

end Lasio.Ro

#print axioms Lasio.Ro.C11_cycle_end_to_end_wrapped_partial
#print axioms Lasio.Ro.C11_cycle_text_fixed_point_wrapped
#print axioms Lasio.Ro.C11_cycle_text_iterate_wrapped
#print axioms Lasio.Ro.C11_wrapped_example
#print axioms Lasio.Ro.C11_wrapped_iterate_example
#print axioms Lasio.Ro.C11_wrapped_width_zero
#print axioms Lasio.Ro.C11_wrapped_narrow_example
#print axioms Lasio.Ro.C11_wrapped_needs_wrap_yes
#print axioms Lasio.Ro.wFileConf
#print axioms Lasio.Ro.wWritten
#print axioms Lasio.Ro.wKeyFull
