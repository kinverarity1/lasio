import LasioProofs.Props.C15
/-
C15 (continued) — assigning a value through any key form leaves EVERY lookup of EVERY key unchanged:
`k' in s`, `s[k']`, `s.k'` and the key lists answer after `s[k] = v` exactly as before, for every section,
every pair of keys and both settings of `mnemonic_transforms`.
-/
namespace Lasio

theorem findFirst_modify_session (q : Str → Bool) (f : Item → Item) (hf : ∀ it, (f it).session = it.session)
    (l : List Item) (i : Nat) :
    findFirst (fun it => q it.session) (l.modify i f) = findFirst (fun it => q it.session) l := by
  induction l generalizing i with
  | nil => simp
  | cons a as ih =>
    cases i with
    | zero => simp [findFirst, hf]
    | succ n => simp [findFirst, ih]

theorem map_modify_same {β} (g : Item → β) (f : Item → Item) (hf : ∀ it, g (f it) = g it)
    (l : List Item) (i : Nat) : (l.modify i f).map g = l.map g := by
  induction l generalizing i with
  | nil => simp
  | cons a as ih =>
    cases i with
    | zero => simp [hf]
    | succ n => simp [ih]

/-- after `s[k] = v` (any key form) every lookup of every key answers as before: same position found, same
membership, same `s[k']` / `s.k'` result, same session and original key lists -/
theorem C15_set_value_lookups (s s' : Section) (k : Key) (v : Str) (h : s.setValue k v = .ok s') :
    (∀ k', s'.find k' = s.find k') ∧ (∀ k', s'.contains k' = s.contains k') ∧
    (∀ k', s'.getitem k' = s.getitem k') ∧ (∀ a, s'.getattr a = s.getattr a) ∧
    s'.keys = s.keys ∧ s'.origs = s.origs := by
  obtain ⟨i, _, hs'⟩ := (setValue_ok_iff s s' k v).mp h
  have hfind : ∀ k', s'.find k' = s.find k' := by
    intro k'
    rw [hs']
    unfold Section.find
    exact findFirst_modify_session (fun m => cmpKey s.tr m k') (fun it => { it with value := v }) (fun _ => rfl) s.items i
  have hget : ∀ k', s'.getitem k' = s.getitem k' := by
    intro k'; unfold Section.getitem; rw [hfind]; simp [hs']
  have hcont : ∀ k', s'.contains k' = s.contains k' := by
    intro k'; unfold Section.contains; rw [hfind]
  refine ⟨hfind, hcont, hget, ?_, ?_, ?_⟩
  · intro a; unfold Section.getattr; rw [hcont, hget]
  · rw [hs']; exact map_modify_same (·.session) (fun it => { it with value := v }) (fun _ => rfl) s.items i
  · rw [hs']; exact map_modify_same (·.orig) (fun it => { it with value := v }) (fun _ => rfl) s.items i

/-- non-vacuity: a value assignment through a lower-case key on a transforming section succeeds and keeps the lookups -/
example : ∃ s', exSec.setValue (.str ['a']) ['9'] = .ok s' ∧ s'.find (.str ['A']) = some 0 := by
  refine ⟨_, rfl, ?_⟩; decide

/-- `s.pop(i)` (used by `delete_curve(ix=...)`) and `del s[i]` are the same operation for every integer, in or out of range,
with the same error: an integer key never matches a session mnemonic -/
theorem C15_pop_eq_del_int (s : Section) (n : Int) : s.pop n = s.delitem (.int n) := by
  unfold Section.pop Section.delitem
  rw [(C15_int_as_list s n).2]
  cases hp : pyIndex s.items.length n <;> simp

/-- deleting removes exactly one entry from the key lists (session names and originals) at the addressed position and
keeps all the others in order -/
theorem C15_delete_keys (s s' : Section) (k : Key) (h : s.delitem k = .ok s') :
    ∃ i, s.getitem k = .ok i ∧ s'.keys = s.keys.eraseIdx i ∧ s'.origs = s.origs.eraseIdx i ∧
      s'.items.length + 1 = s.items.length := by
  obtain ⟨i, hg, hi, _, hitems⟩ := C15_delete_exact s s' k h
  refine ⟨i, hg, ?_, ?_, ?_⟩
  · unfold Section.keys; rw [hitems, List.eraseIdx_eq_take_drop_succ]; simp [List.map_take, List.map_drop]
  · unfold Section.origs; rw [hitems, List.eraseIdx_eq_take_drop_succ]; simp [List.map_take, List.map_drop]
  · rw [hitems]; simp; omega

example : exSec.pop (-1) = exSec.delitem (.int (-1)) ∧ (∃ s', exSec.pop (-1) = .ok s' ∧ s'.items.length = 1) := by
  refine ⟨C15_pop_eq_del_int _ _, _, rfl, by decide⟩

end Lasio

#print axioms Lasio.C15_set_value_lookups
#print axioms Lasio.C15_pop_eq_del_int
#print axioms Lasio.C15_delete_keys
