import LasioProofs.Lemmas.SectionFile
/-
C13 (file level) — duplicates and blanks survive a write -> read round trip and receive the same session names again.

NOTE on `TextConf`: blank mnemonics are NOT inside `TextConf` (`TextConf.mnem_ne` excludes the empty mnemonic, and `mnem_strip`
every other blank one), so `C03_file` says nothing about them.  The blank case is proved here from scratch
(Lemmas/SectionFile.lean: `C04_blank_all`, `readLine_formatItem_blank`, `section_read_back`, `ReadsBack.of_itemOK` for `file_read_of`);
the condition "no further period on the line" is `BlankConf.unit_nodot` and `BlankConf.rhs_nodot` (unit, and the field written
BEFORE the delimiter colon: the value in 2.0, the description in a 1.2 ~Well line); a period after the colon is harmless
(`C13_blank_period_after_colon`), one before it is not (`C13_counterexample_blank_period`).
-/
namespace Lasio.C13File
open Lasio Lasio.Wr Lasio.Cy Lasio.C11 Lasio.SF

/-- **Reader = SectionItems**: the session names the reader model computes are those `SectionItems.append` hands out, item
after item (`SF.toItem r = HeaderItem(r.orig, r.unit, r.value, r.descr)`), and the originals are untouched. -/
theorem C13_read_is_sectionItems (tr : Bool) (l : List Rd.RItem) :
    Rd.sessionNames tr l = ((l.map toItem).foldl Section.append ⟨[], tr⟩).keys ∧
    ((l.map toItem).foldl Section.append ⟨[], tr⟩).origs = l.map (·.orig) ∧
    ((l.map toItem).foldl Section.append ⟨[], tr⟩).tr = tr :=
  ⟨sessionNames_eq_rebuild tr l, sectionOfRead_origs tr l, sectionOfRead_tr tr l⟩

/-- the same through `Section.run` (the edit-sequence form of Props/C13.lean): reading a section is a run of appends -/
theorem C13_read_is_run (tr : Bool) (l : List Rd.RItem) :
    sectionOfRead tr l = Section.run ⟨[], tr⟩ (l.map fun r => Op.append r.orig r.unit r.value r.descr) := by
  unfold sectionOfRead rebuild Section.run
  rw [List.foldl_map, List.foldl_map]
  rfl

/-- the suffix invariant of C13 holds for every section obtained by reading -/
theorem C13_read_inv (tr : Bool) (l : List Rd.RItem) : Inv (sectionOfRead tr l) :=
  C11_suffix_inv tr _ (by
    intro it hit
    obtain ⟨r, _, rfl⟩ := List.mem_map.mp hit
    exact suffixForm_mkItem _ _ _ _)

/-- **numbering, position by position**: the item at position `i` with original mnemonic `r.orig` gets
`useful ++ ":" ++ k`, `k` = 1 + the number of EARLIER items of its group, exactly when its group (the items whose useful
mnemonic compares equal, `upper`-insensitively when `tr`) has more than one member; otherwise its useful mnemonic, untouched
(`UNKNOWN` for a blank one). -/
theorem C13_read_names (tr : Bool) (l : List Rd.RItem) (i : Nat) (r : Rd.RItem) (h : l[i]? = some r) :
    (Rd.sessionNames tr l)[i]? = some
      (if cnt tr (useful r.orig) (l.map fun x => useful x.orig) > 1 then
        useful r.orig ++ ':' :: natToStr (cnt tr (useful r.orig) ((l.take i).map fun x => useful x.orig) + 1)
      else useful r.orig) := by
  have e : (fun x : Rd.RItem => Rd.usefulMn x.orig) = fun x => useful x.orig := by
    funext x; exact (useful_eq _).symm
  simp only [Rd.sessionNames, sessionGo_getElem?, List.getElem?_map, h, Option.map_some, List.nil_append, e,
    List.map_take]

theorem C13_read_blank_unknown (tr : Bool) (l : List Rd.RItem) (i : Nat) (r : Rd.RItem) (h : l[i]? = some r)
    (hb : strip r.orig = []) :
    ∃ name, (Rd.sessionNames tr l)[i]? = some name ∧
      (name = "UNKNOWN".toList ∨ ∃ k, 1 ≤ k ∧ name = "UNKNOWN".toList ++ ':' :: natToStr k) := by
  have hu : useful r.orig = "UNKNOWN".toList := by simp [useful, hb]
  rw [C13_read_names tr l i r h, hu]
  split
  · exact ⟨_, rfl, Or.inr ⟨_, by omega, rfl⟩⟩
  · exact ⟨_, rfl, Or.inl rfl⟩

/-- `NoSuffixClash` of a section obtained by reading is a condition on the original mnemonics that were read -/
theorem C13_read_noSuffixClash_iff (tr : Bool) (l : List Rd.RItem) :
    NoSuffixClash (sectionOfRead tr l) ↔
      ∀ a ∈ l, ∀ b ∈ l, ∀ k, ckey tr (useful a.orig) ≠ ckey tr (useful b.orig) ++ ':' :: natToStr k := by
  have h1 : ∀ s : Section, NoSuffixClash s ↔
      ∀ oa ∈ s.origs, ∀ ob ∈ s.origs, ∀ k, ckey s.tr (useful oa) ≠ ckey s.tr (useful ob) ++ ':' :: natToStr k := by
    intro s
    simp only [NoSuffixClash, Section.origs, List.forall_mem_map]
  rw [h1, sectionOfRead_origs, sectionOfRead_tr]
  simp only [List.forall_mem_map]

/-- **pairwise distinct** session names for every section obtained by reading whose original mnemonics do not clash -/
theorem C13_read_distinct (tr : Bool) (l : List Rd.RItem)
    (hc : ∀ a ∈ l, ∀ b ∈ l, ∀ k, ckey tr (useful a.orig) ≠ ckey tr (useful b.orig) ++ ':' :: natToStr k) :
    Distinct (sectionOfRead tr l) ∧ (Rd.sessionNames tr l).Pairwise (fun a b => Rd.mcmp tr a b = false) := by
  have hd : Distinct (sectionOfRead tr l) :=
    C13_distinct _ (C13_read_inv tr l) ((C13_read_noSuffixClash_iff tr l).mpr hc)
  refine ⟨hd, ?_⟩
  rw [← sectionOfRead_keys, Section.keys, List.pairwise_map]
  have := hd
  unfold Distinct at this
  rw [sectionOfRead_tr] at this
  exact this

/-- a colon-free useful mnemonic cannot clash -/
theorem noClash_of_no_colon (tr : Bool) (l : List Rd.RItem) (h : ∀ a ∈ l, ':' ∉ ckey tr (useful a.orig)) :
    ∀ a ∈ l, ∀ b ∈ l, ∀ k, ckey tr (useful a.orig) ≠ ckey tr (useful b.orig) ++ ':' :: natToStr k := by
  intro a ha b _ k heq
  apply h a ha
  rw [heq]
  simp

theorem find_zip_first {β} (q : Str → Bool) : ∀ (ks : List Str) (l : List β) (i : Nat) (k : Str) (r : β),
    ks[i]? = some k → l[i]? = some r → q k = true → (∀ j k', j < i → ks[j]? = some k' → q k' = false) →
    ((ks.zip l).find? (fun p => q p.1)).map (·.2) = some r := by
  intro ks
  induction ks with
  | nil => intro l i k r h; simp at h
  | cons k0 ks ih =>
    intro l i k r hk hr hq hbefore
    cases l with
    | nil => simp at hr
    | cons r0 l =>
      cases i with
      | zero =>
        simp only [List.getElem?_cons_zero, Option.some.injEq] at hk hr
        subst hk hr
        simp [hq]
      | succ i =>
        simp only [List.getElem?_cons_succ] at hk hr
        have h0 : q k0 = false := hbefore 0 k0 (by omega) (by simp)
        simp only [List.zip_cons_cons, List.find?_cons, h0]
        exact ih l i k r hk hr hq (fun j k' hj hk' => hbefore (j + 1) k' (by omega) (by simpa using hk'))

/-- **resolution**: in a section obtained by reading whose session names are pairwise distinct, the session name at position `i`
resolves to position `i` — by `section[name]` / `name in section` of the `Section` model, and by the reader model's own lookup
`Rd.lookupItem` (the steering code's `section.NAME`), which returns exactly the item read at position `i`. -/
theorem C13_read_resolve (tr : Bool) (l : List Rd.RItem) (hd : Distinct (sectionOfRead tr l))
    (i : Nat) (r : Rd.RItem) (name : Str) (hi : l[i]? = some r) (hn : (Rd.sessionNames tr l)[i]? = some name) :
    (sectionOfRead tr l).getitem (.str name) = .ok i ∧ (sectionOfRead tr l).contains (.str name) = true ∧
    Rd.lookupItem tr l name = some r := by
  have hkeys := sectionOfRead_keys tr l
  -- the item of the Section model at position i
  have hlen : i < (sectionOfRead tr l).items.length := by
    have h1 : i < (Rd.sessionNames tr l).length := (List.getElem?_eq_some_iff.mp hn).1
    rw [← hkeys, Section.keys, List.length_map] at h1
    exact h1
  have hit : (sectionOfRead tr l).items[i]? = some (sectionOfRead tr l).items[i] := List.getElem?_eq_getElem hlen
  have hsess : (sectionOfRead tr l).items[i].session = name := by
    have : (sectionOfRead tr l).keys[i]? = some name := by rw [hkeys]; exact hn
    simpa [Section.keys, List.getElem?_map, hit] using this
  obtain ⟨h1, h2⟩ := C13_resolve _ hd i _ hit
  rw [hsess] at h1 h2
  refine ⟨h1, h2, ?_⟩
  -- the reader's lookup
  have hpw : (Rd.sessionNames tr l).Pairwise (fun a b => Rd.mcmp tr a b = false) := by
    rw [← hkeys, Section.keys, List.pairwise_map]
    have := hd
    unfold Distinct at this
    rw [sectionOfRead_tr] at this
    exact this
  unfold Rd.lookupItem
  apply find_zip_first (fun k => Rd.mcmp tr k name) _ _ i name r hn hi (mcmp_refl tr name)
  intro j k' hj hk'
  obtain ⟨hjl, hjk⟩ := List.getElem?_eq_some_iff.mp hk'
  obtain ⟨hil, hik⟩ := List.getElem?_eq_some_iff.mp hn
  have := List.pairwise_iff_getElem.mp hpw j i hjl hil hj
  rw [hjk, hik] at this
  exact this

/-- **C13 at file level.**  `las` is an object whose written header satisfies `FileConfB` (the hypotheses of `C03_file`, blank
mnemonics allowed on lines without a further period before the colon, + no DLM item in ~Version, which `readLines` needs); `lines` is the header
`write` emits for it (any header width).  Then the whole-file reader reads it (`hd`), and in each of the four item sections
(`kind`; `W` = the items `write` formatted, `R` = the items the reader stored, `las2` = the LASFile `read` builds from them, `rv` any
re-typing of the value texts):
 (a) the ORIGINAL mnemonics come back in the same order, under the case map of the read option, duplicates and blanks included —
     in the stored items and in the `SectionItems` object built from them;
 (b) the session names are `namesOf tr (those originals)`: the names a section gets when it is built by appends from them — in the
     reader model (`Rd.sessionNames`), in the `Section` model (`sectionOfRead`), and on the items of `las2`;
 (c) they are pairwise distinct, and each one resolves to exactly its own item (`Section.getitem`, `Section.contains`,
     `Rd.lookupItem`). -/
theorem C13_file_roundtrip (o : Rd.ReadOpts) (rv : Str → WVal) (version : String) (wrap : Option Bool) (w : Nat)
    (las las' : WLas) (lines : List Str) (h : headerLines version wrap w las = .ok (lines, las'))
    (hc : FileConfB o version wrap las) :
    ∃ hd, Rd.readLines o lines = .ok hd ∧ hd.sections = firstRead o version wrap las ∧
      ∀ kind, kind ≠ .other →
        -- (a)
        (rereadItems o version wrap las kind).map (·.orig) =
          (writtenOf version wrap las kind).map (fun it => caseMap (RH.cvtCase o.mnemonicCase) it.orig) ∧
        (sectionOfRead (o.mnemonicCase != .preserve) (rereadItems o version wrap las kind)).origs =
          (writtenOf version wrap las kind).map (fun it => caseMap (RH.cvtCase o.mnemonicCase) it.orig) ∧
        (itemsOf (lasOfRead rv o hd.sections) kind).map (·.orig) =
          (writtenOf version wrap las kind).map (fun it => caseMap (RH.cvtCase o.mnemonicCase) it.orig) ∧
        -- (b)
        Rd.sessionNames (o.mnemonicCase != .preserve) (rereadItems o version wrap las kind) =
          namesOf (o.mnemonicCase != .preserve)
            ((writtenOf version wrap las kind).map (fun it => caseMap (RH.cvtCase o.mnemonicCase) it.orig)) ∧
        (sectionOfRead (o.mnemonicCase != .preserve) (rereadItems o version wrap las kind)).keys =
          namesOf (o.mnemonicCase != .preserve)
            ((writtenOf version wrap las kind).map (fun it => caseMap (RH.cvtCase o.mnemonicCase) it.orig)) ∧
        (itemsOf (lasOfRead rv o hd.sections) kind).map (·.session) =
          namesOf (o.mnemonicCase != .preserve)
            ((writtenOf version wrap las kind).map (fun it => caseMap (RH.cvtCase o.mnemonicCase) it.orig)) ∧
        -- (c)
        Distinct (sectionOfRead (o.mnemonicCase != .preserve) (rereadItems o version wrap las kind)) ∧
        (Rd.sessionNames (o.mnemonicCase != .preserve) (rereadItems o version wrap las kind)).Pairwise
          (fun a b => Rd.mcmp (o.mnemonicCase != .preserve) a b = false) ∧
        ∀ i r name, (rereadItems o version wrap las kind)[i]? = some r →
          (Rd.sessionNames (o.mnemonicCase != .preserve) (rereadItems o version wrap las kind))[i]? = some name →
          (sectionOfRead (o.mnemonicCase != .preserve) (rereadItems o version wrap las kind)).getitem (.str name) = .ok i ∧
          (sectionOfRead (o.mnemonicCase != .preserve) (rereadItems o version wrap las kind)).contains (.str name) = true ∧
          Rd.lookupItem (o.mnemonicCase != .preserve) (rereadItems o version wrap las kind) name = some r := by
  obtain ⟨steer, hr, _⟩ := read_written_B o version wrap w las las' lines h hc
  refine ⟨_, hr, rfl, ?_⟩
  intro kind hk
  have hR := rereadItems_eq o version wrap las kind hk
  have horig : (rereadItems o version wrap las kind).map (·.orig) =
      (writtenOf version wrap las kind).map (fun it => caseMap (RH.cvtCase o.mnemonicCase) it.orig) := by
    rw [hR, List.map_map]; rfl
  have hnames := sessionNames_eq_namesOf (o.mnemonicCase != .preserve) (rereadItems o version wrap las kind)
  rw [horig] at hnames
  have hclash := noClash_of_no_colon (o.mnemonicCase != .preserve) (rereadItems o version wrap las kind) (by
    intro a ha
    rw [hR] at ha
    obtain ⟨it, hit, rfl⟩ := List.mem_map.mp ha
    exact useful_nocolon _ (RH.cvtCase o.mnemonicCase) version kind it (fileConfB_items hc kind it hit))
  obtain ⟨hd1, hd2⟩ := C13_read_distinct _ _ hclash
  refine ⟨horig, ?_, ?_, hnames, ?_, ?_, hd1, hd2, ?_⟩
  · rw [sectionOfRead_origs, horig]
  · simp only []
    rw [itemsOf_lasOfRead rv o version wrap las kind hk, itemsOfRead_origs, horig]
  · rw [sectionOfRead_keys, hnames]
  · simp only []
    rw [itemsOf_lasOfRead rv o version wrap las kind hk, itemsOfRead_sessions, hnames]
  · intro i r name hi hn
    exact C13_read_resolve _ _ hd1 i r name hi hn

/-- **"… and receive the same session names again".**  When the case map of the read option leaves the written originals alone
(`mnemonic_case="preserve"`, or an object that was itself read with the same `mnemonic_case`: `caseMap_idem`) and the written
section was built by appends from its originals under the same `mnemonic_transforms` (`BuiltByAppends`: true of every section
`read` built, `builtByAppends_read`), the re-read original mnemonics and session names are literally the written section's. -/
theorem C13_file_same_names (o : Rd.ReadOpts) (version : String) (wrap : Option Bool)
    (las : WLas) (kind : SecName) (hk : kind ≠ .other)
    (hfix : ∀ it ∈ writtenOf version wrap las kind, caseMap (RH.cvtCase o.mnemonicCase) it.orig = it.orig)
    (hb : BuiltByAppends (o.mnemonicCase != .preserve) (writtenOf version wrap las kind)) :
    (rereadItems o version wrap las kind).map (·.orig) = (writtenOf version wrap las kind).map (·.orig) ∧
    Rd.sessionNames (o.mnemonicCase != .preserve) (rereadItems o version wrap las kind) =
      (writtenOf version wrap las kind).map (·.session) := by
  have horig : (rereadItems o version wrap las kind).map (·.orig) = (writtenOf version wrap las kind).map (·.orig) := by
    rw [rereadItems_eq o version wrap las kind hk, List.map_map]
    apply List.map_congr_left
    intro it hit
    exact hfix it hit
  refine ⟨horig, ?_⟩
  rw [sessionNames_eq_namesOf, horig]
  exact hb.symm

/-- the same for ~Well, ~Curves, ~Parameter in terms of the object's OWN items (what `write` formats there differs from them
in the standardised values only) -/
theorem C13_file_same_names_object (o : Rd.ReadOpts) (version : String) (wrap : Option Bool)
    (las : WLas) (kind : SecName) (hk : kind ≠ .other) (hkv : kind ≠ .version)
    (hfix : ∀ it ∈ itemsOf las kind, caseMap (RH.cvtCase o.mnemonicCase) it.orig = it.orig)
    (hb : BuiltByAppends (o.mnemonicCase != .preserve) (itemsOf las kind)) :
    (rereadItems o version wrap las kind).map (·.orig) = (itemsOf las kind).map (·.orig) ∧
    Rd.sessionNames (o.mnemonicCase != .preserve) (rereadItems o version wrap las kind) =
      (itemsOf las kind).map (·.session) := by
  obtain ⟨e1, e2⟩ := writtenOf_names version wrap las kind hkv
  have hfix' : ∀ o' ∈ (writtenOf version wrap las kind).map (·.orig), caseMap (RH.cvtCase o.mnemonicCase) o' = o' := by
    rw [e1]
    intro o' ho'
    obtain ⟨it, hit, rfl⟩ := List.mem_map.mp ho'
    exact hfix it hit
  have := C13_file_same_names o version wrap las kind hk
    (fun it hit => hfix' it.orig (List.mem_map.mpr ⟨it, hit, rfl⟩))
    (by unfold BuiltByAppends at hb ⊢; rw [e1, e2]; exact hb)
  rw [e1, e2] at this
  exact this

/-- **`mnemonic_case="preserve"`**: the original mnemonics come back literally equal, the session names are the names of a
section built by appends from them, and — for a section that was built that way (without `mnemonic_transforms`) — the
section's own session names. -/
theorem C13_file_roundtrip_preserve (o : Rd.ReadOpts) (hp : o.mnemonicCase = .preserve) (version : String)
    (wrap : Option Bool) (w : Nat) (las las' : WLas) (lines : List Str)
    (h : headerLines version wrap w las = .ok (lines, las')) (hc : FileConfB o version wrap las) :
    ∃ hd, Rd.readLines o lines = .ok hd ∧ hd.sections = firstRead o version wrap las ∧
      ∀ kind, kind ≠ .other →
        (rereadItems o version wrap las kind).map (·.orig) = (writtenOf version wrap las kind).map (·.orig) ∧
        Rd.sessionNames false (rereadItems o version wrap las kind) =
          namesOf false ((writtenOf version wrap las kind).map (·.orig)) ∧
        (BuiltByAppends false (writtenOf version wrap las kind) →
          Rd.sessionNames false (rereadItems o version wrap las kind) = (writtenOf version wrap las kind).map (·.session)) := by
  obtain ⟨hd, hr, hs, hall⟩ := C13_file_roundtrip o WVal.str version wrap w las las' lines h hc
  refine ⟨hd, hr, hs, ?_⟩
  intro kind hk
  obtain ⟨ha, _, _, hb, _⟩ := hall kind hk
  have htr : (o.mnemonicCase != Rd.MCase.preserve) = false := by rw [hp]; rfl
  have hcm : ∀ x : Str, caseMap (RH.cvtCase o.mnemonicCase) x = x := by
    intro x; rw [hp]; rfl
  simp only [htr, hcm] at ha hb
  refine ⟨ha, hb, ?_⟩
  intro hbuilt
  rw [hb]
  exact hbuilt.symm

/-- every section of a LASFile that `read` built satisfies the two hypotheses of `C13_file_same_names_object` for a re-read with
the same `mnemonic_case`: it is built by appends from its originals, and — the reader having applied the case map to every
mnemonic it parsed — the case map leaves its originals alone -/
theorem C13_read_object_hyps (rv : Str → WVal) (o : Rd.ReadOpts) (secs : List (Rd.RKey × Rd.SecVal)) (kind : SecName)
    (hk : kind ≠ .other)
    (hcase : ∀ r ∈ secItems (RH.keyOf kind) secs, ∃ m, r.orig = caseMap (RH.cvtCase o.mnemonicCase) m) :
    BuiltByAppends (o.mnemonicCase != .preserve) (itemsOf (lasOfRead rv o secs) kind) ∧
    ∀ it ∈ itemsOf (lasOfRead rv o secs) kind, caseMap (RH.cvtCase o.mnemonicCase) it.orig = it.orig := by
  have e : itemsOf (lasOfRead rv o secs) kind =
      itemsOfRead rv (o.mnemonicCase != .preserve) (secItems (RH.keyOf kind) secs) := by
    cases kind with
    | other => exact absurd rfl hk
    | version => rfl
    | well => rfl
    | curves => rfl
    | parameter => rfl
  rw [e]
  refine ⟨builtByAppends_read _ _ _, ?_⟩
  intro it hit
  obtain ⟨s, r, hr, rfl⟩ := mem_itemsOfRead rv _ _ it hit
  obtain ⟨m, hm⟩ := hcase r hr
  show caseMap _ r.orig = r.orig
  rw [hm, Cy.caseMap_idem]

def cxVers : WItem := mkWItem "VERS".toList [] (.num "2.0".toList false) "old".toList
def optsP : Rd.ReadOpts := ⟨false, .preserve⟩
def optsU : Rd.ReadOpts := ⟨false, .upper⟩
/-- a ~Parameter item with unit `M`, description `d` -/
def pItem (orig session value : String) : WItem := ⟨orig.toList, session.toList, "M".toList, .str value.toList, "d".toList⟩
/-- a LASFile header with a minimal ~Version section and the given ~Parameter items -/
def lasP (tr : Bool) (params : List WItem) : WLas := ⟨[cxVers, wrapItem false], tr, [], [], params, []⟩

/-- what comes back in ~Parameter: original mnemonics and session names (`none` = `write` or `read` raises) -/
def paramsBack (o : Rd.ReadOpts) (version : String) (las : WLas) : Option (List Str × List Str) :=
  (reread o version (some false) 20 las).map fun s =>
    ((secItems Rd.kParameter s).map (·.orig), Rd.sessionNames (o.mnemonicCase != .preserve) (secItems Rd.kParameter s))

theorem conf_pItem (kind : SecName) (a s v : String)
    (h1 : a.toList ≠ []) (h2 : strip a.toList = a.toList) (h3 : ∀ c ∈ a.toList, c ≠ '.' ∧ c ≠ ':')
    (h4 : strip v.toList = v.toList) (h5 : ∀ c ∈ v.toList, c ≠ ':') (h6 : ¬ hasDotDot v.toList) :
    TextConf kind (pItem a s v) :=
  ⟨h1, h2, h3, (by decide : ∀ c ∈ "M".toList, isPySpace c = false), (by decide : ¬ hasDotDot "M".toList),
    Or.inr (by decide : ¬ allDigits "M".toList), (by decide : isBracketed "M".toList = false),
    (by decide : "M".toList.head? ≠ some '.'), (by decide : "M".toList.getLast? ≠ some '.'), h4, h5, fun _ => h6,
    (by decide : strip "d".toList = "d".toList), (by decide : ∀ c ∈ "d".toList, c ≠ ':')⟩

/-- `ItemOK` of a `pItem` with a non-blank mnemonic, from one closed condition on its mnemonic and value -/
theorem itemOK_pItem (a s v : String)
    (h : (a.toList ≠ [] ∧ strip a.toList = a.toList ∧ ∀ c ∈ a.toList, c ≠ '.' ∧ c ≠ ':') ∧
      (strip v.toList = v.toList ∧ (∀ c ∈ v.toList, c ≠ ':') ∧ ¬ hasDotDot v.toList) ∧
      a.toList.head? ≠ some '#' ∧ a.toList.head? ≠ some '~') :
    ItemOK "2.0" .parameter (pItem a s v) :=
  Or.inl ⟨conf_pItem _ a s v h.1.1 h.1.2.1 h.1.2.2 h.2.1.1 h.2.1.2.1 h.2.1.2.2, h.2.2⟩

/-- what `lasP tr params` satisfies whatever its ~Parameter items are: the ~Version section `write` emits is conformant, its
VERS item is found by the reader, and it holds no DLM item -/
theorem lasP_version (o : Rd.ReadOpts) (tr : Bool) (params : List WItem) :
    (∀ it ∈ RH.versionCopy "2.0" (some false) (lasP tr params), ItemOK "2.0" .version it) ∧
    VersOK o "2.0" (RH.versionCopy "2.0" (some false) (lasP tr params)) ∧
    ∀ it ∈ RH.versionCopy "2.0" (some false) (lasP tr params), upper it.orig ≠ "DLM".toList := by
  have hvc : ∀ it ∈ (lasP tr params).version, TextConf .version it := by
    intro it hit
    have : it = cxVers ∨ it = wrapItem false := by simpa [lasP] using hit
    rcases this with rfl | rfl
    · decide +kernel
    · exact conf_wrapItem false
  have hvm : ∀ it ∈ (lasP tr params).version, it.orig.head? ≠ some '#' ∧ it.orig.head? ≠ some '~' := by
    intro it hit
    have : it = cxVers ∨ it = wrapItem false := by simpa [lasP] using hit
    rcases this with rfl | rfl <;> decide
  obtain ⟨hcv, hmv⟩ := C03_versionCopy_conf "2.0" (some false) (lasP tr params) hvc hvm
  have hcopy : RH.versionCopy "2.0" (some false) (lasP tr params) =
      [mkWItem "VERS".toList [] (.num "2.0".toList false) "CWLS log ASCII Standard -VERSION 2.0".toList,
       wrapItem false] := by
    cases tr <;> rfl
  refine ⟨fun it hit => Or.inl ⟨hcv it hit, hmv it hit⟩, ?_, ?_⟩
  · -- the reader's test depends on `mnemonic_case` only: VERS passes it, WRAP does not
    have hv : Cy.inGroup o "VERS".toList
        (mkWItem "VERS".toList [] (.num "2.0".toList false) "CWLS log ASCII Standard -VERSION 2.0".toList) = true := by
      unfold Cy.inGroup
      generalize o.mnemonicCase = c
      cases c <;> decide +kernel
    have hw : ¬ Cy.inGroup o "VERS".toList (wrapItem false) = true := by
      unfold Cy.inGroup
      generalize o.mnemonicCase = c
      cases c <;> decide +kernel
    rw [versOK_iff, hcopy, List.filter_cons_of_pos hv, List.filter_cons_of_neg hw]
    exact ⟨_, rfl, rfl⟩
  · rw [hcopy]
    decide +kernel

/-- the hypotheses of the round trip for `lasP tr params`, from `ItemOK` of the ~Parameter items -/
theorem fileConfB_lasP (o : Rd.ReadOpts) (tr : Bool) (params : List WItem)
    (hop : ∀ it ∈ standardizeItems params, ItemOK "2.0" .parameter it) : FileConfB o "2.0" (some false) (lasP tr params) :=
  ⟨(lasP_version o tr params).1, fun _ hit => (nomatch hit), fun _ hit => (nomatch hit), hop,
    (lasP_version o tr params).2.1, fun _ hl => (nomatch hl), (lasP_version o tr params).2.2⟩

/-- the ~Parameter items written and read back as a section: original mnemonics and session names (`none` = the section
writer raises, the reader raises, or a written line would be taken for a section title) -/
def paramsRead (o : Rd.ReadOpts) (params : List WItem) : Option (List Str × List Str) :=
  match writeSection "2.0" "Parameter" (standardizeItems params) with
  | .error _ => none
  | .ok lp =>
    if lp.all (fun b => !Rd.isTitle b) then
      (readSection "2.0" .parameter (RH.cvtCase o.mnemonicCase) lp).map fun ip =>
        ((ip.map RH.toRd).map (·.orig), Rd.sessionNames (o.mnemonicCase != .preserve) (ip.map RH.toRd))
    else none

/-- in the file written for `lasP tr params` and read back, ~Parameter holds what its own lines read back as: the other
sections are fixed and conformant (`file_read_of`).  The test vectors below run `paramsRead`. -/
theorem paramsBack_lasP (o : Rd.ReadOpts) (tr : Bool) (params : List WItem) (r : List Str × List Str)
    (h : paramsRead o params = some r) : paramsBack o "2.0" (lasP tr params) = some r := by
  unfold paramsRead at h
  cases hw : writeSection "2.0" "Parameter" (standardizeItems params) with
  | error e => rw [hw] at h; cases h
  | ok lp =>
    rw [hw] at h
    simp only [] at h
    split at h
    · rename_i hall
      cases hr : readSection "2.0" .parameter (RH.cvtCase o.mnemonicCase) lp with
      | none => rw [hr] at h; cases h
      | some ip =>
        rw [hr, Option.map_some, Option.some.injEq] at h
        obtain ⟨lines, las', hl⟩ := headerLines_total "2.0" (some false) 20 (lasP tr params) (Or.inr rfl)
          (fun h => nomatch h)
        obtain ⟨_, _, _, _, hrl⟩ := file_read_of o "2.0" (some false) 20 _ las' lines hl _ _ _ ip
          (.of_itemOK (by decide) (lasP_version o tr params).1) (.of_itemOK (by decide) fun _ hit => nomatch hit)
          (.of_itemOK (by decide) fun _ hit => nomatch hit)
          (fun lp' hw' => by
            cases hw.symm.trans hw'
            exact ⟨fun b hb => by simpa using List.all_eq_true.mp hall b hb, hr⟩)
          (lasP_version o tr params).2.1.lookup (fun _ hl => nomatch hl)
        simp only [map_expected_toRd] at hrl
        obtain ⟨steer, hrd, _⟩ := hrl fun d hd => by
          rw [lookup_dlm_written o _ (lasP_version o tr params).2.2] at hd
          cases hd
        unfold paramsBack reread
        rw [hl]
        simp only []
        rw [hrd, ← h]
        rfl
    · cases h

/-- **`BuiltByAppends` is needed** (the object's session names are history dependent, the re-read ones are not): appending
`A`, `A`, `B` and deleting `A:1` leaves the session names `A:2`, `B` over the originals `A`, `B`; the written section re-reads with
the originals `A`, `B` and the session names `A`, `B`.  Every other hypothesis holds. -/
theorem C13_counterexample_stale_suffix :
    let sec := Section.run ⟨[], false⟩
      [.append "A".toList [] [] [], .append "A".toList [] [] [], .append "B".toList [] [] [], .del (.str "A:1".toList)]
    let las := lasP false [pItem "A" "A:2" "1", pItem "B" "B" "2"]
    sec.keys = ["A:2".toList, "B".toList] ∧ sec.origs = ["A".toList, "B".toList] ∧
    (itemsOf las .parameter).map (·.session) = sec.keys ∧ (itemsOf las .parameter).map (·.orig) = sec.origs ∧
    FileConfB optsP "2.0" (some false) las ∧
    ¬ BuiltByAppends false (itemsOf las .parameter) ∧
    namesOf false ["A".toList, "B".toList] = ["A".toList, "B".toList] ∧
    paramsBack optsP "2.0" las = some (["A".toList, "B".toList], ["A".toList, "B".toList]) := by
  refine ⟨by decide, by decide, by decide, by decide, ?_, by unfold BuiltByAppends; decide, by decide,
    paramsBack_lasP _ _ _ _ (by decide +kernel)⟩
  apply fileConfB_lasP
  intro it hit
  have : it = pItem "A" "A:2" "1" ∨ it = pItem "B" "B" "2" := by
    simpa [standardizeItems, pItem, standardizeValue, WVal.str] using hit
  rcases this with rfl | rfl <;> exact itemOK_pItem _ _ _ (by decide +kernel)

/-- **`NoSuffixClash` is needed at the reader level** (`C13_read_distinct`): a section holding the originals `X:1`, `X`, `X`
gets the session names `X:1`, `X:1`, `X:2`; the name `X:1` resolves to the first item, the second is unreachable by name.  (At file
level the clash cannot arise from a conformant object — `TextConf.mnem_chars` excludes the colon — so `C13_file_roundtrip` has
no such hypothesis.) -/
theorem C13_counterexample_read_clash :
    let l : List Rd.RItem := [⟨"X:1".toList, [], "a".toList, []⟩, ⟨"X".toList, [], "b".toList, []⟩, ⟨"X".toList, [], "c".toList, []⟩]
    Rd.sessionNames false l = ["X:1".toList, "X:1".toList, "X:2".toList] ∧
    (Rd.lookupItem false l "X:1".toList).map (·.value) = some "a".toList ∧
    ¬ Distinct (sectionOfRead false l) := by
  refine ⟨by decide, by decide, ?_⟩
  intro hd
  have := (C13_read_resolve false _ hd 1 ⟨"X".toList, [], "b".toList, []⟩ "X:1".toList (by decide) (by decide)).2.2
  revert this
  decide

/-- **`BlankConf.rhs_nodot` is needed**: a blank mnemonic on a line with a further period BEFORE the colon (the value `1.5`)
comes back as the mnemonic `M 1` with unit `5` (the known finding `blank-mnemonic-period`) … -/
theorem C13_counterexample_blank_period :
    paramsBack optsU "2.0" (lasP true [⟨[], "UNKNOWN".toList, "M".toList, .str "1.5".toList, "d".toList⟩]) =
      some (["M 1".toList], ["M 1".toList]) := by
  exact paramsBack_lasP _ _ _ _ (by decide +kernel)

/-- … while a period AFTER the colon is harmless (description `a.b c..d`) -/
theorem C13_blank_period_after_colon :
    paramsBack optsU "2.0" (lasP true [⟨[], "UNKNOWN".toList, "M".toList, .str "x".toList, "a.b c..d".toList⟩]) =
      some ([[]], ["UNKNOWN".toList]) := by
  exact paramsBack_lasP _ _ _ _ (by decide +kernel)

/-- **a blank mnemonic that is not the empty string is altered by the round trip**: the original `"  "` comes back as `""`
(still blank, session name `UNKNOWN` again): `BlankConf.mnem_nil` cannot be weakened to "blank" in clause (a) -/
theorem C13_counterexample_whitespace_mnemonic :
    paramsBack optsU "2.0" (lasP true [⟨"  ".toList, "UNKNOWN".toList, "M".toList, .str "x".toList, "d".toList⟩]) =
      some ([[]], ["UNKNOWN".toList]) := by
  exact paramsBack_lasP _ _ _ _ (by decide +kernel)

/-- **the same `mnemonic_transforms` is needed**: a section built WITH transforms from `A`, `a` has the session names `A:1`, `a:2`;
re-read with `mnemonic_case="preserve"` (comparison without transforms) the names are `A`, `a` -/
theorem C13_counterexample_transforms_change :
    let las := lasP true [pItem "A" "A:1" "1", pItem "a" "a:2" "2"]
    BuiltByAppends true (itemsOf las .parameter) ∧
    paramsBack optsP "2.0" las = some (["A".toList, "a".toList], ["A".toList, "a".toList]) ∧
    paramsBack optsU "2.0" las = some (["A".toList, "A".toList], ["A:1".toList, "A:2".toList]) := by
  refine ⟨by unfold BuiltByAppends; decide +kernel, paramsBack_lasP _ _ _ _ (by decide +kernel),
    paramsBack_lasP _ _ _ _ (by decide +kernel)⟩

/-- ~Parameter holding the originals `A`, ``, `A`, ``, `B` (built by appends, with transforms) -/
def exParams : List WItem :=
  [pItem "A" "A:1" "1", pItem "" "UNKNOWN:1" "x", pItem "A" "A:2" "2", pItem "" "UNKNOWN:2" "y", pItem "B" "B" "3"]

theorem exParams_ok : ∀ it ∈ standardizeItems exParams, ItemOK "2.0" .parameter it := by
  intro it hit
  have : it = pItem "A" "A:1" "1" ∨ it = pItem "" "UNKNOWN:1" "x" ∨ it = pItem "A" "A:2" "2" ∨
      it = pItem "" "UNKNOWN:2" "y" ∨ it = pItem "B" "B" "3" := by
    simpa [exParams, standardizeItems, pItem, standardizeValue, WVal.str] using hit
  have hb : ∀ s v : String, strip v.toList = v.toList → (∀ c ∈ v.toList, c ≠ ':') → (∀ c ∈ v.toList, c ≠ '.') →
      ItemOK "2.0" .parameter (pItem "" s v) := by
    intro s v h1 h2 h3
    exact Or.inr ⟨.valueDescr, C03_order_v20 .parameter (by decide) _,
      ⟨rfl, (by decide : ∀ c ∈ "M".toList, isPySpace c = false), (by decide : ∀ c ∈ "M".toList, c ≠ '.'),
        Or.inr (by decide : ¬ allDigits "M".toList), (by decide : isBracketed "M".toList = false), h1, h2,
        (by decide : strip "d".toList = "d".toList), (by decide : ∀ c ∈ "d".toList, c ≠ ':'), h3⟩⟩
  rcases this with rfl | rfl | rfl | rfl | rfl
  · exact itemOK_pItem _ _ _ (by decide +kernel)
  · exact hb _ _ (by decide) (by decide) (by decide)
  · exact itemOK_pItem _ _ _ (by decide +kernel)
  · exact hb _ _ (by decide) (by decide) (by decide)
  · exact itemOK_pItem _ _ _ (by decide +kernel)

/-- **Non-vacuity.**  The object `lasP true exParams` — originals `A`, ``, `A`, ``, `B` in ~Parameter, session names
`A:1`, `UNKNOWN:1`, `A:2`, `UNKNOWN:2`, `B` — satisfies every hypothesis; by the theorems its header, read with the default
`mnemonic_case="upper"`, gives back the same originals and the same session names, pairwise distinct; the same result for the whole-file writer and
reader (`paramsBack`) by running the section writer and reader on the ~Parameter items (`paramsBack_lasP`); and with
`mnemonic_case="preserve"` as well. -/
example :
    (itemsOf (lasP true exParams) .parameter).map (·.session) =
      ["A:1".toList, "UNKNOWN:1".toList, "A:2".toList, "UNKNOWN:2".toList, "B".toList] ∧
    (itemsOf (lasP true exParams) .parameter).map (·.orig) = ["A".toList, [], "A".toList, [], "B".toList] ∧
    FileConfB optsU "2.0" (some false) (lasP true exParams) ∧
    BuiltByAppends true (itemsOf (lasP true exParams) .parameter) ∧
    -- by the theorems
    (rereadItems optsU "2.0" (some false) (lasP true exParams) .parameter).map (·.orig) =
      ["A".toList, [], "A".toList, [], "B".toList] ∧
    Rd.sessionNames true (rereadItems optsU "2.0" (some false) (lasP true exParams) .parameter) =
      ["A:1".toList, "UNKNOWN:1".toList, "A:2".toList, "UNKNOWN:2".toList, "B".toList] ∧
    Distinct (sectionOfRead true (rereadItems optsU "2.0" (some false) (lasP true exParams) .parameter)) ∧
    -- by running the models
    paramsBack optsU "2.0" (lasP true exParams) = some (["A".toList, [], "A".toList, [], "B".toList],
      ["A:1".toList, "UNKNOWN:1".toList, "A:2".toList, "UNKNOWN:2".toList, "B".toList]) ∧
    paramsBack optsP "2.0" (lasP true exParams) = some (["A".toList, [], "A".toList, [], "B".toList],
      ["A:1".toList, "UNKNOWN:1".toList, "A:2".toList, "UNKNOWN:2".toList, "B".toList]) := by
  have hc : FileConfB optsU "2.0" (some false) (lasP true exParams) := fileConfB_lasP optsU true exParams exParams_ok
  have hb : BuiltByAppends true (itemsOf (lasP true exParams) .parameter) := by unfold BuiltByAppends; decide +kernel
  obtain ⟨lines, las', hl⟩ := headerLines_total "2.0" (some false) 20 (lasP true exParams) (Or.inr rfl) (fun h => nomatch h)
  obtain ⟨_, _, _, hall⟩ := C13_file_roundtrip optsU WVal.str "2.0" (some false) 20 _ las' lines hl hc
  obtain ⟨_, _, _, _, _, _, hd, _, _⟩ := hall .parameter (by decide)
  obtain ⟨h1, h2⟩ := C13_file_same_names_object optsU "2.0" (some false) (lasP true exParams) .parameter (by decide)
    (by decide) (by decide) hb
  exact ⟨by decide +kernel, by decide +kernel, hc, hb, h1, h2, hd, paramsBack_lasP _ _ _ _ (by decide +kernel),
    paramsBack_lasP _ _ _ _ (by decide +kernel)⟩

#print axioms C13_read_is_sectionItems
#print axioms C13_read_is_run
#print axioms C13_read_inv
#print axioms C13_read_names
#print axioms C13_read_blank_unknown
#print axioms C13_read_noSuffixClash_iff
#print axioms C13_read_distinct
#print axioms C13_read_resolve
#print axioms C13_file_roundtrip
#print axioms C13_file_same_names
#print axioms C13_file_same_names_object
#print axioms C13_file_roundtrip_preserve
#print axioms C13_read_object_hyps
#print axioms fileConfB_lasP
#print axioms C13_counterexample_stale_suffix
#print axioms C13_counterexample_read_clash
#print axioms C13_counterexample_blank_period
#print axioms C13_blank_period_after_colon
#print axioms C13_counterexample_whitespace_mnemonic
#print axioms C13_counterexample_transforms_change
#print axioms exParams_ok
#print axioms Lasio.SF.sessionNames_eq_rebuild
#print axioms Lasio.C04_blank_all
#print axioms Lasio.Wr.section_read_back
#print axioms Lasio.Wr.file_read_of

end Lasio.C13File
