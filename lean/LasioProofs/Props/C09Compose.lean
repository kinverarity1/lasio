import LasioProofs.Lemmas.ComposeAll
/-
C09, COMPOSITION including the delimiter transformations.

`Props/C09.lean` proves `C09_step` / `C09_compose` for the side condition `OK` (which excludes `repadLine` on TAB / COMMA data and
`.redelim`).  Here:

1  `OK'` (Lemmas/ComposeAll.lean) = `OK`, or `repadLine k dlm seps` on numeric cells for ANY delimiter (`RepadOK`: line `k` is a data
   line of a data section whose body is `NumBody`, `SepsOK`, the float-table conditions, normal engine in effect or `dlm ≠ COMMA`).
   `C09_step'`, `C09_compose'`, `C09_compose_readModel'`: the conclusions of `C09_step` / `C09_compose` for `OK'`.
2  `ParsedUpToDlm` (an equivalence: `C09_parsedUpToDlm_equiv`): the same sections but for the DLM items of the "Version" item list,
   the same curves of every data section.  `C09_redelim_step`: a `.redelim` step under `RedelimOK` (the document hypotheses of
   `C09_redelim_file_replace` / `_insert`) keeps `Base`, changes `steer` in `dlm` only, and the parsed result up to the DLM item.
   `C09_compose_all`: ANY finite list mixing the old transformations, TAB/COMMA `repadLine` and `.redelim` steps, each side
   condition holding for the document and the steering values reached (`ChainAll`): the final document is readable, its parsed
   result is `ParsedUpToDlm` the base's, its steering delimiter is the one of the last `.redelim`.
   `C09_compose_all_no_redelim`: without `.redelim` the chain condition is `Chain'` and `C09_compose'` gives equality.
3  a concrete chain: insBlank, crlf, repadLine on COMMA data, redelim COMMA→TAB.
-/
namespace Lasio.Tf
open Lasio Lasio.Dt

/-! ## 1. `OK'`: single step and composition -/

/-- SINGLE STEP for the extended side condition: the conclusion of `C09_step` -/
theorem C09_step' (o : Opts) (nullOf : Option Str → Option Str) (ft : FloatTable) (htf : TildeNotFloat ft)
    (t : Transform) (d : Doc) (r : FullRead) (hb : Base o nullOf ft d r)
    (hok : OK' o.dat ft (dtSteer nullOf r.steer) (declaredCount r.sections) t d) :
    ∃ r', Base o nullOf ft (t.apply d) r' ∧ r'.steer = r.steer ∧ r'.parsed = r.parsed := by
  rcases hok with hok | hok
  · exact C09_step o nullOf ft htf t d r hb hok
  · cases t with
    | repadLine k dlm seps =>
      obtain ⟨pre, s₁, s₂, tt, body, j, c, rfl, hpre, hw, rfl, hk, hj, hdata, hdlm, heng, hnb, hs, hS, hS', hC⟩ := hok
      exact C09_repad_delimited_file o nullOf ft htf pre s₁ s₂ tt body j dlm seps c r hpre hw hk hj hdata hb hdlm heng hnb hs hS hS' hC
    | _ => exact absurd hok (by simp [NumOK])

theorem C09_step_readModel' (o : Opts) (nullOf : Option Str → Option Str) (ft : FloatTable) (htf : TildeNotFloat ft)
    (t : Transform) (d : Doc) (r : FullRead) (hb : Base o nullOf ft d r)
    (hok : OK' o.dat ft (dtSteer nullOf r.steer) (declaredCount r.sections) t d) :
    readModel o nullOf ft (t.apply d) = readModel o nullOf ft d := by
  obtain ⟨r', hb', _, hp⟩ := C09_step' o nullOf ft htf t d r hb hok
  exact (hb'.readModel.trans (congrArg _ hp)).trans hb.readModel.symm

/-- COMPOSITION for the extended side condition: any finite list of transformations (no `.redelim`) whose side conditions `OK'`
hold along the way leaves the steering values and the parsed result of a readable document unchanged -/
theorem C09_compose' (o : Opts) (nullOf : Option Str → Option Str) (ft : FloatTable) (htf : TildeNotFloat ft)
    (ts : List Transform) (d : Doc) (r : FullRead) (hb : Base o nullOf ft d r)
    (hc : Chain' o.dat ft (dtSteer nullOf r.steer) (declaredCount r.sections) ts d) :
    ∃ r', Base o nullOf ft (applyAll ts d) r' ∧ r'.steer = r.steer ∧ r'.parsed = r.parsed := by
  induction ts generalizing d r with
  | nil => exact ⟨r, hb, rfl, rfl⟩
  | cons t ts ih =>
    obtain ⟨hok, hrest⟩ := hc
    obtain ⟨r1, hb1, hs1, hp1⟩ := C09_step' o nullOf ft htf t d r hb hok
    have hsec : r1.sections = r.sections := congrArg Parsed.sections hp1
    rw [← hs1, ← hsec] at hrest
    obtain ⟨r2, hb2, hs2, hp2⟩ := ih (t.apply d) r1 hb1 hrest
    exact ⟨r2, hb2, hs2.trans hs1, hp2.trans hp1⟩

theorem C09_compose_readModel' (o : Opts) (nullOf : Option Str → Option Str) (ft : FloatTable) (htf : TildeNotFloat ft)
    (ts : List Transform) (d : Doc) (r : FullRead) (hb : Base o nullOf ft d r)
    (hc : Chain' o.dat ft (dtSteer nullOf r.steer) (declaredCount r.sections) ts d) :
    readModel o nullOf ft (applyAll ts d) = readModel o nullOf ft d := by
  obtain ⟨r', hb', _, hp⟩ := C09_compose' o nullOf ft htf ts d r hb hc
  exact (hb'.readModel.trans (congrArg _ hp)).trans hb.readModel.symm

/-- the chains of `C09_compose` are chains of `C09_compose'` -/
theorem C09_chain'_of_chain (o : DataOpts) (ft : FloatTable) (st : Steer) (dc : Nat) (ts : List Transform) (d : Doc)
    (h : Chain st dc ts d) : Chain' o ft st dc ts d := by
  induction ts generalizing d with
  | nil => trivial
  | cons t ts ih => exact ⟨Or.inl h.1, ih _ h.2⟩

/-! ## 2. `.redelim` steps: equal up to the DLM item -/

/-- `ParsedUpToDlm` is an equivalence relation -/
theorem C09_parsedUpToDlm_equiv (o : Rd.ReadOpts) :
    (∀ p, ParsedUpToDlm o p p) ∧ (∀ p p', ParsedUpToDlm o p p' → ParsedUpToDlm o p' p) ∧
    (∀ p p' p'', ParsedUpToDlm o p p' → ParsedUpToDlm o p' p'' → ParsedUpToDlm o p p'') :=
  ⟨parsedUpToDlm_refl o, fun _ _ => parsedUpToDlm_symm o, fun _ _ _ => parsedUpToDlm_trans o⟩

theorem isDlmLine_item (o : Rd.ReadOpts) (x : Str) (h : isDlmLine o x = true) :
    ∀ it ∈ Rd.lineItem o vParser x, isDlmItem o it = true :=
  fun _ hit => (isDlmLine_eq hit).symm.trans h

/-- ONE `.redelim` STEP. A readable document and a `.redelim` whose side condition `RedelimOK` holds for its steering values: the
transformed document is readable (again a `Base`), `steer` is changed in `dlm` only, the parsed result is the same up to the DLM
item. -/
theorem C09_redelim_step (o : Opts) (nullOf : Option Str → Option Str) (ft : FloatTable) (htf : TildeNotFloat ft)
    (first last vk : Nat) (replace : Bool) (frm to : Dlm) (seps : List Str) (d : Doc) (r : FullRead) (hb : Base o nullOf ft d r)
    (hok : RedelimOK o ft (dtSteer nullOf r.steer) (declaredCount r.sections) first last vk replace frm to seps d) :
    ∃ r', Base o nullOf ft ((Transform.redelim first last vk replace frm to seps).apply d) r' ∧
      r'.steer = { r.steer with dlm := some (dlmName to) } ∧ ParsedUpToDlm o.hdr r.parsed r'.parsed := by
  obtain ⟨pre, tV, l₁, l₂, ox, M, s₂, t, body, c, rfl, hrep, rfl, rfl, rfl, hpre, hw, hV, hterm, hM, hk, hx, huniq, hfrm, hnb, hs,
    hS, hS', hC, hag⟩ := hok
  cases ox with
  | none =>
    simp only [Option.isSome_none] at hrep
    subst hrep
    simp only [Option.toList_none, List.append_nil] at hw hb ⊢
    obtain ⟨r', h1, h2, h3, _, _, h6⟩ := C09_redelim_file_insert o nullOf ft htf pre tV l₁ l₂ M s₂ t body frm to c seps r hpre hw hV
      (hterm rfl) hM hk huniq hb hfrm hnb hs hS hS' hC hag
    refine ⟨r', h1, h2, ?_, h6.symm⟩
    have := itemsUpToDlm_dlm o.hdr (Rd.bodyItems o.hdr vParser l₁) (Rd.bodyItems o.hdr vParser l₂) none
      (dlmItem o.hdr.mnemonicCase to) (by intro it hit; cases hit) (dlmItem_isDlm o.hdr to)
    simp only [Option.toList_none, List.append_nil] at this
    exact secsUpToDlm_of_jrel o.hdr _ _ this h3
  | some x =>
    simp only [Option.isSome_some] at hrep
    subst hrep
    simp only [Option.toList_some, List.append_assoc, List.singleton_append] at hw hb ⊢
    obtain ⟨r', h1, h2, h3, _, _, h6⟩ := C09_redelim_file_replace o nullOf ft htf pre tV l₁ l₂ x M s₂ t body frm to c seps r hpre hw hV
      hM hk (hx x rfl) huniq hb hfrm hnb hs hS hS' hC hag
    refine ⟨r', h1, h2, ?_, h6.symm⟩
    exact secsUpToDlm_of_jrel o.hdr _ _
      (itemsUpToDlm_dlm o.hdr _ _ (Rd.lineItem o.hdr vParser x) _ (isDlmLine_item o.hdr x (hx x rfl)) (dlmItem_isDlm o.hdr to)) h3

/-- ONE STEP of a mixed list: `Base` is kept, the parsed result is kept up to the DLM item, the steering values are those
`nextSteer` predicts, the number of declared curves is unchanged -/
theorem C09_step_all (o : Opts) (nullOf : Option Str → Option Str) (ft : FloatTable) (htf : TildeNotFloat ft)
    (t : Transform) (d : Doc) (r : FullRead) (hb : Base o nullOf ft d r)
    (hok : StepOK o ft (dtSteer nullOf r.steer) (declaredCount r.sections) t d) :
    ∃ r', Base o nullOf ft (t.apply d) r' ∧ ParsedUpToDlm o.hdr r.parsed r'.parsed ∧
      dtSteer nullOf r'.steer = nextSteer (dtSteer nullOf r.steer) t ∧ declaredCount r'.sections = declaredCount r.sections := by
  cases hrd : isRedelim t with
  | false =>
    rw [stepOK_of_not_redelim o ft _ _ t d hrd] at hok
    obtain ⟨r', h1, h2, h3⟩ := C09_step' o nullOf ft htf t d r hb hok
    have hsec : r'.sections = r.sections := congrArg Parsed.sections h3
    exact ⟨r', h1, parsedUpToDlm_of_eq o.hdr h3, by rw [nextSteer_of_not_redelim _ t hrd, h2], by rw [hsec]⟩
  | true =>
    cases t with
    | redelim first last vk replace frm to seps =>
      obtain ⟨r', h1, h2, h3⟩ := C09_redelim_step o nullOf ft htf first last vk replace frm to seps d r hb hok
      refine ⟨r', h1, h3, ?_, secsUpToDlm_declaredCount o.hdr h3.1⟩
      rw [h2]
      simp only [dtSteer, nextSteer, withDlm, dlmOf_dlmName]
    | _ => simp [isRedelim] at hrd

/-- **COMPOSITION, all transformations.** Any finite list of transformations — the presentation-only ones of `C09_compose`,
`repadLine` on TAB / COMMA data with numeric cells, and `.redelim` steps — each side condition holding for the document and the
steering values reached: the final document is readable (a `Base`), its parsed result equals the base's up to the DLM item
(header sections, ~Other text, the curves of every data section), its steering values are those of the base with the delimiter
of the last `.redelim`, and the number of declared curves is unchanged. -/
theorem C09_compose_all (o : Opts) (nullOf : Option Str → Option Str) (ft : FloatTable) (htf : TildeNotFloat ft)
    (ts : List Transform) (d : Doc) (r : FullRead) (hb : Base o nullOf ft d r)
    (hc : ChainAll o ft (dtSteer nullOf r.steer) (declaredCount r.sections) ts d) :
    ∃ r', Base o nullOf ft (applyAll ts d) r' ∧ ParsedUpToDlm o.hdr r.parsed r'.parsed ∧
      dtSteer nullOf r'.steer = finalSteer (dtSteer nullOf r.steer) ts ∧ declaredCount r'.sections = declaredCount r.sections := by
  induction ts generalizing d r with
  | nil => exact ⟨r, hb, parsedUpToDlm_refl o.hdr _, rfl, rfl⟩
  | cons t ts ih =>
    obtain ⟨hok, hrest⟩ := hc
    obtain ⟨r1, hb1, hp1, hs1, hd1⟩ := C09_step_all o nullOf ft htf t d r hb hok
    rw [← hs1, ← hd1] at hrest
    obtain ⟨r2, hb2, hp2, hs2, hd2⟩ := ih (t.apply d) r1 hb1 hrest
    refine ⟨r2, hb2, parsedUpToDlm_trans o.hdr hp1 hp2, ?_, hd2.trans hd1⟩
    rw [hs2, hs1]
    rfl

/-- … in terms of `readModel`: both documents are readable and the parsed results are equal up to the DLM item -/
theorem C09_compose_all_readModel (o : Opts) (nullOf : Option Str → Option Str) (ft : FloatTable) (htf : TildeNotFloat ft)
    (ts : List Transform) (d : Doc) (r : FullRead) (hb : Base o nullOf ft d r)
    (hc : ChainAll o ft (dtSteer nullOf r.steer) (declaredCount r.sections) ts d) :
    ∃ p', readModel o nullOf ft (applyAll ts d) = .ok p' ∧ readModel o nullOf ft d = .ok r.parsed ∧
      ParsedUpToDlm o.hdr r.parsed p' ∧ p'.data = r.parsed.data := by
  obtain ⟨r', hb', hp, _, _⟩ := C09_compose_all o nullOf ft htf ts d r hb hc
  exact ⟨r'.parsed, hb'.readModel, hb.readModel, hp, hp.2.symm⟩

/-- WITHOUT `.redelim` the mixed chain condition is `Chain'`, and `C09_compose'` gives equality of the steering values and of the
parsed result (so `C09_compose_all` specialises to `C09_compose'`, and — `C09_chain'_of_chain` — to `C09_compose`) -/
theorem C09_compose_all_no_redelim (o : Opts) (nullOf : Option Str → Option Str) (ft : FloatTable) (htf : TildeNotFloat ft)
    (ts : List Transform) (hno : ∀ t ∈ ts, isRedelim t = false) (d : Doc) (r : FullRead) (hb : Base o nullOf ft d r)
    (hc : ChainAll o ft (dtSteer nullOf r.steer) (declaredCount r.sections) ts d) :
    ∃ r', Base o nullOf ft (applyAll ts d) r' ∧ r'.steer = r.steer ∧ r'.parsed = r.parsed :=
  C09_compose' o nullOf ft htf ts d r hb ((chainAll_iff_chain' o ft _ _ ts d hno).mp hc)

/-- the curves themselves: after any admissible mixed list the curves of every data section are those of the base -/
theorem C09_compose_all_curves (o : Opts) (nullOf : Option Str → Option Str) (ft : FloatTable) (htf : TildeNotFloat ft)
    (ts : List Transform) (d : Doc) (r : FullRead) (hb : Base o nullOf ft d r)
    (hc : ChainAll o ft (dtSteer nullOf r.steer) (declaredCount r.sections) ts d) :
    ∃ r', readFull o nullOf ft (applyAll ts d) = .ok r' ∧
      r'.data.map (fun x => x.res.map Prod.snd) = r.data.map (fun x => x.res.map Prod.snd) := by
  obtain ⟨r', hb', hp, _, _⟩ := C09_compose_all o nullOf ft htf ts d r hb hc
  exact ⟨r', hb'.read, hp.2.symm⟩


/-! ## 3. non-vacuity: a mixed chain -/

def cmDoc : Doc := [c09r "~V\n", c09r "VERS. 2.0 : v\n", c09r "WRAP. NO : w\n", c09r "DLM. COMMA : d\n", c09r "~C\n", c09r "A.M : a\n",
  c09r "B.M : b\n", c09r "C.M : c\n", c09r "~A\n", c09r "1.5 , -2,3e5\n", c09r "# 2018-05-22 - note\n", c09r "4,5 ,6\n"]

/-- a blank line before the last data row, CRLF line ends, new separators in the first (COMMA-delimited) data row, and the whole
data section re-delimited with TABs (the DLM item, line 3, replaced) -/
def cmTs : List Transform :=
  [.insBlank 11 (c09r " "), .crlf, .repadLine 9 .comma [c09r " ,"], .redelim 8 12 3 true .comma .tab rdExSeps]

def cmD1 : Doc := (Transform.insBlank 11 (c09r " ")).apply cmDoc
def cmD2 : Doc := Transform.crlf.apply cmD1
def cmD3 : Doc := (Transform.repadLine 9 .comma [c09r " ,"]).apply cmD2

def cmRead : FullRead :=
  match readFull rdExOpts (fun _ => none) rdExFt cmDoc with
  | .ok r => r
  | .error _ => ⟨[], Rd.Steer.init, []⟩

theorem cmRead_eval :
    (readFull rdExOpts (fun _ => none) rdExFt cmDoc).isOk = true ∧ dtSteer (fun _ => none) cmRead.steer = rdStComma ∧
    declaredCount cmRead.sections = 3 ∧
    cmRead.data.map (fun x => x.res.map Prod.snd) =
      [.ok [(.declared 0, .floats [c09r "v1", c09r "v4"]), (.declared 1, .floats [c09r "v2", c09r "v5"]),
        (.declared 2, .floats [c09r "v3", c09r "v6"])]] := by
  decide +kernel

/-- the base document is readable: COMMA declared, three curves declared, normal engine -/
theorem C09_compose_example_base :
    Base rdExOpts (fun _ => none) rdExFt cmDoc cmRead ∧ dtSteer (fun _ => none) cmRead.steer = rdStComma ∧
    declaredCount cmRead.sections = 3 :=
  ⟨base_of_normal (Except.eq_ok_of_isOk cmRead_eval.1 (fun r hr => by unfold cmRead; rw [hr])) rfl, cmRead_eval.2.1, cmRead_eval.2.2.1⟩

def cmSecV : Str × List Str := (c09r "~V\r\n", [c09r "VERS. 2.0 : v\r\n", c09r "WRAP. NO : w\r\n", c09r "DLM. COMMA : d\r\n"])
def cmSecC : Str × List Str := (c09r "~C\r\n", [c09r "A.M : a\r\n", c09r "B.M : b\r\n", c09r "C.M : c\r\n"])
def cmBody2 : List Str := [c09r "1.5 , -2,3e5\r\n", c09r "# 2018-05-22 - note\r\n", c09r " \r\n", c09r "4,5 ,6\r\n"]
def cmBody3 : List Str := [c09r "1.5 ,-2,3e5\r\n", c09r "# 2018-05-22 - note\r\n", c09r " \r\n", c09r "4,5 ,6\r\n"]

/-- the four side conditions hold along the way (all by evaluation) -/
theorem C09_compose_example_chain : ChainAll rdExOpts rdExFt rdStComma 3 cmTs cmDoc := by
  show OK' _ _ rdStComma 3 (.insBlank 11 (c09r " ")) cmDoc ∧ OK' _ _ rdStComma 3 .crlf cmD1 ∧
    OK' _ _ rdStComma 3 (.repadLine 9 .comma [c09r " ,"]) cmD2 ∧
    RedelimOK rdExOpts rdExFt rdStComma 3 8 12 3 true .comma .tab rdExSeps cmD3 ∧ True
  refine ⟨Or.inl ?_, Or.inl ?_, Or.inr ?_, ?_, trivial⟩
  · show Insertable (ctxAt .pre cmDoc 11); decide +kernel
  · show ∀ l ∈ cmD1, NoInnerNl l; decide +kernel
  · show RepadOK _ _ _ 9 .comma _ cmD2
    refine ⟨[], [cmSecV, cmSecC], [], c09r "~A\r\n", cmBody2, 0, 3, ?_⟩
    decide +kernel
  · refine ⟨[], c09r "~V\r\n", [c09r "VERS. 2.0 : v\r\n", c09r "WRAP. NO : w\r\n"], [], some (c09r "DLM. COMMA : d\r\n"), [cmSecC], [],
      c09r "~A\r\n", cmBody3, 3, ?_⟩
    simp only [agreeAlone_of_normal rdExOpts.dat _ 3 rdExFt _ (effectiveEngine_of_normal _ _ rfl), and_true]
    decide +kernel

/-- … hence (instance of `C09_compose_all`) the transformed text — given explicitly — is readable, declares TAB, and has the same
curves (computed here: three float curves) and, up to the DLM item, the same header sections -/
theorem C09_compose_example :
    applyAll cmTs cmDoc =
      [c09r "~V\r\n", c09r "VERS. 2.0 : v\r\n", c09r "WRAP. NO : w\r\n", c09r "DLM. TAB : delimiter\r\n", c09r "~C\r\n",
        c09r "A.M : a\r\n", c09r "B.M : b\r\n", c09r "C.M : c\r\n", c09r "~A\r\n", c09r "1.5 \t-2\t\t3e5\r\n",
        c09r "# 2018-05-22 - note\r\n", c09r " \r\n", c09r "4 \t5\t\t6\r\n"] ∧
    (∃ r', Base rdExOpts (fun _ => none) rdExFt (applyAll cmTs cmDoc) r' ∧ ParsedUpToDlm rdExOpts.hdr cmRead.parsed r'.parsed ∧
      dtSteer (fun _ => none) r'.steer = withDlm rdStComma .tab ∧
      r'.data.map (fun x => x.res.map Prod.snd) = cmRead.data.map (fun x => x.res.map Prod.snd)) ∧
    cmRead.data.map (fun x => x.res.map Prod.snd) =
      [.ok [(.declared 0, .floats [c09r "v1", c09r "v4"]), (.declared 1, .floats [c09r "v2", c09r "v5"]),
        (.declared 2, .floats [c09r "v3", c09r "v6"])]] := by
  obtain ⟨hb, hst, hdc⟩ := C09_compose_example_base
  refine ⟨by decide +kernel, ?_, cmRead_eval.2.2.2⟩
  -- from here on nothing depends on what `cmRead` is: as a variable it cannot be evaluated by the unifier
  generalize cmRead = r at hb hst hdc ⊢
  have hc : ChainAll rdExOpts rdExFt (dtSteer (fun _ => none) r.steer) (declaredCount r.sections) cmTs cmDoc := by
    rw [hst, hdc]; exact C09_compose_example_chain
  obtain ⟨r', h1, h2, h3, _⟩ := C09_compose_all rdExOpts (fun _ => none) rdExFt C09_redelim_example_tilde cmTs cmDoc r hb hc
  refine ⟨r', h1, h2, ?_, h2.2.symm⟩
  rw [h3, hst]
  rfl

end Lasio.Tf

#print axioms Lasio.Tf.C09_step'
#print axioms Lasio.Tf.C09_compose'
#print axioms Lasio.Tf.C09_compose_readModel'
#print axioms Lasio.Tf.C09_chain'_of_chain
#print axioms Lasio.Tf.C09_parsedUpToDlm_equiv
#print axioms Lasio.Tf.C09_redelim_step
#print axioms Lasio.Tf.C09_step_all
#print axioms Lasio.Tf.C09_compose_all
#print axioms Lasio.Tf.C09_compose_all_readModel
#print axioms Lasio.Tf.C09_compose_all_no_redelim
#print axioms Lasio.Tf.C09_compose_all_curves
#print axioms Lasio.Tf.C09_compose_example_chain
#print axioms Lasio.Tf.C09_compose_example
