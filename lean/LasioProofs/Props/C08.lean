import LasioProofs.Lemmas.NumLitLemmas
/-
C08 — A ~Version/~Well/~Parameter value is turned into a number exactly when its text is a plain decimal literal
(optional sign, digits, optional fraction using '.' or ',' as the mark, optional exponent) denoting a finite value:
integer literals that fit 64 bits become integers, the others floats, each numerically equal to the literal.  Every
other text is kept verbatim as a string; API / UWI (any case) outside ~Parameter are kept verbatim; ~Curves API codes
are never converted.

Model: LasioModel/NumLit.lean (`num`, `commaSub`, `isPlainDec`, `metadataValue`, `paramsValue`, `curvesValue`).
Specification (LasioProofs/Lemmas/NumLitLemmas.lean): `PlainDec` (grammar as rendering of a syntax tree `Lit` with
side conditions `Lit.WF`), `Lit.denote` (sign, mantissa, power of ten, positional value `decVal`), `FiniteDec`.

Vocabulary (same file):  litText s = strip (commaSub s)  — the text the guard looks at;
  PadOK s = (numStrip (commaSub s) = litText s);   Int64 v = (-2^63 ≤ v ≤ 2^63-1);
  IsInt64Lit l = (no '.', no exponent, at most 4300 digits, Int64 (sign · decVal digits));
  FiniteDec m e = (m · 10^e < 2^1024 − 2^970, scaled to naturals);  tripleQ / Lit.valueQ — values in ℚ.

Two hypotheses are forced by the code and shown necessary below:
 * `PadOK s`   — the white space around the literal contains none of U+001C..U+001F (`str.strip` removes them, `int()` and
                 `float()` refuse them: such a text stays a string);
 * `≤ 4300 digits` for the integer case — CPython's `int()` refuses longer digit strings (sys.get_int_max_str_digits()),
                 such an integer literal falls through to `float()` and comes back as a float even when its value fits 64 bits.
-/
namespace Lasio

/-! ### recogniser = grammar -/

theorem C08_isPlainDec_iff (s : Str) : isPlainDec s = true ↔ PlainDec s := isPlainDec_iff s

/-- the grammar is unambiguous, so "the" denotation of a literal text is well defined -/
theorem C08_parse_unique {l₁ l₂ : Lit} (h₁ : l₁.WF) (h₂ : l₂.WF) (h : l₁.render = l₂.render) : l₁ = l₂ := by
  have a := parseDec_render h₁
  rw [h, parseDec_render h₂] at a
  exact (Option.some.inj a).symm

/-! ### `num` -/

/-- a text that is not a plain decimal literal (after the comma substitution and `strip`) is kept verbatim -/
theorem C08_verbatim (s : Str) (h : ¬ PlainDec (litText s)) : num s = .str s := by
  have : parseDec (litText s) = none := by
    cases hp : parseDec (litText s) with
    | none => rfl
    | some l => exact absurd ((isPlainDec_iff _).mp (by simp [isPlainDec, hp])) h
  unfold num
  simp only [litText] at this
  simp only [this]

/-- U+001C..U+001F in the white space around the text: kept verbatim (`int()` and `float()` raise ValueError) -/
theorem C08_pad_verbatim (s : Str) (h : ¬ PadOK s) : num s = .str s := by
  by_cases hp : PlainDec (litText s)
  · obtain ⟨l, hw, hr⟩ := (plainDec_iff_exists _).mp hp
    rw [num_of_lit hw hr, if_pos h]
  · exact C08_verbatim s hp

/-- general form of the integer clause, on the syntax tree -/
theorem C08_int_lit (s : Str) (l : Lit) (hw : l.WF) (hr : l.render = litText s) (hpad : PadOK s)
    (hint : IsInt64Lit l) : num s = .int (l.sign.toInt * (decVal l.ip : Int)) := by
  rw [num_of_lit hw hr, if_neg (not_not.mpr hpad), if_pos ((intCond_iff l).mpr hint)]
  simp [Lit.intVal, sign_apply_eq, digitsVal_eq_decVal]

/-- an integer literal `sign? digits+` (at most 4300 digits) whose value fits int64 becomes that integer -/
theorem C08_int (s : Str) (sg : Sign) (ds : Str) (hlit : litText s = sg.str ++ ds) (hne : ds ≠ []) (hd : AllDig ds)
    (hpad : PadOK s) (hlen : ds.length ≤ 4300) (hrange : Int64 (sg.toInt * (decVal ds : Int))) :
    num s = .int (sg.toInt * (decVal ds : Int)) := by
  have hw : (⟨sg, ds, false, [], none⟩ : Lit).WF :=
    ⟨hd, AllDig.nil, fun _ => rfl, Or.inl hne, (by intro c sg ds h; cases h)⟩
  have hr : (⟨sg, ds, false, [], none⟩ : Lit).render = litText s := by
    rw [hlit]; simp [Lit.render, expStr]
  exact C08_int_lit s _ hw hr hpad ⟨rfl, rfl, hlen, hrange⟩

/-- every other finite plain literal becomes a float whose exact decimal value is the literal's denotation -/
theorem C08_float (s : Str) (l : Lit) (hw : l.WF) (hr : l.render = litText s) (hpad : PadOK s)
    (hnotint : ¬ IsInt64Lit l) (hfin : FiniteDec l.denote.2.1 l.denote.2.2) :
    num s = .flt l.denote.1 l.denote.2.1 l.denote.2.2 := by
  rw [num_of_lit hw hr, if_neg (not_not.mpr hpad), if_neg (fun h => hnotint ((intCond_iff l).mp h)),
    if_pos ((finite_iff l hw).mpr hfin), ← model_value_eq_denote]

/-- a plain literal whose value does not round to a finite binary64 (|value| ≥ 2^1024 − 2^970) is kept verbatim -/
theorem C08_nonfinite_verbatim (s : Str) (l : Lit) (hw : l.WF) (hr : l.render = litText s)
    (hinf : ¬ FiniteDec l.denote.2.1 l.denote.2.2) : num s = .str s := by
  rw [num_of_lit hw hr]
  have hnotint : ¬ IsInt64Lit l := fun h => hinf (int64Lit_finite l hw h)
  rw [if_neg (fun h => hnotint ((intCond_iff l).mp h)), if_neg (fun h => hinf ((finite_iff l hw).mp h))]
  simp

/-- when `num` answers a string, it is the argument itself -/
theorem C08_str_is_verbatim (s u : Str) (h : num s = .str u) : u = s := by
  by_cases hp : PlainDec (litText s)
  · obtain ⟨l, hw, hr⟩ := (plainDec_iff_exists _).mp hp
    rw [num_of_lit hw hr] at h
    split at h
    · cases h; rfl
    · split at h
      · cases h
      · split at h
        · cases h
        · cases h; rfl
  · rw [C08_verbatim s hp] at h; cases h; rfl

/-- "turned into a number exactly when": `num` answers a number iff the text is a plain literal (after the comma
substitution and `strip`), `int()`/`float()` accept its padding, and its value is finite in binary64 -/
theorem C08_number_iff (s : Str) :
    (∀ u, num s ≠ .str u) ↔
      ∃ l : Lit, l.WF ∧ l.render = litText s ∧ PadOK s ∧ FiniteDec l.denote.2.1 l.denote.2.2 := by
  constructor
  · intro h
    by_cases hp : PlainDec (litText s)
    · obtain ⟨l, hw, hr⟩ := (plainDec_iff_exists _).mp hp
      by_cases hpad : PadOK s
      · by_cases hfin : FiniteDec l.denote.2.1 l.denote.2.2
        · exact ⟨l, hw, hr, hpad, hfin⟩
        · exact absurd (C08_nonfinite_verbatim s l hw hr hfin) (h s)
      · exact absurd (C08_pad_verbatim s hpad) (h s)
    · exact absurd (C08_verbatim s hp) (h s)
  · rintro ⟨l, hw, hr, hpad, hfin⟩ u
    by_cases hint : IsInt64Lit l
    · rw [C08_int_lit s l hw hr hpad hint]; intro h; cases h
    · rw [C08_float s l hw hr hpad hint hfin]; intro h; cases h

/-- the float's (sign, mantissa, power of ten) IS the literal's value as a rational number: nothing is lost before the
(trusted, correctly rounded) decimal-to-binary conversion -/
theorem C08_denote_exact (l : Lit) : tripleQ l.denote = l.valueQ := by
  unfold tripleQ Lit.denote Lit.valueQ
  simp only
  rw [decVal_append, zpow_sub₀ (by norm_num : (10 : ℚ) ≠ 0), zpow_natCast]
  have hs : (if decide (l.sign = Sign.minus) = true then (-1 : ℚ) else 1) = (l.sign.toInt : ℚ) := by
    cases l.sign <;> simp [Sign.toInt]
  rw [hs]
  push_cast
  field_simp

/-- no U+001C..U+001F anywhere in the text is enough for `PadOK` -/
theorem C08_padOK_of_no_separators (s : Str) (h : ∀ c ∈ s, ¬ (0x1C ≤ c.toNat ∧ c.toNat ≤ 0x1F)) : PadOK s :=
  padOK_of_no_separators s h

/-! ### necessity of the two hypotheses -/

/-- `PadOK` is necessary: ' 5' followed by U+001F is a literal after `strip`, yet stays a string -/
theorem C08_padOK_necessary : num [' ', '5', Char.ofNat 0x1F] = .str [' ', '5', Char.ofNat 0x1F] := by decide +kernel

/-- the 4300-digit bound is necessary: 4301 or more zeros denote 0, which fits 64 bits, yet the result is the float
0·10^0 (CPython `int()` raises ValueError beyond `sys.get_int_max_str_digits()` digits, `float()` then succeeds) -/
theorem C08_digit_limit_necessary (n : Nat) (h : 4300 < n) : num (List.replicate n '0') = .flt false 0 0 := by
  obtain ⟨k, rfl⟩ : ∃ k, n = k + 1 := ⟨n - 1, by omega⟩
  have hw : (⟨.none, List.replicate (k + 1) '0', false, [], none⟩ : Lit).WF :=
    ⟨allDig_zeros _, AllDig.nil, fun _ => rfl, Or.inl (by simp), (by intro c sg ds h; cases h)⟩
  have hr : (⟨.none, List.replicate (k + 1) '0', false, [], none⟩ : Lit).render = litText (List.replicate (k + 1) '0') := by
    rw [litText_zeros]; simp [Lit.render, expStr, Sign.str]
  have hd : (⟨.none, List.replicate (k + 1) '0', false, [], none⟩ : Lit).denote = (false, 0, 0) := by
    simp [Lit.denote, Lit.writtenExp, decVal_zeros]
  have := C08_float _ _ hw hr (padOK_zeros _)
    (by intro hi; have := hi.2.2.1; simp at this; omega)
    (by rw [hd]; unfold FiniteDec; decide +kernel)
  rw [hd] at this
  exact this

/-- ... and tight: up to 4300 zeros give the integer 0 -/
theorem C08_digit_limit_tight (n : Nat) (h0 : 0 < n) (h : n ≤ 4300) : num (List.replicate n '0') = .int 0 := by
  obtain ⟨k, rfl⟩ : ∃ k, n = k + 1 := ⟨n - 1, by omega⟩
  have := C08_int (List.replicate (k + 1) '0') .none (List.replicate (k + 1) '0')
    (by rw [litText_zeros]; rfl) (by simp) (allDig_zeros _) (padOK_zeros _) (by simpa using h)
    (by rw [decVal_zeros]; decide)
  rw [decVal_zeros] at this
  simpa using this

/-! ### the three item constructors -/

/-- API / UWI (any case; the table is regenerated from `number_strings` in reader.py) outside ~Parameter: verbatim -/
theorem C08_api_uwi (name v : Str) (h : upper name ∈ Generated.numberStrings.map String.toList) :
    metadataValue name v = .str v := by
  unfold metadataValue isNumberString
  rw [if_pos (List.contains_iff_mem.mpr h)]

theorem C08_api_uwi_names (name v : Str) (h : upper name = "API".toList ∨ upper name = "UWI".toList) :
    metadataValue name v = .str v := by
  apply C08_api_uwi
  rcases h with h | h <;> rw [h] <;> decide

theorem C08_metadata_other (name v : Str) (h : upper name ∉ Generated.numberStrings.map String.toList) :
    metadataValue name v = num v := by
  unfold metadataValue isNumberString
  rw [if_neg (fun hc => h (List.contains_iff_mem.mp hc))]

/-- ~Parameter values always go through `num` (API / UWI included) -/
theorem C08_params (v : Str) : paramsValue v = num v := rfl

/-- ~Curves API codes are never converted -/
theorem C08_curves_never (v : Str) : curvesValue v = .str v := rfl

theorem C08_items (df : Bool) (name unit value descr : Str) :
    (metadataItem df name unit value descr).value = metadataValue name (if df then descr else value) ∧
    (paramsItem name unit value descr).value = num value ∧
    (curvesItem name unit value descr).value = .str value := ⟨rfl, rfl, rfl⟩

/-! ### the comma substitution -/

/-- a comma is replaced only where it stands between two digits (and then by '.'); every other character is kept -/
theorem C08_comma_only_between_digits (s : Str) (i : Nat) :
    (commaSub s)[i]? = s[i]? ∨
    ∃ j d1 d2, i = j + 1 ∧ s[j]? = some d1 ∧ isUniDigit d1 = true ∧ s[j + 1]? = some ',' ∧ s[j + 2]? = some d2 ∧
      isUniDigit d2 = true ∧ (commaSub s)[j + 1]? = some '.' :=
  commaSubWith_pointwise isUniDigit s i

/-- a text with a single comma: the comma becomes '.' exactly when it stands between two digits -/
theorem C08_comma (a b : Str) (ha : ',' ∉ a) (hb : ',' ∉ b) :
    commaSub (a ++ ',' :: b) =
      if (a.getLast?.any isUniDigit && b.head?.any isUniDigit) = true then a ++ '.' :: b else a ++ ',' :: b :=
  commaSubWith_single isUniDigit a b ha hb

theorem C08_comma_length (s : Str) : (commaSub s).length = s.length := commaSubWith_length _ s

theorem C08_comma_none (s : Str) (h : ',' ∉ s) : commaSub s = s := commaSubWith_no_comma _ s h

/-- the digit class of the substitution is Unicode `\d` (the pattern is not compiled with re.ASCII); on texts below
U+0660 — all of ASCII and Latin-1 — it is `[0-9]` -/
theorem C08_comma_ascii (s : Str) (h : ∀ c ∈ s, c.toNat < 0x660) : commaSub s = commaSubWith isDigit s :=
  commaSubWith_congr _ _ s (fun c hc => isUniDigit_ascii c (h c hc))

/-- matches do not overlap: in `1,5,6` only the first comma is replaced (so the text is not a literal and stays a string) -/
theorem C08_comma_non_overlapping : commaSub "1,5,6".toList = "1.5,6".toList ∧ num "1,5,6".toList = .str "1,5,6".toList := by
  decide +kernel

/-! ### concrete values -/

theorem C08_examples :
    num "15_9".toList = .str "15_9".toList ∧
    num "12-34-12-34W5M".toList = .str "12-34-12-34W5M".toList ∧
    num "inf".toList = .str "inf".toList ∧ num "nan".toList = .str "nan".toList ∧
    num "0x10".toList = .str "0x10".toList ∧ num [] = .str [] ∧
    num "2001-05-13".toList = .str "2001-05-13".toList ∧ num "12:30".toList = .str "12:30".toList ∧
    num "007".toList = .int 7 ∧ num "+5".toList = .int 5 ∧ num " -12 ".toList = .int (-12) ∧
    num "1,5".toList = .flt false 15 (-1) ∧ num "5.".toList = .flt false 5 0 ∧ num ".5".toList = .flt false 5 (-1) ∧
    num "1e5".toList = .flt false 1 5 ∧ num "-.5e-3".toList = .flt true 5 (-4) ∧
    num ",5".toList = .str ",5".toList ∧ num "5,".toList = .str "5,".toList ∧
    num "9223372036854775807".toList = .int 9223372036854775807 ∧
    num "9223372036854775808".toList = .flt false 9223372036854775808 0 ∧
    num "-9223372036854775808".toList = .int (-9223372036854775808) := by decide +kernel

set_option exponentiation.threshold 400 in
/-- the overflow boundary: 1.797693134862315807e308 < 2^1024 − 2^970 < 1.797693134862315808e308 -/
theorem C08_overflow_boundary :
    num "1.797693134862315807e308".toList = .flt false 1797693134862315807 290 ∧
    num "1.797693134862315808e308".toList = .str "1.797693134862315808e308".toList ∧
    num "1e309".toList = .str "1e309".toList ∧ num "1e-400".toList = .flt false 1 (-400) := by decide +kernel

theorem C08_item_examples :
    metadataValue "API".toList "0012345".toList = .str "0012345".toList ∧
    metadataValue "uwi".toList "007".toList = .str "007".toList ∧
    metadataValue "Api".toList "1e5".toList = .str "1e5".toList ∧
    metadataValue "APIX".toList "007".toList = .int 7 ∧
    paramsValue "007".toList = .int 7 ∧
    (paramsItem "API".toList [] "007".toList []).value = .int 7 ∧
    curvesValue "007".toList = .str "007".toList := by decide +kernel

/-! ### non-vacuity -/

/-- the hypotheses of `C08_int` and `C08_float` are satisfiable -/
example : num "-42".toList = .int (-42) :=
  C08_int "-42".toList .minus "42".toList (by decide +kernel) (by decide +kernel) (by decide +kernel) (by decide +kernel)
    (by decide +kernel) (by decide +kernel)

example : ∃ l : Lit, l.WF ∧ l.render = litText "1,5e3".toList ∧ PadOK "1,5e3".toList ∧ ¬ IsInt64Lit l ∧
    FiniteDec l.denote.2.1 l.denote.2.2 ∧ num "1,5e3".toList = .flt false 15 2 := by
  refine ⟨⟨.none, ['1'], true, ['5'], some ('e', .none, ['3'])⟩, ?_, by decide +kernel, by decide +kernel, ?_, ?_, by decide +kernel⟩
  · refine ⟨by decide +kernel, by decide +kernel, by decide +kernel, by decide +kernel, ?_⟩
    intro c sg ds h; cases h; decide
  · intro h; exact absurd h.1 (by decide)
  · unfold FiniteDec; decide +kernel

end Lasio

#print axioms Lasio.C08_isPlainDec_iff
#print axioms Lasio.C08_parse_unique
#print axioms Lasio.C08_verbatim
#print axioms Lasio.C08_pad_verbatim
#print axioms Lasio.C08_int_lit
#print axioms Lasio.C08_int
#print axioms Lasio.C08_float
#print axioms Lasio.C08_nonfinite_verbatim
#print axioms Lasio.C08_str_is_verbatim
#print axioms Lasio.C08_number_iff
#print axioms Lasio.C08_denote_exact
#print axioms Lasio.C08_padOK_of_no_separators
#print axioms Lasio.C08_padOK_necessary
#print axioms Lasio.C08_digit_limit_necessary
#print axioms Lasio.C08_digit_limit_tight
#print axioms Lasio.C08_api_uwi
#print axioms Lasio.C08_api_uwi_names
#print axioms Lasio.C08_metadata_other
#print axioms Lasio.C08_params
#print axioms Lasio.C08_curves_never
#print axioms Lasio.C08_items
#print axioms Lasio.C08_comma_only_between_digits
#print axioms Lasio.C08_comma
#print axioms Lasio.C08_comma_length
#print axioms Lasio.C08_comma_none
#print axioms Lasio.C08_comma_ascii
#print axioms Lasio.C08_comma_non_overlapping
#print axioms Lasio.C08_examples
#print axioms Lasio.C08_overflow_boundary
#print axioms Lasio.C08_item_examples
