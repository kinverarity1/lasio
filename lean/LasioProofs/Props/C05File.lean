import LasioProofs.Lemmas.PlantLemmas
/-
C05, last clause, WHOLE FILE: "… an item in one section never changes how another section or the data is interpreted: only
~Version's VERS, WRAP and DLM and ~Well's NULL steer parsing."

`Rd.steer` looks at the items of a section only through the mnemonics its TITLE consults (`consulted`: VERS, WRAP, DLM for a
title letter V; NULL for W; nothing otherwise — `C05_steering_only_V_W_title`, `C05_steering_fields`).  So an item line planted
in a section that does not consult its mnemonic — NULL in ~Version / ~Parameter / a custom section, VERS / WRAP / DLM in ~Well /
~Parameter / a custom section, any other mnemonic anywhere — is just an item:

* `C05_file_plant`          a readable document `pre ++ flat (s₁ ++ (t, l₁ ++ l₂) :: s₂)`, `t` a header-items section not stored
                            under "Curves", `x` a line every section parser reads as an item whose mnemonic `t` does not consult
                            (`plantSafe`, decidable): the document with `x` between `l₁` and `l₂` is readable with the SAME
                            steering values, the same data results on windows moved down by one line (same curves), the same
                            sections except that the value stored for `t` has the item of `x` inserted at its place (`JRel`).
                            No `ignore_header_errors` is needed (C19_file needs it because its line may be junk).
* `C05_file_plant_named`    the same from "the mnemonic, upper-cased, is `K`" and "`t` does not consult `K`".
* `C05_file_plant_general`  the general form (hypotheses on what the parsers of `t` make of `x`), which also covers C19's lines.
* tightness: `C05_file_null_in_well_steers`, `C05_file_wrap_in_version_steers` (in the section that consults the mnemonic the
  planted item DOES change the steering), `C05_file_curves_excluded` (an item planted in ~Curves leaves the steering alone but is
  one more declared curve: the data are assigned to `d + 1` curves — so "stored under Curves" is excluded).
* The pinned tree's defect (fixed upstream, recorded as R-finding in DESIGN.md): `las.py` used to look NULL up in every section
  whose title starts with `~P` as well, so `NULL. 3` in ~Parameter overrode ~Well's NULL; in the model (= the current code) the
  lookup is made under the title letter W only, which is what `consulted` states.
-/
namespace Lasio.Tf
open Lasio Lasio.Dt

/-- **C05, whole file, general form.** `x` is not a title line; the parsers of `t` do not find it unparsable (or header errors are
ignored); if they make an item of it, its mnemonic is none of those `t` consults. -/
theorem C05_file_plant_general (o : Opts) (nullOf : Option Str → Option Str) (ft : FloatTable) (htf : TildeNotFloat ft)
    (pre : List Str) (s₁ s₂ : List (Str × List Str)) (t : Str) (l₁ l₂ : List Str) (x : Str)
    (hpre : ∀ y ∈ pre, Rd.isTitle y = false) (hw : Rd.WellFormed (s₁ ++ (t, l₁ ++ l₂) :: s₂)) (hx : Rd.isTitle x = false)
    (hk : kindOf t = .items) (hcur : Rd.curvesTitle t = false)
    (hbad : o.hdr.ignoreHeaderErrors = true ∨ ∀ ver p, Rd.mkParser (Rd.lineStrip t) ver = .ok p → Rd.lineRes o.hdr p x ≠ .bad)
    (hsafe : ∀ ver p it, Rd.mkParser (Rd.lineStrip t) ver = .ok p → Rd.lineItem o.hdr p x = some it →
      ∀ k ∈ consulted (Rd.sline t), Rd.mcmp (trOf o.hdr) (Rd.U it) k = false)
    (r : FullRead) (hr : readFull o nullOf ft (pre ++ Rd.flat (s₁ ++ (t, l₁ ++ l₂) :: s₂)) = .ok r) :
    ∃ r' ver p k, readFull o nullOf ft (pre ++ Rd.flat (s₁ ++ (t, l₁ ++ x :: l₂) :: s₂)) = .ok r' ∧
      r'.steer = r.steer ∧
      r'.data = r.data.map (shiftData (pre.length + Rd.size s₁ + 1 + l₁.length)) ∧ r'.parsed.data = r.parsed.data ∧
      Rd.mkParser (Rd.lineStrip t) ver = .ok p ∧ k ≠ Rd.kCurves ∧
      JRel k (.items (Rd.bodyItems o.hdr p l₁ ++ Rd.bodyItems o.hdr p l₂))
             (.items (Rd.bodyItems o.hdr p l₁ ++ (Rd.lineItem o.hdr p x).toList ++ Rd.bodyItems o.hdr p l₂))
             r.sections r'.sections ∧
      ((∀ tb ∈ s₂, ∀ ver ver' k', Rd.secKey ver (t, ([] : List Str)) = some k' → Rd.secKey ver' tb ≠ some k') →
        r.sections.lookup k = some (.items (Rd.bodyItems o.hdr p l₁ ++ Rd.bodyItems o.hdr p l₂)) ∧
        r'.sections.lookup k =
          some (.items (Rd.bodyItems o.hdr p l₁ ++ (Rd.lineItem o.hdr p x).toList ++ Rd.bodyItems o.hdr p l₂))) := by
  obtain ⟨r', ver, p, k, h1, h2, h3, h4, h5, h6, h7⟩ :=
    readFull_insert o nullOf ft htf pre s₁ s₂ t l₁ l₂ x hpre hw hx
      ⟨hk, hbad, .inl hcur, fun ver p it hp hit a b s => steer_insert o.hdr _ a b it s (hsafe ver p it hp hit)⟩ r hr
  refine ⟨r', ver, p, k, h1, h2, h3, ?_, h4, h5 hcur, h6, h7⟩
  simp only [FullRead.parsed]
  rw [h3]
  exact shiftData_res (fun y => y.map Prod.snd) _ _

/-- **C05, whole file.** The decidable side condition `plantSafe`: whatever section name `read_header_line` is called with, `x`
parses, and the mnemonic it gets is none of those the title `t` consults. -/
theorem C05_file_plant (o : Opts) (nullOf : Option Str → Option Str) (ft : FloatTable) (htf : TildeNotFloat ft)
    (pre : List Str) (s₁ s₂ : List (Str × List Str)) (t : Str) (l₁ l₂ : List Str) (x : Str)
    (hpre : ∀ y ∈ pre, Rd.isTitle y = false) (hw : Rd.WellFormed (s₁ ++ (t, l₁ ++ l₂) :: s₂)) (hx : Rd.isTitle x = false)
    (hk : kindOf t = .items) (hcur : Rd.curvesTitle t = false) (hsafe : plantSafe o.hdr.mnemonicCase t x = true)
    (r : FullRead) (hr : readFull o nullOf ft (pre ++ Rd.flat (s₁ ++ (t, l₁ ++ l₂) :: s₂)) = .ok r) :
    ∃ r' ver p k, readFull o nullOf ft (pre ++ Rd.flat (s₁ ++ (t, l₁ ++ x :: l₂) :: s₂)) = .ok r' ∧
      r'.steer = r.steer ∧
      r'.data = r.data.map (shiftData (pre.length + Rd.size s₁ + 1 + l₁.length)) ∧ r'.parsed.data = r.parsed.data ∧
      Rd.mkParser (Rd.lineStrip t) ver = .ok p ∧ k ≠ Rd.kCurves ∧
      JRel k (.items (Rd.bodyItems o.hdr p l₁ ++ Rd.bodyItems o.hdr p l₂))
             (.items (Rd.bodyItems o.hdr p l₁ ++ (Rd.lineItem o.hdr p x).toList ++ Rd.bodyItems o.hdr p l₂))
             r.sections r'.sections ∧
      ((∀ tb ∈ s₂, ∀ ver ver' k', Rd.secKey ver (t, ([] : List Str)) = some k' → Rd.secKey ver' tb ≠ some k') →
        r.sections.lookup k = some (.items (Rd.bodyItems o.hdr p l₁ ++ Rd.bodyItems o.hdr p l₂)) ∧
        r'.sections.lookup k =
          some (.items (Rd.bodyItems o.hdr p l₁ ++ (Rd.lineItem o.hdr p x).toList ++ Rd.bodyItems o.hdr p l₂))) :=
  C05_file_plant_general o nullOf ft htf pre s₁ s₂ t l₁ l₂ x hpre hw hx hk hcur
    (Or.inr fun _ p _ => plantSafe_not_bad o.hdr p t x hsafe)
    (fun _ p it _ hit => plantSafe_item o.hdr p t x it hsafe hit) r hr

/-- the steering mnemonics a title consults, in words: a title letter other than V consults none of VERS, WRAP, DLM; a title
letter other than W does not consult NULL -/
theorem C05_consulted (T : Str) :
    (Rd.titleLetter T ≠ ['V'] → ∀ k ∈ consulted T, k ≠ "VERS".toList ∧ k ≠ "WRAP".toList ∧ k ≠ "DLM".toList) ∧
    (Rd.titleLetter T ≠ ['W'] → ∀ k ∈ consulted T, k ≠ "NULL".toList) := by
  unfold consulted
  constructor
  · intro h k hk
    have : (Rd.titleLetter T == ['V']) = false := by simpa using h
    simp only [this, Bool.false_eq_true, if_false] at hk
    split at hk
    · simp only [List.mem_singleton] at hk; subst hk; decide
    · cases hk
  · intro h k hk
    have : (Rd.titleLetter T == ['W']) = false := by simpa using h
    simp only [this, Bool.false_eq_true, if_false] at hk
    split at hk
    · simp only [List.mem_cons, List.not_mem_nil, or_false] at hk
      rcases hk with rfl | rfl | rfl <;> decide
    · cases hk

/-- **C05, whole file, named form.** Every section parser reads `x` as an item whose (non-blank) mnemonic, upper-cased, is `K`;
`K` is NULL and the title letter of `t` is not W, or `K` is VERS / WRAP / DLM and the title letter is not V. -/
theorem C05_file_plant_named (o : Opts) (nullOf : Option Str → Option Str) (ft : FloatTable) (htf : TildeNotFloat ft)
    (pre : List Str) (s₁ s₂ : List (Str × List Str)) (t : Str) (l₁ l₂ : List Str) (x : Str) (K : Str)
    (hpre : ∀ y ∈ pre, Rd.isTitle y = false) (hw : Rd.WellFormed (s₁ ++ (t, l₁ ++ l₂) :: s₂)) (hx : Rd.isTitle x = false)
    (hk : kindOf t = .items) (hcur : Rd.curvesTitle t = false)
    (hparse : ∀ sec ∈ Rd.allSecNames, ∃ f, parseHeaderLine sec (Rd.lineStrip x) = some f ∧
      upper (Rd.applyCase o.hdr.mnemonicCase f.name) = K ∧ (strip (Rd.applyCase o.hdr.mnemonicCase f.name)).isEmpty = false)
    (hK : (K = "NULL".toList ∧ Rd.titleLetter (Rd.sline t) ≠ ['W']) ∨
      ((K = "VERS".toList ∨ K = "WRAP".toList ∨ K = "DLM".toList) ∧ Rd.titleLetter (Rd.sline t) ≠ ['V']))
    (r : FullRead) (hr : readFull o nullOf ft (pre ++ Rd.flat (s₁ ++ (t, l₁ ++ l₂) :: s₂)) = .ok r) :
    ∃ r', readFull o nullOf ft (pre ++ Rd.flat (s₁ ++ (t, l₁ ++ x :: l₂) :: s₂)) = .ok r' ∧
      r'.steer = r.steer ∧ r'.parsed.data = r.parsed.data ∧
      r'.data = r.data.map (shiftData (pre.length + Rd.size s₁ + 1 + l₁.length)) := by
  have hsafe : plantSafe o.hdr.mnemonicCase t x = true := by
    apply plantSafe_of_name _ t x K hparse
    intro k hk'
    rw [Rd.steerKeys_upper k (consulted_steerKeys _ k hk')]
    rcases hK with ⟨rfl, hl⟩ | ⟨hK, hl⟩
    · exact fun e => (C05_consulted _).2 hl k hk' e.symm
    · have := (C05_consulted _).1 hl k hk'
      rcases hK with rfl | rfl | rfl
      · exact fun e => this.1 e.symm
      · exact fun e => this.2.1 e.symm
      · exact fun e => this.2.2 e.symm
  obtain ⟨r', _, _, _, h1, h2, h3, h4, _⟩ :=
    C05_file_plant o nullOf ft htf pre s₁ s₂ t l₁ l₂ x hpre hw hx hk hcur hsafe r hr
  exact ⟨r', h1, h2, h4, h3⟩

/-! ## tightness, and the excluded case -/

def c05f (x : String) : Str := x.toList

def pfFt : FloatTable := [(c05f "1", c05f "a1"), (c05f "2", c05f "a2"), (c05f "3", c05f "a3"), (c05f "-999.25", c05f "neg"),
  (c05f "100.25", c05f "hun")]
/-- the numeric service for the NULL value: `float()` of the raw text -/
def pfNull : Option Str → Option Str := fun o => o.bind fun t => pfFt.lookup t
def pfOpts : Opts := ⟨⟨false, .preserve⟩, ⟨.normal, .strict⟩⟩

def pfV : Str × List Str := (c05f "~V\n", [c05f "VERS. 2.0 : v\n", c05f "WRAP. NO : w\n"])
def pfW : Str × List Str := (c05f "~W\n", [c05f "NULL. -999.25 : n\n", c05f "STRT.M 1 : s\n"])
def pfP : Str × List Str := (c05f "~P\n", [c05f "X. 5 : x\n"])
def pfC : Str × List Str := (c05f "~C\n", [c05f "A.M : a\n", c05f "B.M : b\n"])
def pfA : Str × List Str := (c05f "~A\n", [c05f "1 -999.25\n", c05f "2 100.25\n"])

/-- steering values and data results of a file (defaults when it is not readable) -/
def pfShow (d : Doc) : Rd.Steer × List (Except DErr (Engine × List (Slot × Column))) :=
  match readFull pfOpts pfNull pfFt d with
  | .ok r => (r.steer, r.data.map DataRead.res)
  | .error _ => (Rd.Steer.init, [])

/-- TIGHT (NULL): planted in ~Well — the section that consults NULL — the item DOES steer: the NULL value changes and other cells
become NaN -/
theorem C05_file_null_in_well_steers :
    plantSafe .preserve (c05f "~W\n") (c05f "NULL. 100.25 : planted\n") = false ∧
    pfShow ([] ++ Rd.flat ([pfV] ++ (c05f "~W\n", [c05f "STRT.M 1 : s\n"] ++ []) :: [pfP, pfC, pfA])) =
      (⟨some (c05f "2.0"), some (c05f "NO"), none, none⟩,
        [.ok (.normal, [(.declared 0, .floats [c05f "a1", c05f "a2"]), (.declared 1, .floats [c05f "neg", c05f "hun"])])]) ∧
    pfShow ([] ++ Rd.flat ([pfV] ++ (c05f "~W\n", [c05f "STRT.M 1 : s\n"] ++ c05f "NULL. 100.25 : planted\n" :: []) :: [pfP, pfC, pfA])) =
      (⟨some (c05f "2.0"), some (c05f "NO"), some (c05f "100.25"), none⟩,
        [.ok (.normal, [(.declared 0, .floats [c05f "a1", c05f "a2"]), (.declared 1, .floats [c05f "neg", nanTxt])])]) := by
  decide +kernel

/-- TIGHT (WRAP): planted in ~Version the item steers -/
theorem C05_file_wrap_in_version_steers :
    plantSafe .preserve (c05f "~V\n") (c05f "WRAP. YES : planted\n") = false ∧
    (pfShow ([] ++ Rd.flat ([] ++ (c05f "~V\n", [c05f "VERS. 2.0 : v\n"] ++ []) :: [pfW, pfP, pfC, pfA]))).1 =
      ⟨some (c05f "2.0"), none, some (c05f "-999.25"), none⟩ ∧
    (pfShow ([] ++ Rd.flat ([] ++ (c05f "~V\n", [c05f "VERS. 2.0 : v\n"] ++ c05f "WRAP. YES : planted\n" :: []) :: [pfW, pfP, pfC, pfA]))).1 =
      ⟨some (c05f "2.0"), some (c05f "YES"), some (c05f "-999.25"), none⟩ := by
  decide +kernel

/-- ~CURVES IS EXCLUDED: an item planted in ~Curves (here named NULL) leaves the steering values alone, but it is one more declared
curve, and the data section is assigned to three curves instead of two (the third: NaN) -/
theorem C05_file_curves_excluded :
    Rd.curvesTitle (c05f "~C\n") = true ∧ plantSafe .preserve (c05f "~C\n") (c05f "NULL. 5 : planted\n") = true ∧
    pfShow ([] ++ Rd.flat ([pfV, pfW, pfP] ++ (c05f "~C\n", [c05f "A.M : a\n"] ++ [c05f "B.M : b\n"]) :: [pfA])) =
      (⟨some (c05f "2.0"), some (c05f "NO"), some (c05f "-999.25"), none⟩,
        [.ok (.normal, [(.declared 0, .floats [c05f "a1", c05f "a2"]), (.declared 1, .floats [nanTxt, c05f "hun"])])]) ∧
    pfShow ([] ++ Rd.flat ([pfV, pfW, pfP] ++ (c05f "~C\n", [c05f "A.M : a\n"] ++ c05f "NULL. 5 : planted\n" :: [c05f "B.M : b\n"]) :: [pfA])) =
      (⟨some (c05f "2.0"), some (c05f "NO"), some (c05f "-999.25"), none⟩,
        [.ok (.normal, [(.declared 0, .floats [c05f "a1", c05f "a2"]), (.declared 1, .floats [nanTxt, c05f "hun"]),
          (.declared 2, .floats [nanTxt, nanTxt])])]) := by
  decide +kernel

/-! ## non-vacuity -/

theorem C05_file_example_tilde : TildeNotFloat pfFt := tildeNotFloat_of_keys _ (by decide +kernel)

def pfDoc : Doc := [] ++ Rd.flat ([pfV, pfW] ++ (c05f "~P\n", [c05f "X. 5 : x\n"] ++ []) :: [pfC, pfA])
def pfDocP : Doc := [] ++ Rd.flat ([pfV, pfW] ++ (c05f "~P\n", [c05f "X. 5 : x\n"] ++ c05f "NULL. 100.25 : planted\n" :: []) :: [pfC, pfA])
def pfDocW : Doc := [] ++ Rd.flat ([pfV] ++ (c05f "~W\n", [c05f "NULL. -999.25 : n\n"] ++ [c05f "STRT.M 1 : s\n"]) :: [pfP, pfC, pfA])
def pfDocW' : Doc := [] ++ Rd.flat ([pfV] ++
  (c05f "~W\n", [c05f "NULL. -999.25 : n\n"] ++ c05f "VERS. 1.2 : planted\n" :: [c05f "STRT.M 1 : s\n"]) :: [pfP, pfC, pfA])

def pfRead (d : Doc) : FullRead :=
  match readFull pfOpts pfNull pfFt d with
  | .ok r => r
  | .error _ => ⟨[], Rd.Steer.init, []⟩

theorem pfRead_spec (d : Doc) (h : (readFull pfOpts pfNull pfFt d).isOk = true) : readFull pfOpts pfNull pfFt d = .ok (pfRead d) :=
  Except.eq_ok_of_isOk h (fun r hr => by unfold pfRead; rw [hr])

/-- ~V, ~W (NULL -999.25), ~P, ~C, ~A: `NULL. 100.25 : planted` in ~Parameter (instance of `C05_file_plant`) and
`VERS. 1.2 : planted` in ~Well (instance of `C05_file_plant_named`) change neither the steering values nor the curves — which are,
by evaluation: VERS 2.0, WRAP NO, NULL -999.25; curve B = [NaN, 100.25] (the -999.25 cell nulled, the 100.25 cell kept). -/
example :
    (∃ r', readFull pfOpts pfNull pfFt pfDocP = .ok r' ∧ r'.steer = (pfRead pfDoc).steer ∧
      r'.parsed.data = (pfRead pfDoc).parsed.data) ∧
    (∃ r', readFull pfOpts pfNull pfFt pfDocW' = .ok r' ∧ r'.steer = (pfRead pfDocW).steer ∧
      r'.parsed.data = (pfRead pfDocW).parsed.data) ∧
    (pfRead pfDoc).steer = ⟨some (c05f "2.0"), some (c05f "NO"), some (c05f "-999.25"), none⟩ ∧
    (pfRead pfDoc).parsed.data =
      [.ok [(.declared 0, .floats [c05f "a1", c05f "a2"]), (.declared 1, .floats [nanTxt, c05f "hun"])]] ∧
    pfShow pfDocP = (⟨some (c05f "2.0"), some (c05f "NO"), some (c05f "-999.25"), none⟩,
      [.ok (.normal, [(.declared 0, .floats [c05f "a1", c05f "a2"]), (.declared 1, .floats [nanTxt, c05f "hun"])])]) ∧
    pfShow pfDocW' = (⟨some (c05f "2.0"), some (c05f "NO"), some (c05f "-999.25"), none⟩,
      [.ok (.normal, [(.declared 0, .floats [c05f "a1", c05f "a2"]), (.declared 1, .floats [nanTxt, c05f "hun"])])]) := by
  suffices h : (readFull pfOpts pfNull pfFt pfDoc).isOk = true ∧ (readFull pfOpts pfNull pfFt pfDocW).isOk = true ∧ _ by
    refine ⟨?_, ?_, h.2.2⟩
    · obtain ⟨r', _, _, _, h1, h2, _, h4, _⟩ := C05_file_plant pfOpts pfNull pfFt C05_file_example_tilde [] [pfV, pfW] [pfC, pfA]
        (c05f "~P\n") [c05f "X. 5 : x\n"] [] (c05f "NULL. 100.25 : planted\n") (by intro y hy; cases hy)
        (by decide +kernel) (by decide +kernel) (by decide +kernel) (by decide +kernel) (by decide +kernel) (pfRead pfDoc) (pfRead_spec _ h.1)
      unfold pfDocP
      exact ⟨r', h1, h2, h4⟩
    · obtain ⟨r', h1, h2, h3, _⟩ := C05_file_plant_named pfOpts pfNull pfFt C05_file_example_tilde [] [pfV] [pfP, pfC, pfA]
        (c05f "~W\n") [c05f "NULL. -999.25 : n\n"] [c05f "STRT.M 1 : s\n"] (c05f "VERS. 1.2 : planted\n") (c05f "VERS")
        (by intro y hy; cases hy) (by decide +kernel) (by decide +kernel) (by decide +kernel) (by decide +kernel) (by decide +kernel)
        (Or.inr ⟨Or.inl rfl, by decide⟩) (pfRead pfDocW) (pfRead_spec _ h.2.1)
      unfold pfDocW'
      exact ⟨r', h1, h2, h3⟩
  decide +kernel

end Lasio.Tf

#print axioms Lasio.Tf.C05_file_plant_general
#print axioms Lasio.Tf.C05_file_plant
#print axioms Lasio.Tf.C05_consulted
#print axioms Lasio.Tf.C05_file_plant_named
#print axioms Lasio.Tf.C05_file_null_in_well_steers
#print axioms Lasio.Tf.C05_file_wrap_in_version_steers
#print axioms Lasio.Tf.C05_file_curves_excluded
