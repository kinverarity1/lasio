import LasioProofs.Lemmas.ReadObjLemmas
import LasioProofs.Props.C08
/-
C08 at FILE level — the typed object `read()` builds (model: `LasioModel/ReadObj.lean`, `Lasio.Ro`).

C08.lean decides item by item which text becomes a number (`num`, `metadataValue`, `paramsValue`, `curvesValue`).  Here: WHICH rule is
applied to WHICH stored item of a whole document.  `C08_file`: for every successful `readObjLines` the `Rd` read succeeds with the raw header
`th.raw`, the typed sections have the keys of the raw ones in the same order, ~Other-like sections keep their text, and every item of a stored
items section has the mnemonic / unit / descr that `Rd` stored and the value `.str v` (kind curves) / `num v` (kind params) /
`metadataValue name v` (kind metadata) of the stored field text `v` — the kind being the one the section's TITLE selects (`Selects`: the stored
items are the parse of one "Header items" window `w` of `find_sections_in_file`, `kind = parserKind w.title v`, `v` the provisional version when
the loop reached `w`, and the window was routed to this key).  `C08_file_kind_*` say which kind a title selects, `C08_file_number_iff` /
`_verbatim` / `_str_verbatim` / `_exempt` restate C08 for a stored item.

Tightness (by evaluation of the model on documents; the same documents were read with the real lasio): `API` in ~Well stays text while `API` in
~Parameter becomes the int 12; a ~Curves value never becomes a number; a custom section (`~Tops`) follows the METADATA rule (API / UWI exempt —
not the ~Parameter rule), unless its title starts with `~C` / `~P` (`~Cement`, `~Perfs`: it IS a curves / params section and replaces
"Curves" / "Parameter"); under VERS 3.0 `~Perf_Parameter` follows the metadata rule (API kept) whereas under 2.0 — or when ~Version comes
after it — it is a params section; the comma decimal mark.
NOT proved here: nothing about `float()` — a float is the exact decimal of the literal (`NumVal.flt`, C08_denote_exact).
-/
namespace Lasio.Ro
open Lasio Lasio.Rd

/-- the typed item `t` is the raw item `r` with its value typed by the rule of a `kind` section -/
def TypedAs (kind : PKind) (t : TItem) (r : RItem) : Prop :=
  t.orig = r.orig ∧ t.unit = r.unit ∧ t.descr = r.descr ∧
  t.value = (match kind with
    | .curves => NumVal.str r.value
    | .params => num r.value
    | .metadata => metadataValue r.orig r.value)

/-- **the kind the title selects**: `items` is the parse of a "Header items" window `w` of the file (title `w.2.2`), read when the
provisional version was `v` (the state `stB` reached after the windows before `w`), `kind` is `SectionParser(title, v).func`, and the
window was stored under the key `k` -/
def Selects (o : ReadOpts) (lines : List Str) (k : RKey) (kind : PKind) (items : List RItem) : Prop :=
  ∃ (a : List Win) (w : Win) (b : List Win) (stB : RState) (v : Str),
    findSections lines = a ++ w :: b ∧ processSections o lines a RState.init = .ok stB ∧
    sectionType w.2.2 = .items ∧ classifyVer stB.steer.vers = .known v ∧
    kind = parserKind w.2.2 v ∧
    parseItemsSection o (.known v) (lines.drop w.1) w.1 w.2.1 = .ok items ∧
    routeKey w.2.2 (classifyVer (steer o w.2.2 items stB.steer).vers) = .ok k

theorem typedAs_typeItem (kind : PKind) (r : RItem) : TypedAs kind (typeItem kind r) r := by
  refine ⟨rfl, rfl, rfl, ?_⟩
  cases kind <;> rfl

theorem forall₂_typeItem (kind : PKind) (items : List RItem) :
    List.Forall₂ (TypedAs kind) (items.map (typeItem kind)) items := by
  induction items with
  | nil => exact .nil
  | cons r rest ih => exact .cons (typedAs_typeItem kind r) ih

theorem selects_of_prov (o : ReadOpts) (lines : List Str) (km : Kinds) (k : RKey) (items : List RItem)
    (h : Prov o lines (findSections lines) km k items) : Selects o lines k (kindAt km k) items := by
  obtain ⟨a, w, b, stB, tl, rest, p, e, h1, h2, h3, h4, h5, h6, h7⟩ := h
  obtain ⟨tl', rest', e', ht⟩ := findSections_line lines w (by rw [e]; simp)
  rw [h3] at e'
  cases e'
  have htitle : lineStrip tl = w.2.2 := by rw [ht, lineStrip_eq_strip, sline_eq_strip]
  cases hv : classifyVer stB.steer.vers with
  | undecided => rw [hv] at h4; simp [mkParser] at h4
  | bad => rw [hv] at h4; simp [mkParser] at h4
  | known v =>
    rw [hv] at h4
    refine ⟨a, w, b, stB, v, e, h1, h2, hv, ?_, ?_, h6⟩
    · rw [h7, mkParser_kind _ _ _ h4, htitle]
    · rw [h3]
      unfold parseItemsSection
      simp only [h4, h5]

/-- **C08 at file level.** -/
theorem C08_file (o : ReadOpts) (lines : List Str) (th : THeader) (h : readObjLines o lines = .ok th) :
    readLines o lines = .ok th.raw ∧
    th.sections.map Prod.fst = th.raw.sections.map Prod.fst ∧
    ∀ k sv, (k, sv) ∈ th.sections →
      match sv with
      | .text s => (k, SecVal.text s) ∈ th.raw.sections
      | .items kind tl =>
        ∃ items, (k, SecVal.items items) ∈ th.raw.sections ∧ List.Forall₂ (TypedAs kind) tl items ∧ Selects o lines k kind items := by
  refine ⟨readObjLines_ok o lines th h, ?_, ?_⟩
  · simp [THeader.sections]
  · intro k sv hm
    unfold THeader.sections at hm
    obtain ⟨kv, hkv, e⟩ := List.mem_map.mp hm
    obtain ⟨k', v'⟩ := kv
    simp only [Prod.mk.injEq] at e
    obtain ⟨e1, e2⟩ := e
    subst e1 e2
    cases v' with
    | text s => exact hkv
    | items items =>
      exact ⟨items, hkv, forall₂_typeItem _ items,
        selects_of_prov o lines th.kinds k' items (readObjLines_prov o lines th h k' items hkv)⟩

/-- … for a document given as text: `lasio.read(text, ignore_data=True, ignore_header_errors=…, mnemonic_case=…)` -/
theorem C08_file_text (o : ReadOpts) (text : Str) (th : THeader) (h : readObjHeader o text = .ok th) :
    readHeader o text = .ok th.raw ∧
    ∀ k sv, (k, sv) ∈ th.sections →
      match sv with
      | .text s => (k, SecVal.text s) ∈ th.raw.sections
      | .items kind tl =>
        ∃ items, (k, SecVal.items items) ∈ th.raw.sections ∧ List.Forall₂ (TypedAs kind) tl items ∧
          Selects o (splitLines text) k kind items := by
  obtain ⟨_, _, h3⟩ := C08_file o _ th (readObjLines_of_header o text th h)
  exact ⟨by rw [← readObjHeader_raw, h]; rfl, h3⟩

/-- the typed read fails exactly when the `Rd` read fails, with the same error -/
theorem C08_file_total (o : ReadOpts) (text : Str) :
    (readObjHeader o text).map THeader.raw = readHeader o text := readObjHeader_raw o text

/-! ## which kind a title selects -/

/-- a title without `_DATA` / `_PARAMETER` / `_DEFINITION`: the first letter decides, whatever the version -/
theorem C08_file_kind_plain (title v : Str) (h : isLas3Like title = false) :
    parserKind title v =
      if startsWith "~C".toList (upper title) then .curves
      else if startsWith "~P".toList (upper title) then .params else .metadata := by
  unfold parserKind
  rw [h, Bool.and_false, if_neg Bool.false_ne_true]

/-- under version 3.0 a LAS-3 like title is read by the metadata rule, whatever its letter -/
theorem C08_file_kind_las3 (title : Str) (h : isLas3Like title = true) : parserKind title "3.0".toList = .metadata := by
  unfold parserKind
  rw [h, Bool.and_true, if_pos (beq_self_eq_true _)]

/-- … and under any other version it is read by its letter -/
theorem C08_file_kind_not3 (title v : Str) (h : v ≠ "3.0".toList) :
    parserKind title v =
      if startsWith "~C".toList (upper title) then .curves
      else if startsWith "~P".toList (upper title) then .params else .metadata := by
  unfold parserKind
  rw [beq_false_of_ne h, Bool.false_and, if_neg Bool.false_ne_true]

/-! ## what the typed value is, in the vocabulary of C08 -/

/-- the mnemonic is exempt from conversion in a metadata section -/
def IsNumberString (name : Str) : Prop := upper name ∈ Generated.numberStrings.map String.toList

/-- **number iff**: the typed value of a stored item is a number (`int` / `float`) exactly when the section is a ~Parameter-kind section or
a metadata-kind section and the mnemonic is not API / UWI, and the stored text is a plain decimal literal (after the comma substitution
and `strip`) whose padding `int()` / `float()` accept and whose value is finite in binary64 -/
theorem C08_file_number_iff (kind : PKind) (t : TItem) (r : RItem) (h : TypedAs kind t r) :
    (∀ u, t.value ≠ .str u) ↔
      (kind = .params ∨ (kind = .metadata ∧ ¬ IsNumberString r.orig)) ∧
      ∃ l : Lit, l.WF ∧ l.render = litText r.value ∧ PadOK r.value ∧ FiniteDec l.denote.2.1 l.denote.2.2 := by
  obtain ⟨_, _, _, hv⟩ := h
  rw [hv]
  cases kind with
  | curves =>
    simp only [reduceCtorEq, false_and, or_self, false_and, iff_false, not_forall, not_not]
    exact ⟨r.value, rfl⟩
  | params =>
    simp only [true_or, true_and]
    exact C08_number_iff r.value
  | metadata =>
    by_cases hn : IsNumberString r.orig
    · simp only [C08_api_uwi r.orig r.value hn, reduceCtorEq, true_and, hn, not_true_eq_false, or_self, false_and, iff_false,
        not_forall, not_not]
      exact ⟨r.value, rfl⟩
    · simp only [C08_metadata_other r.orig r.value hn, reduceCtorEq, false_or, true_and, hn, not_false_eq_true]
      exact C08_number_iff r.value

/-- **converse**: a stored text that is NOT a numeric literal stays that text, verbatim — in every kind of section -/
theorem C08_file_verbatim (kind : PKind) (t : TItem) (r : RItem) (h : TypedAs kind t r) (hp : ¬ PlainDec (litText r.value)) :
    t.value = .str r.value := by
  obtain ⟨_, _, _, hv⟩ := h
  rw [hv]
  cases kind with
  | curves => rfl
  | params => exact C08_verbatim r.value hp
  | metadata =>
    show metadataValue r.orig r.value = _
    unfold metadataValue
    split
    · rfl
    · exact C08_verbatim r.value hp

/-- a typed value that is a `str` is the text `Rd` stored (the stripped field of the line), unchanged -/
theorem C08_file_str_verbatim (kind : PKind) (t : TItem) (r : RItem) (h : TypedAs kind t r) (u : Str) (hu : t.value = .str u) :
    u = r.value := by
  obtain ⟨_, _, _, hv⟩ := h
  rw [hv] at hu
  cases kind with
  | curves => cases hu; rfl
  | params => exact C08_str_is_verbatim r.value u hu
  | metadata =>
    change metadataValue r.orig r.value = _ at hu
    unfold metadataValue at hu
    split at hu
    · cases hu; rfl
    · exact C08_str_is_verbatim r.value u hu

/-- ~Curves-kind sections never hold a number; API / UWI of a metadata-kind section never become one -/
theorem C08_file_exempt (kind : PKind) (t : TItem) (r : RItem) (h : TypedAs kind t r)
    (he : kind = .curves ∨ (kind = .metadata ∧ IsNumberString r.orig)) : t.value = .str r.value := by
  obtain ⟨_, _, _, hv⟩ := h
  rw [hv]
  rcases he with rfl | ⟨rfl, hn⟩
  · rfl
  · exact C08_api_uwi r.orig r.value hn

/-! ## tightness, by evaluation -/

def ex (s : String) : Str := s.toList
def exOpts : ReadOpts := ⟨false, .preserve⟩

/-- the typed sections of a read, `none` when it fails -/
def typedOf (text : String) : Option (List (RKey × TSecVal)) := (readObjHeader exOpts (ex text)).toOption.map THeader.sections

def exDoc : String :=
  "~Version\nVERS. 2.0 : v\nWRAP. NO : w\n~Well\nAPI. 12 : a\nuwi. 7 : u\nX. 12 : b\n~Curve\nDEPT.M 12 : d\n~Parameter\nAPI. 12 : a\nY. 1,5 : c\n~Tops\nAPI. 12 : t\nZ. 12 : z\n"

/-- **`API` in ~Well stays text, `API` in ~Parameter becomes a number; a ~Curves value never becomes a number; a custom section follows the
METADATA rule (API exempt, other mnemonics converted); `1,5` is 1.5** -/
theorem C08_file_example :
    typedOf exDoc = some [
      (ex "Version", .items .metadata [⟨ex "VERS", [], .flt false 20 (-1), ex "v"⟩, ⟨ex "WRAP", [], .str (ex "NO"), ex "w"⟩]),
      (ex "Well", .items .metadata [⟨ex "API", [], .str (ex "12"), ex "a"⟩, ⟨ex "uwi", [], .str (ex "7"), ex "u"⟩,
                                   ⟨ex "X", [], .int 12, ex "b"⟩]),
      (ex "Curves", .items .curves [⟨ex "DEPT", ex "M", .str (ex "12"), ex "d"⟩]),
      (ex "Parameter", .items .params [⟨ex "API", [], .int 12, ex "a"⟩, ⟨ex "Y", [], .flt false 15 (-1), ex "c"⟩]),
      (ex "Tops", .items .metadata [⟨ex "API", [], .str (ex "12"), ex "t"⟩, ⟨ex "Z", [], .int 12, ex "z"⟩])] := by
  decide +kernel

/-- **a custom title starting with `~C` / `~P` IS a curves / params section** (parsed by that rule AND stored under "Curves" / "Parameter") -/
theorem C08_file_example_custom_cp :
    typedOf "~V\nVERS. 2.0 : v\n~Cement\nQ. 12 : q\n~Perfs\nAPI. 12 : p\n" = some [
      (ex "Version", .items .metadata [⟨ex "VERS", [], .flt false 20 (-1), ex "v"⟩]),
      (ex "Curves", .items .curves [⟨ex "Q", [], .str (ex "12"), ex "q"⟩]),
      (ex "Parameter", .items .params [⟨ex "API", [], .int 12, ex "p"⟩])] := by
  decide +kernel

/-- **the version matters for LAS-3 like titles only**: `~Perf_Parameter` is a params section under 2.0 (API converted) and a metadata
section under 3.0 (API kept) -/
theorem C08_file_example_las3 :
    typedOf "~V\nVERS. 2.0 : v\n~Perf_Parameter\nAPI. 12 : a\n" = some [
      (ex "Version", .items .metadata [⟨ex "VERS", [], .flt false 20 (-1), ex "v"⟩]),
      (ex "Perf_Parameter", .items .params [⟨ex "API", [], .int 12, ex "a"⟩])] ∧
    typedOf "~V\nVERS. 3.0 : v\n~Perf_Parameter\nAPI. 12 : a\n" = some [
      (ex "Version", .items .metadata [⟨ex "VERS", [], .flt false 30 (-1), ex "v"⟩]),
      (ex "Perf_Parameter", .items .metadata [⟨ex "API", [], .str (ex "12"), ex "a"⟩])] := by
  decide +kernel

/-- **the version is the provisional one at THAT moment**: a ~Version section after `~Perf_Parameter` comes too late (the section was read
under the default 2.0) -/
theorem C08_file_example_order :
    typedOf "~Perf_Parameter\nAPI. 12 : a\n~V\nVERS. 3.0 : v\n" = some [
      (ex "Version", .items .metadata [⟨ex "VERS", [], .flt false 30 (-1), ex "v"⟩]),
      (ex "Perf_Parameter", .items .params [⟨ex "API", [], .int 12, ex "a"⟩])] := by
  decide +kernel

/-- non-vacuity of `C08_file`: the example document is read successfully, so the theorem speaks about it -/
example : ∃ th, readObjLines exOpts (splitLines (ex exDoc)) = .ok th ∧ th.sections.length = 5 := by
  have h := C08_file_example
  unfold typedOf at h
  cases hr : readObjHeader exOpts (ex exDoc) with
  | error e => rw [hr] at h; cases h
  | ok th =>
    rw [hr] at h
    injection h with h
    exact ⟨th, readObjLines_of_header _ _ _ hr, by rw [h]; rfl⟩

end Lasio.Ro

#print axioms Lasio.Ro.C08_file
#print axioms Lasio.Ro.C08_file_text
#print axioms Lasio.Ro.C08_file_total
#print axioms Lasio.Ro.C08_file_kind_plain
#print axioms Lasio.Ro.C08_file_kind_las3
#print axioms Lasio.Ro.C08_file_kind_not3
#print axioms Lasio.Ro.C08_file_number_iff
#print axioms Lasio.Ro.C08_file_verbatim
#print axioms Lasio.Ro.C08_file_str_verbatim
#print axioms Lasio.Ro.C08_file_exempt
#print axioms Lasio.Ro.C08_file_example
#print axioms Lasio.Ro.C08_file_example_custom_cp
#print axioms Lasio.Ro.C08_file_example_las3
#print axioms Lasio.Ro.C08_file_example_order
#print axioms Lasio.Ro.readObjLines_prov
#print axioms Lasio.Ro.mkParser_kind
