import LasioProofs.Lemmas.FileRoundTrip
import LasioProofs.Lemmas.CycleDataLemmas
/-
C01 + C03 at WHOLE-FILE level — the text of one `write` call, read back by the whole-file reader `Tf.readFull`
(`Rd.readLines` for the header, then `Dt.readData` on every data window with the steering values of that header).

THE DOCUMENT.  `Wo.writeObj` returns `hl.1 ++ dl`: the header lines `hl.1` of `Wr.headerLines v wrap header_width (toWLas o2)` (`o2` =
the object after `prepare`: refresh of STRT/STOP/STEP, units) followed by `dl = Dw.dataLines (dataCfg cfg) null mnemonics rows`
= the `~A` line `hdr` and the body lines, all without terminator; "each followed by a newline in the file".  So the document
`readFull` takes is `Fr.fileDoc hlines hdr body = (hlines ++ hdr :: body).map (· ++ "\n")`.  The theorems are stated at that level:
`las : Wr.WLas` is the header object (after `prepare`) with `hH : Wr.headerLines version wrap w las = .ok (hlines, las')`, and
`wd : Rt.Written cfg null mn rows c n hdr body` is the data section (a supported configuration `Dw.CfgOK`, a quiet NULL text,
`Dw.dataLines … = some (hdr :: body)`, a non-empty r × n matrix).  `C01_file_writeObj` connects them to `Wo.writeObj`: the text of a
successful `writeObj` IS such a pair (`Wo.writeObj_steps` / `Wo.writeObj_of_steps`).

HYPOTHESES.
  header   `hc : Cy.FileConf opts.hdr version wrap las` = the hypotheses of `C03_file` + no DLM item in ~Version (`C03_file` assumes
           it for `readLines`: the delimiter is then SPACE; a `DLM SPACE` item is covered by Props/C01FileDlm.lean, hypothesis
           `Fd.FileConfD`, of which `FileConf` is the DLM-free case: the proofs here go through the `Fd.*_dlm` lemmas)
  data     `wd : Rt.Written …`;  `hn : null.head? ≠ some '~'` (a body line must not look like a title, `…_needs_null_no_tilde`);
           `hd : data_section_header = '~' :: a :: r` with `upperC a = 'A'` (the `~A` line must be a data title,
           `…_needs_data_title`; the default is `~ASCII`)
  the two halves fit:  WRAP = YES in the written header, or written with `wrap=False` and WRAP ≠ YES (`writeObj` guarantees one of
           the two); in the YES case the number of ~Curves items is the number of columns (`writeObj` refuses anything else);
           `nullOf` maps the text of the written NULL item to the float text `nv`.

THEOREMS.
  `C01_file`            (a) sections = `Cy.firstRead` (what `C03_file` states: the five sections, written items under `rdExpected`);
                        (b) steer = `Fr.fileSteer`: VERS = the version, WRAP / NULL = the value text of the single written WRAP /
                        NULL item (`Fr.steerVal`: `none` when there is none or several), DLM none;
                        (c) exactly one data window = (number of header lines, that + number of body lines), whose result is
                        `readData` on it with those steering values and `d` = number of written ~Curves items
  `C01_file_wrapYes`    … = `.ok (normal engine, assignCurves n (applyNull … (matrixColumns ft n (Rt.tokenRows c null rows))))`
  `C01_file_unwrapped`  … curves = `assignCurves d (applyNull … (matrixColumns ft n (Rt.tokenRows c null rows)))`, any engine
  `C01_file_samples`    in the words of the property: `n` curves, curve `j` is declared curve `j`, as many rows as the matrix,
                        cell (i, j) = `float()` of the printed token (`C01_value`: within half a unit of the last digit of the
                        sample), NaN iff the sample was NaN for j ≠ 0, the index column never NULL-ed
  `C01_file_writeObj`   the same for the text `Wo.writeObj` returns
NOT proved here: `float()` itself (the table `ft`), `num()` on header values (the sections hold the value TEXTS), ~Other lines
after the data section, text columns.  A DLM item: Props/C01FileDlm.lean.
-/
namespace Lasio.Fr
open Lasio

theorem C01_file (opts : Tf.Opts) (nullOf : Option Str → Option Str) (ft : Dt.FloatTable)
    (version : String) (wrap : Option Bool) (w : Nat) (las las' : Wr.WLas)
    (hlines : List Str) (hH : Wr.headerLines version wrap w las = .ok (hlines, las'))
    (hc : Cy.FileConf opts.hdr version wrap las)
    {cfg : Dw.DataCfg} {null : Str} {mn : List Str} {rows : List (List Dw.F64)} {c : Dw.RowCfg} {n : Nat} {hdr : Str}
    {body : List Str} (wd : Rt.Written cfg null mn rows c n hdr body) (hn : null.head? ≠ some '~')
    (a : Char) (r : Str) (hd : cfg.dataSectionHeader = '~' :: a :: r) (ha : upperC a = 'A') :
    Tf.readFull opts nullOf ft (fileDoc hlines hdr body) = .ok
      ⟨Cy.firstRead opts.hdr version wrap las, fileSteer opts.hdr version wrap las,
       [⟨hlines.length, hlines.length + body.length,
         Dt.readData opts.dat (fileDoc hlines hdr body) hlines.length (hlines.length + body.length)
           (Tf.dtSteer nullOf (fileSteer opts.hdr version wrap las)) las.curves.length ft⟩]⟩ := by
  rw [← Fd.fileSteerD_eq _ _ _ _ hc.hdlm]
  exact Fd.readFull_file_dlm opts nullOf ft version wrap w las las' hlines hH (Fd.FileConf.toD hc) wd hn a r hd ha

/-- **WRAP = YES in the written header** (the file written with any `wrap`), as many ~Curves items as columns: the normal engine
returns the matrix of written tokens, column `j` assigned to curve `j`. -/
theorem C01_file_wrapYes (opts : Tf.Opts) (nullOf : Option Str → Option Str) (ft : Dt.FloatTable)
    (version : String) (wrap : Option Bool) (w : Nat) (las las' : Wr.WLas)
    (hlines : List Str) (hH : Wr.headerLines version wrap w las = .ok (hlines, las'))
    (hc : Cy.FileConf opts.hdr version wrap las)
    {cfg : Dw.DataCfg} {null : Str} {mn : List Str} {rows : List (List Dw.F64)} {c : Dw.RowCfg} {n : Nat} {hdr : Str}
    {body : List Str} (wd : Rt.Written cfg null mn rows c n hdr body) (hn : null.head? ≠ some '~')
    (a : Char) (r : Str) (hd : cfg.dataSectionHeader = '~' :: a :: r) (ha : upperC a = 'A')
    (hwy : steerVal opts.hdr "WRAP" (RH.versionCopy version wrap las) = some Dt.yesTxt)
    (hcur : las.curves.length = n) :
    Tf.readFull opts nullOf ft (fileDoc hlines hdr body) = .ok
      ⟨Cy.firstRead opts.hdr version wrap las, fileSteer opts.hdr version wrap las,
       [⟨hlines.length, hlines.length + body.length,
         .ok (.normal, Dt.assignCurves n (Dt.applyNull (opts.dat.nullPolicy == .strict)
           (nullOf (steerVal opts.hdr "NULL" (Wr.standardizeItems las.well)))
           (Dt.matrixColumns ft n (Rt.tokenRows c null rows))))⟩]⟩ := by
  rw [C01_file opts nullOf ft version wrap w las las' hlines hH hc wd hn a r hd ha, hcur,
    ← Fd.fileSteerD_eq _ _ _ _ hc.hdlm]
  obtain ⟨h1, h2, h3⟩ := Fd.dtSteer_file_dlm nullOf opts.hdr version wrap las (Fd.dlmOK_of_none _ _ _ _ hc.hdlm)
  obtain ⟨h4, h5⟩ := h3 _ hwy
  obtain ⟨e, p⟩ := opts.dat
  rw [readData_file_wrapYes wd hlines e p _ ft h1 h4 h5, h2]

/-- **written with `wrap=False`, WRAP ≠ YES in the written header**: any engine, any NULL policy, any number of ~Curves items:
the curves are those of the matrix of written tokens. -/
theorem C01_file_unwrapped (opts : Tf.Opts) (nullOf : Option Str → Option Str) (ft : Dt.FloatTable)
    (version : String) (wrap : Option Bool) (w : Nat) (las las' : Wr.WLas)
    (hlines : List Str) (hH : Wr.headerLines version wrap w las = .ok (hlines, las'))
    (hc : Cy.FileConf opts.hdr version wrap las)
    {cfg : Dw.DataCfg} {null : Str} {mn : List Str} {rows : List (List Dw.F64)} {c : Dw.RowCfg} {n : Nat} {hdr : Str}
    {body : List Str} (wd : Rt.Written cfg null mn rows c n hdr body) (hn : null.head? ≠ some '~')
    (a : Char) (r : Str) (hd : cfg.dataSectionHeader = '~' :: a :: r) (ha : upperC a = 'A')
    (hwrap : cfg.wrap = false) (t : Str)
    (hwt : steerVal opts.hdr "WRAP" (RH.versionCopy version wrap las) = some t) (hne : t ≠ Dt.yesTxt) :
    ∃ res, Tf.readFull opts nullOf ft (fileDoc hlines hdr body) = .ok
      ⟨Cy.firstRead opts.hdr version wrap las, fileSteer opts.hdr version wrap las,
       [⟨hlines.length, hlines.length + body.length, res⟩]⟩ ∧
      res.map Prod.snd = .ok (Dt.assignCurves las.curves.length (Dt.applyNull (opts.dat.nullPolicy == .strict)
        (nullOf (steerVal opts.hdr "NULL" (Wr.standardizeItems las.well)))
        (Dt.matrixColumns ft n (Rt.tokenRows c null rows)))) := by
  refine ⟨_, C01_file opts nullOf ft version wrap w las las' hlines hH hc wd hn a r hd ha, ?_⟩
  rw [← Fd.fileSteerD_eq _ _ _ _ hc.hdlm]
  obtain ⟨h1, h2, h3⟩ := Fd.dtSteer_file_dlm nullOf opts.hdr version wrap las (Fd.dlmOK_of_none _ _ _ _ hc.hdlm)
  obtain ⟨_, h5⟩ := h3 _ hwt
  obtain ⟨e, p⟩ := opts.dat
  rw [readData_file_unwrapped wd hwrap hlines e p _ _ ft h1 (by rw [h5]; exact hne), h2]

/-- **In the words of the property.**  `curves` = what the file-level theorems return under the strict NULL policy with the header
NULL `nv`, for `n` declared curves.  Same number of curves; curve `j` is declared curve `j` (its mnemonic is item `j` of the
re-read ~Curves section, the written one under the case map); every curve has as many samples as the matrix has rows; sample
(i, j) that is not NaN comes back as `float()` of its printed token `'%.Nf' % x` — whose decimal lies within half a unit of the
last digit of `x` (`C01_value`) —, for j ≠ 0 it comes back as NaN iff it was NaN (through the NULL marker), and the index column
is never NULL-ed (a NaN there comes back as the number NULL). -/
theorem C01_file_samples (ft : Dt.FloatTable) (null nv : Str) (c : Dw.RowCfg) (rows : List (List Dw.F64)) (n : Nat)
    (hrect : ∀ r ∈ rows, r.length = n) (htab : Rt.TableOK ft null nv c rows) (hclash : Rt.NoNullClash ft nv c rows)
    (curves : List (Dt.Slot × Dt.Column))
    (hcv : curves = Dt.assignCurves n (Dt.applyNull true (some nv) (Dt.matrixColumns ft n (Rt.tokenRows c null rows)))) :
    curves.length = n ∧
    (∀ j, j < n → ∃ col, curves[j]? = some (.declared j, col) ∧ col.length = rows.length) ∧
    ∀ i j row x, rows[i]? = some row → row[j]? = some x →
      (j ≠ 0 → (Dt.floatCell (curves.map Prod.snd) j i = some Dt.nanTxt ↔ x.isNaN = true)) ∧
      (j ≠ 0 → x.isNaN = false →
        Dt.floatCell (curves.map Prod.snd) j i = Dt.toFloat ft (Dw.fmtFixed (c.colFmt j).prec x)) ∧
      (j = 0 → Dt.floatCell (curves.map Prod.snd) j i = Dt.toFloat ft (Dw.cellToken null (c.colFmt 0) x)) ∧
      (∀ neg m e, x = .finite neg m e → ∃ q : Int, Dw.decOfTok (Dw.fmtFixed (c.colFmt j).prec x) = some (q, (c.colFmt j).prec) ∧
        2 * (q * 2 ^ (-e).toNat - Dw.sgn neg * m * 2 ^ e.toNat * 10 ^ (c.colFmt j).prec).natAbs ≤ 2 ^ (-e).toNat) := by
  have hlen : (Dt.applyNull true (some nv) (Dt.matrixColumns ft n (Rt.tokenRows c null rows))).length = n := by
    rw [Dt.applyNull_length, matrixColumns_length]
  obtain ⟨h1, h2, h3⟩ := assignCurves_square n _ hlen
  subst hcv
  refine ⟨h1, ?_, ?_⟩
  · intro j hj
    have hj' : j < (Dt.assignCurves n (Dt.applyNull true (some nv)
        (Dt.matrixColumns ft n (Rt.tokenRows c null rows)))).length := by rw [h1]; exact hj
    refine ⟨((Dt.assignCurves n (Dt.applyNull true (some nv)
        (Dt.matrixColumns ft n (Rt.tokenRows c null rows))))[j]).2, ?_, ?_⟩
    · have := h3 j hj
      rw [List.getElem?_eq_getElem hj'] at this ⊢
      simp only [Option.map_some, Option.some.injEq] at this
      rw [← this]
    · have hcol : (Dt.applyNull true (some nv) (Dt.matrixColumns ft n (Rt.tokenRows c null rows)))[j]? =
          some ((Dt.assignCurves n (Dt.applyNull true (some nv)
            (Dt.matrixColumns ft n (Rt.tokenRows c null rows))))[j]).2 := by
        conv => lhs; rw [← h2]
        rw [List.getElem?_map, List.getElem?_eq_getElem hj']; rfl
      have hs := Dt.C06_shape true (some nv) (Dt.matrixColumns ft n (Rt.tokenRows c null rows)) j
      rw [hcol] at hs
      cases hm : (Dt.matrixColumns ft n (Rt.tokenRows c null rows))[j]? with
      | none => rw [hm] at hs; cases hs
      | some col0 =>
        rw [hm] at hs
        simp only [Option.map_some, Option.some.injEq] at hs
        rw [hs, matrixColumns_col_length ft n _ j col0 hm]
        simp [Rt.tokenRows]
  · intro i j row x hi hx
    rw [h2]
    obtain ⟨m1, m2, m3⟩ := Dt.C06_roundtrip_mask ft null nv c rows n hrect htab hclash i j row x hi hx
    refine ⟨m1, m2, m3, ?_⟩
    intro neg m e hxe
    subst hxe
    exact Dw.C01_value _ neg m e

/-- **The text of `Wo.writeObj`.**  The steps of a successful `las.write(...)`: `v` the resolved version, `o2` the object after
`prepare`, `hl` the header lines of `toWLas o2`, `null` the NULL text, `hdr :: body` the data lines.  Then `writeObj` returns exactly
`hl.1 ++ hdr :: body`, and `readFull` of that text (each line followed by "\n") is what `C01_file` says for `las = toWLas o2`. -/
theorem C01_file_writeObj (opts : Tf.Opts) (nullOf : Option Str → Option Str) (ft : Dt.FloatTable)
    {wcfg : Wo.WriteCfg} {sd : Option Wo.F64} {o : Wo.WObj} {vsec : List Wo.OItem} {v : String} {o2 : Wo.WObj}
    {hl : List Str × Wr.WLas} {null : Str} {hdr : Str} {body : List Str}
    (hs : (o.data.length != o.curves.length || !Wo.sameLengths o.data) = false)
    (h1 : Wo.setWrap wcfg o = .ok vsec) (h2 : Wo.resolveVersion wcfg o.versionTr vsec = .ok v) (h3 : Wo.prepare sd o = .ok o2)
    (h4 : Wr.headerLines v wcfg.wrap wcfg.headerWidth (Wo.toWLas o2) = .ok hl)
    (h5 : Wo.nullText (Wo.afterHeader wcfg o2) = .ok null)
    (h6 : Dw.dataLines (Wo.dataCfg wcfg) null ((Wo.afterHeader wcfg o2).curves.map (·.session))
      (Wo.rowsOf (Wo.afterHeader wcfg o2).data) = some (hdr :: body))
    (hc : Cy.FileConf opts.hdr v wcfg.wrap (Wo.toWLas o2))
    {c : Dw.RowCfg} {n : Nat}
    (wd : Rt.Written (Wo.dataCfg wcfg) null ((Wo.afterHeader wcfg o2).curves.map (·.session))
      (Wo.rowsOf (Wo.afterHeader wcfg o2).data) c n hdr body)
    (hn : null.head? ≠ some '~')
    (a : Char) (r : Str) (hd : wcfg.dataSectionHeader = '~' :: a :: r) (ha : upperC a = 'A') :
    Wo.writeObj wcfg sd o = .ok (hl.1 ++ hdr :: body, Wo.afterHeader wcfg o2) ∧
    Tf.readFull opts nullOf ft (fileDoc hl.1 hdr body) = .ok
      ⟨Cy.firstRead opts.hdr v wcfg.wrap (Wo.toWLas o2), fileSteer opts.hdr v wcfg.wrap (Wo.toWLas o2),
       [⟨hl.1.length, hl.1.length + body.length,
         Dt.readData opts.dat (fileDoc hl.1 hdr body) hl.1.length (hl.1.length + body.length)
           (Tf.dtSteer nullOf (fileSteer opts.hdr v wcfg.wrap (Wo.toWLas o2))) (Wo.toWLas o2).curves.length ft⟩]⟩ :=
  ⟨Wo.writeObj_of_steps hs h1 h2 h3 h4 h5 h6,
   C01_file opts nullOf ft v wcfg.wrap wcfg.headerWidth (Wo.toWLas o2) hl.2 hl.1 h4 hc wd hn a r hd ha⟩

/-! ## non-vacuity: a small LASFile, written and read back -/

def fs (s : String) : Str := s.toList
def fVers : Wr.WItem := Wr.mkWItem (fs "VERS") [] (.num (fs "2.0") false) (fs "old")
def fNullIt : Wr.WItem := Wr.mkWItem (fs "Null") [] (.num (fs "-999.25") false) (fs "null value")
def fDept : Wr.WItem := Wr.mkWItem (fs "DEPT") (fs "M") (.str []) (fs "depth")
def fGr : Wr.WItem := Wr.mkWItem (fs "Gr") (fs "API") (.str []) (fs "gamma")
/-- STRT / STOP / STEP as `update_start_stop_step` leaves them (`'%.5f'` strings), unit as `update_units_from_index_curve` does -/
def fStrt : Wr.WItem := Wr.mkWItem (fs "STRT") (fs "M") (.str (fs "1.00000")) (fs "start")
def fStop : Wr.WItem := Wr.mkWItem (fs "STOP") (fs "M") (.str (fs "2.00000")) (fs "stop")
def fStep : Wr.WItem := Wr.mkWItem (fs "STEP") (fs "M") (.str (fs "1.00000")) (fs "step")
def fLas : Wr.WLas := ⟨[fVers, Wr.wrapItem true], true, [fStrt, fStop, fStep, fNullIt], [fDept, fGr], [], fs "note"⟩
/-- DEPT 1.0, 2.0; GR 0.123456 (binary64), NaN -/
def fRows : List (List Dw.F64) :=
  [[.finite false 1 0, .finite false 8895942329546431 (-56)], [.finite false 1 1, .nan]]
def fCfg : Dw.DataCfg := ⟨false, fs "%.2f", [], none, [' '], [' '], 80, 20, fs "~ASCII", false⟩
def fRowCfg : Dw.RowCfg := ⟨⟨none, 2⟩, [], 10, [' '], [' ']⟩
def fNull : Str := fs "-999.25"
def fHdr : Str := fs "~ASCII -------------"
def fBody : List Str := [fs "       1.00       0.12", fs "       2.00    -999.25"]
def fH1 : Str := fs "0x1.0000000000000p+0"
def fH2 : Str := fs "0x1.0000000000000p+1"
def fH012 : Str := fs "0x1.eb851eb851eb8p-4"
def fHNull : Str := fs "-0x1.f3a0000000000p+9"
def fFt : Dt.FloatTable := [(fs "1.00", fH1), (fs "2.00", fH2), (fs "0.12", fH012), (fs "-999.25", fHNull)]
def fNullOf (t : Option Str) : Option Str := if t = some (fs "-999.25") then some fHNull else none
def fOpts : Tf.Opts := ⟨⟨false, .upper⟩, ⟨.numpy, .strict⟩⟩

theorem fConf (kind : SecName) (it : Wr.WItem)
    (h : it = fVers ∨ it = fNullIt ∨ it = fDept ∨ it = fGr ∨ it = fStrt ∨ it = fStop ∨ it = fStep) :
    Wr.TextConf kind it :=
  Cy.textConf_of_forall [fVers, fNullIt, fDept, fGr, fStrt, fStop, fStep] (by decide +kernel) kind it
    (by simpa only [List.mem_cons, List.not_mem_nil, or_false] using h)

theorem fFileConf : Cy.FileConf fOpts.hdr "2.0" (some false) fLas :=
  Fd.fileConf_of_check _ _ _ _ (by decide +kernel)
    ⟨Wr.mkWItem (fs "VERS") [] (.num (fs "2.0") false) (fs "CWLS log ASCII Standard -VERSION 2.0"), by decide +kernel⟩
    (by decide +kernel)

theorem fWritten : Rt.Written fCfg fNull [fs "DEPT", fs "GR"] fRows fRowCfg 2 fHdr fBody :=
  ⟨by rfl, ⟨by decide, by decide, by decide, ⟨by decide, by decide⟩⟩, Rt.quietTok_of_check _ (by decide +kernel),
    by decide +kernel, by decide, by decide, by decide⟩

/-- **the explicit re-read of a concrete file**: version 2.0, `wrap=False`, `%.2f`, `mnemonic_case="upper"`, numpy engine.
The sections, the steering values (VERS 2.0, WRAP NO, NULL -999.25, no DLM), one data window, two curves of two samples:
DEPT = 1.0, 2.0 and GR = 0.12 (0.123456 within half a unit of the second decimal), NaN. -/
example (hlines : List Str) (las' : Wr.WLas) (hH : Wr.headerLines "2.0" (some false) 20 fLas = .ok (hlines, las')) :
    ∃ res, Tf.readFull fOpts fNullOf fFt (fileDoc hlines fHdr fBody) = .ok
        ⟨Cy.firstRead fOpts.hdr "2.0" (some false) fLas, fileSteer fOpts.hdr "2.0" (some false) fLas,
         [⟨hlines.length, hlines.length + 2, res⟩]⟩ ∧
      res.map Prod.snd = .ok [(.declared 0, .floats [fH1, fH2]), (.declared 1, .floats [fH012, Dt.nanTxt])] ∧
      fileSteer fOpts.hdr "2.0" (some false) fLas = ⟨some (fs "2.0"), some (fs "NO"), some (fs "-999.25"), none⟩ ∧
      Cy.secItems Rd.kCurves (Cy.firstRead fOpts.hdr "2.0" (some false) fLas) =
        [⟨fs "DEPT", fs "M", [], fs "depth"⟩, ⟨fs "GR", fs "API", [], fs "gamma"⟩] ∧
      Cy.secItems Rd.kWell (Cy.firstRead fOpts.hdr "2.0" (some false) fLas) =
        [⟨fs "STRT", fs "M", fs "1.00000", fs "start"⟩, ⟨fs "STOP", fs "M", fs "2.00000", fs "stop"⟩,
         ⟨fs "STEP", fs "M", fs "1.00000", fs "step"⟩, ⟨fs "NULL", [], fs "-999.25", fs "null value"⟩] := by
  obtain ⟨res, h1, h2⟩ := C01_file_unwrapped fOpts fNullOf fFt "2.0" (some false) 20 fLas las' hlines hH fFileConf fWritten
    (by decide) 'A' (fs "SCII") rfl (by decide) rfl (fs "NO") (by decide +kernel) (by decide)
  refine ⟨res, h1, ?_, by decide +kernel⟩
  rw [h2]
  decide +kernel

theorem fTokens : Rt.tokenRows fRowCfg fNull fRows = [[fs "1.00", fs "0.12"], [fs "2.00", fs "-999.25"]] := by decide +kernel

theorem fTable : Rt.TableOK fFt fNull fHNull fRowCfg fRows := Rt.tableOK_of_check (by decide +kernel)

theorem fNoClash : Rt.NoNullClash fFt fHNull fRowCfg fRows := Rt.noNullClash_of_check (by decide +kernel)

/-- the corollary applies to the example: two curves of two samples; GR sample 0 is `float("0.12")`, GR sample 1 is NaN -/
example :
    let curves := Dt.assignCurves 2 (Dt.applyNull true (some fHNull) (Dt.matrixColumns fFt 2 (Rt.tokenRows fRowCfg fNull fRows)))
    curves.length = 2 ∧ Dt.floatCell (curves.map Prod.snd) 1 0 = some fH012 ∧
    Dt.floatCell (curves.map Prod.snd) 1 1 = some Dt.nanTxt := by
  intro curves
  obtain ⟨h1, _, h3⟩ := C01_file_samples fFt fNull fHNull fRowCfg fRows 2 (by decide) fTable fNoClash curves rfl
  refine ⟨h1, ?_, ?_⟩
  · exact ((h3 0 1 _ _ rfl rfl).2.1 (by decide) rfl).trans (by decide)
  · exact ((h3 1 1 _ _ rfl rfl).1 (by decide)).mpr rfl

def fDoc : Tf.Doc :=
  match Wr.headerLines "2.0" (some false) 20 fLas with
  | .ok (hl, _) => fileDoc hl fHdr fBody
  | .error _ => []

/-- the same by running the two models (no theorem involved) -/
example :
    ((Tf.readFull fOpts fNullOf fFt fDoc).toOption.map fun r => r.steer) =
      some ⟨some (fs "2.0"), some (fs "NO"), some (fs "-999.25"), none⟩ ∧
    ((Tf.readFull fOpts fNullOf fFt fDoc).toOption.map fun r => r.data.map fun d => (d.first, d.last)) = some [(14, 16)] ∧
    ((Tf.readFull fOpts fNullOf fFt fDoc).toOption.map fun r => r.data.map fun d => d.res.toOption.map Prod.snd) =
      some [some [(.declared 0, .floats [fH1, fH2]), (.declared 1, .floats [fH012, Dt.nanTxt])]] := by
  decide +kernel

/-! ## the hypotheses are needed -/

/-- `hn` is needed: with the NULL text `~9` a NaN in the index column is written as a line that starts with `~9` — a section title
for the reader (the data section then has no line, and the line opens a seventh section).  All of `Rt.Written` holds. -/
theorem C01_file_counterexample_needs_null_no_tilde :
    Rt.Written fCfg (fs "~9") [fs "DEPT", fs "GR"] [[.nan, .finite false 1 0]] fRowCfg 2 fHdr [fs "         ~9       1.00"] ∧
    Rd.isTitle (fs "         ~9       1.00") = true ∧
    (match Wr.headerLines "2.0" (some false) 20 fLas with
     | .ok (hl, _) => (Rd.findSections (fileDoc hl fHdr [fs "         ~9       1.00"])).map (·.2.2)
     | .error _ => []) =
      [fs "~Version -----------", fs "~Well --------------", fs "~Curve Information -", fs "~Params ------------",
       fs "~Other -------------", fs "~ASCII -------------", fs "~9       1.00"] := by
  refine ⟨⟨by rfl, ⟨by decide, by decide, by decide, ⟨by decide, by decide⟩⟩, Rt.quietTok_of_check _ (by decide +kernel),
    by decide +kernel, by decide, by decide, by decide⟩, by decide +kernel⟩

/-- the data-title hypothesis is needed: with `data_section_header="~B"` the `~B …` line is the title of a header-items section:
the reader reports NO data window and parses the data lines as header items -/
theorem C01_file_counterexample_needs_data_title :
    Dw.dataLines { fCfg with dataSectionHeader := fs "~B" } fNull [fs "DEPT", fs "GR"] fRows =
      some (fs "~B -----------------" :: fBody) ∧
    Rd.sectionType (Rd.sline (fs "~B -----------------")) = .items ∧
    (match Wr.headerLines "2.0" (some false) 20 fLas with
     | .ok (hl, _) =>
       (Tf.readFull fOpts fNullOf fFt (fileDoc hl (fs "~B -----------------") fBody)).toOption.map fun r =>
         (r.data.length, r.sections.map (·.1))
     | .error _ => none) =
      some (0, [Rd.kVersion, Rd.kWell, Rd.kCurves, Rd.kParameter, Rd.kOther, fs "B -----------------"]) := by
  decide +kernel

end Lasio.Fr

#print axioms Lasio.Fr.C01_file
#print axioms Lasio.Fr.C01_file_wrapYes
#print axioms Lasio.Fr.C01_file_unwrapped
#print axioms Lasio.Fr.C01_file_samples
#print axioms Lasio.Fr.C01_file_writeObj
#print axioms Lasio.Fr.fFileConf
#print axioms Lasio.Fr.fWritten
#print axioms Lasio.Fr.C01_file_counterexample_needs_null_no_tilde
#print axioms Lasio.Fr.C01_file_counterexample_needs_data_title
