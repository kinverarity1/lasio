import LasioProofs.Lemmas.CycleRefresh
import LasioProofs.Props.C01FileDlm
import LasioProofs.Props.C11Data
/-
C11 — the refresh of STRT / STOP / STEP and of the units INSIDE the composed load/save cycle.

`Wo.writeObj cfg sd o` = `setWrap`, `resolveVersion`, `prepare sd o` (= `refreshDecision`, `updateStartStopStep` when decided,
`updateUnits`), header lines of `toWLas o2`, `afterHeader`, data lines.  C11File / C01FileDlm speak about `headerLines` of the
object AFTER `prepare`, C11Data about the data lines.  Here: what `prepare` does to the object `o1` that `read()` builds from
lasio's own output — `o1.indexInitial = o1.index` (the index as read), a STOP item whose value is the NUMBER read from the header.

  `C11_refresh_decision`   for such an object the refresh decision is `index[-1] != STOP.value` (Python's cross-type `!=`)
  `C11_refresh_stable`     … so NO refresh iff `last == stop` as binary64 (a STOP that stayed a `str` always refreshes)
  `C11_refresh_same_float` `last` = the re-read of the last index token, `stop` = the re-read of the STOP text (both through the float
                           table `ft` and `val`, as `Cd.reTok` in column 0): when `float()` returns the same float text for the two
                           tokens (hypothesis on exactly these two tokens) and it is not NaN, no refresh is decided
  `C11_refresh_prec5`      the case the first write produces: it refreshed (STOP text = `'%.5f' % index[-1]`) and the index column is
                           printed with precision 5 — the two tokens are the SAME string, nothing is asked of `float()`
  `C11_prepare_noop`       no refresh + units aligned (what `C16_units` says of every written object): `prepare sd o1 = .ok o1`
  `C11_cycle_fixed_point`  the composed cycle: `las` is the header object some cycle wrote (after `prepare`), `o1` a typed object whose
                           header is the re-read of it (`toWLas o1 = Cy.lasOfRead rv o (firstRead … las)`), no refresh, units aligned.
                           Then `writeObj` on `o1` writes `headerLines (toWLas o1)` ++ the data lines of `o1.data`, reading that header
                           gives the sections and ALL steering values of the first re-read, and in memory every numeric ~Well value
                           (STRT / STOP / STEP included), the data and `index_initial` are untouched
  `C11_cycle_data`         … and the data tokens are those of the previous output (`C11_data_tokens_fixed`)
What changes ONCE: a write that refreshes stores `'%.5f'` STRINGS; their re-read is a number, printed by `str()` in the next write
(`1.00000` -> `1.0`: `C11_refresh_respelt`, numerically equal — the hypothesis `SpeltConf` of the header fixed point fails for that one
step), and an index printed with fewer decimals than it holds makes the NEXT write refresh (`C11_refresh_counterexample_lossy_index`, the
known finding `sss-shift-after-lossy-index-format`: STRT 0.5 -> 0, STOP 1.5 -> 2, STEP 0.5 -> 1 under `%.0f`), after which the decision
is "no refresh" again (`C11_refresh_stable` applies to every cycle: cycle k+1 refreshes iff the float of the STOP text written by cycle k
differs from the float of the last index token written by cycle k).
NOT proved HERE: the typed link itself — that `read()` builds `PVal.num x text` with `x` = the binary64 of the float text and `text` =
`str(x)` — is a hypothesis (`hW`, and `last` / `stop` given as `Cd.reTok`); `hW` is derived from the typed read in Props/C11Typed.lean
(`toWLas_headerObj`, under `LinkOK`) and the whole object `o1` from the written text in Props/C11EndToEnd.lean.  `float()` / `str()` stay
parameters; the general statement "after one
refreshing cycle over an index printed with N < 5 decimals the third output equals the second" needs `'%.5f' % float(tok)` to denote the
decimal of `tok`, a magnitude assumption on `float()` that is not made here (it is shown on the concrete data).
-/
namespace Lasio.Cr
open Lasio Lasio.Wo

/-! ## when the second cycle refreshes -/

/-- **The decision.**  `o1` as `read()` builds it: `index_initial` is the index, no NaN in it.  The refresh is decided iff
`index_initial[-1] != STOP.value`. -/
theorem C11_refresh_decision (o1 : WObj) (idx : List F64) (hii : o1.indexInitial = some idx) (hidx : o1.index = some idx)
    (hnan : ∀ x ∈ idx, x.isNaN = false) (last : F64) (hl : idx.getLast? = some last) (stop : OItem)
    (hs : lookup o1.wellTr sSTOP o1.well = some stop) :
    refreshDecision o1 = .ok (pyNe last stop.value) :=
  refreshDecision_reread o1 idx hii hidx hnan last hl stop hs

/-- **No refresh iff the last index sample `==` the STOP value** (a number, as `num()` makes it); a STOP value that is a `str` (not
a numeric literal) or `None` always refreshes. -/
theorem C11_refresh_stable (o1 : WObj) (idx : List F64) (hii : o1.indexInitial = some idx) (hidx : o1.index = some idx)
    (hnan : ∀ x ∈ idx, x.isNaN = false) (last : F64) (hl : idx.getLast? = some last) (stop : OItem)
    (hs : lookup o1.wellTr sSTOP o1.well = some stop) :
    (∀ x t, stop.value = .num x t → (refreshDecision o1 = .ok false ↔ feq last x = true)) ∧
    ((∀ x t, stop.value ≠ .num x t) → refreshDecision o1 = .ok true) := by
  rw [refreshDecision_reread o1 idx hii hidx hnan last hl stop hs]
  constructor
  · intro x t hv
    rw [hv]
    cases h : feq last x <;> simp [pyNe, h]
  · intro hne
    cases hv : stop.value with
    | num x t => exact absurd hv (hne x t)
    | str s => rfl
    | none => rfl

/-- **Same float, no refresh.**  `last` is the re-read of the last index token `lastTok`, the STOP value the re-read of the STOP text
`stopText` (`float()` through `ft`, then the binary64 the float text denotes: `Cd.reTok` in column 0, where nothing is NULL-ed).  If
`float()` gives the same float text for the two tokens — in particular when they denote the same decimal — and it is not NaN, the second
cycle decides NO refresh. -/
theorem C11_refresh_same_float (ft : Dt.FloatTable) (val : Str → Option F64) (nv : Str) (lastTok stopText : Str)
    (o1 : WObj) (idx : List F64) (hii : o1.indexInitial = some idx) (hidx : o1.index = some idx)
    (hnan : ∀ x ∈ idx, x.isNaN = false) (hl : idx.getLast? = some (Cd.reTok ft val nv 0 lastTok)) (stop : OItem)
    (hs : lookup o1.wellTr sSTOP o1.well = some stop) (t : Str)
    (hv : stop.value = .num (Cd.reTok ft val nv 0 stopText) t)
    (hsame : Dt.toFloat ft stopText = Dt.toFloat ft lastTok) :
    refreshDecision o1 = .ok false := by
  have he : Cd.reTok ft val nv 0 stopText = Cd.reTok ft val nv 0 lastTok := by
    unfold Cd.reTok Cd.readTxt
    rw [hsame]
  have hn : (Cd.reTok ft val nv 0 lastTok).isNaN = false :=
    hnan _ (List.mem_of_getLast? hl)
  refine ((C11_refresh_stable o1 idx hii hidx hnan _ hl stop hs).1 _ t hv).mpr ?_
  rw [he]
  exact feq_self _ hn

/-- **After a refreshing write over an index printed with `%.5f`** (the default): the STOP text is `'%.5f' % x` and the last index token
is `'%.5f' % x` for the same in-memory sample `x` — one and the same string — so the next cycle decides NO refresh. -/
theorem C11_refresh_prec5 (ft : Dt.FloatTable) (val : Str → Option F64) (null nv : Str) (c : Dw.RowCfg) (x : F64)
    (hx : x.isNaN = false) (hp : (c.colFmt 0).prec = 5)
    (o1 : WObj) (idx : List F64) (hii : o1.indexInitial = some idx) (hidx : o1.index = some idx)
    (hnan : ∀ y ∈ idx, y.isNaN = false)
    (hl : idx.getLast? = some (Cd.reTok ft val nv 0 (Dw.cellToken null (c.colFmt 0) x))) (stop : OItem)
    (hs : lookup o1.wellTr sSTOP o1.well = some stop) (t : Str)
    (hv : stop.value = .num (Cd.reTok ft val nv 0 (fmt5 x)) t) :
    refreshDecision o1 = .ok false := by
  have htok : Dw.cellToken null (c.colFmt 0) x = fmt5 x := by
    rw [Cd.cellToken_num null _ x hx, hp]; rfl
  rw [htok] at hl
  exact C11_refresh_same_float ft val nv (fmt5 x) (fmt5 x) o1 idx hii hidx hnan hl stop hs t hv rfl

/-- **`prepare` is the identity** on an object for which no refresh is decided and whose STRT / STOP / STEP / first-curve units are
aligned (`C16_units`: every written object has them aligned, and the reader keeps unit texts) -/
theorem C11_prepare_noop (sd : Option F64) (o1 : WObj) (u : Str) (a b c : Nat)
    (hd : refreshDecision o1 = .ok false) (hu : UnitsAligned o1 u a b c) : prepare sd o1 = .ok o1 :=
  prepare_noop sd o1 u a b c hd hu

/-! ## the composed cycle -/

/-- **The composed cycle is a fixed point.**  `las` is the header object a cycle wrote (`lines1` its header lines); `o1` is a typed
object whose header is the re-read of `lines1`; no refresh is decided for `o1` and its units are aligned; `setWrap`, `nullText` and
`dataLines` succeed.  Then `write` on `o1` succeeds, its text is `headerLines (toWLas o1)` followed by the data lines of `o1.data`,
the header lines read back to the sections AND steering values that `lines1` read back to, and in memory every ~Well value is only
standardised (numbers — STRT / STOP / STEP as read — are untouched), data and `index_initial` are untouched. -/
theorem C11_cycle_fixed_point (o : Rd.ReadOpts) (rv : Str → Wr.WVal) (hrv : Cy.Retype rv) (v : String) (wcfg : WriteCfg)
    (hv : wcfg.version = some v) (w1 : Nat) (las las' : Wr.WLas) (lines1 : List Str)
    (hH : Wr.headerLines v wcfg.wrap w1 las = .ok (lines1, las'))
    (hc : Fd.FileConfD o v wcfg.wrap las) (hx : Cy.CycleConf o v wcfg.wrap las) (hsp : Cy.SpeltConf rv v wcfg.wrap las)
    (o1 : WObj) (hW : toWLas o1 = Cy.lasOfRead rv o (Cy.firstRead o v wcfg.wrap las))
    (sd : Option F64) (u : Str) (a b c : Nat) (hd : refreshDecision o1 = .ok false) (hu : UnitsAligned o1 u a b c)
    (hs : (o1.data.length != o1.curves.length || !sameLengths o1.data) = false)
    (vsec : List OItem) (h1 : setWrap wcfg o1 = .ok vsec)
    (null2 hdr2 : Str) (body2 : List Str) (h5 : nullText (afterHeader wcfg o1) = .ok null2)
    (h6 : Dw.dataLines (dataCfg wcfg) null2 ((afterHeader wcfg o1).curves.map (·.session))
      (rowsOf (afterHeader wcfg o1).data) = some (hdr2 :: body2)) :
    ∃ lines2 las2', Wr.headerLines v wcfg.wrap wcfg.headerWidth (toWLas o1) = .ok (lines2, las2') ∧
      writeObj wcfg sd o1 = .ok (lines2 ++ hdr2 :: body2, afterHeader wcfg o1) ∧
      Rd.readLines o lines1 = .ok ⟨Cy.firstRead o v wcfg.wrap las, Fd.fileSteerD o v wcfg.wrap las, []⟩ ∧
      Rd.readLines o lines2 = .ok ⟨Cy.firstRead o v wcfg.wrap las, Fd.fileSteerD o v wcfg.wrap las, []⟩ ∧
      (∀ (j : Nat) (x : OItem), o1.well[j]? = some x → ∃ y : OItem, (afterHeader wcfg o1).well[j]? = some y ∧
        y.value = stdP x.value x.unit ∧
        y.unit = x.unit ∧ ∀ f t, x.value = .num f t → y.value = x.value) ∧
      (afterHeader wcfg o1).data = o1.data ∧ (afterHeader wcfg o1).indexInitial = o1.indexInitial := by
  have hver := Cy.headerLines_version v wcfg.wrap w1 las las' lines1 hH
  obtain ⟨hc1, _, _, hfix, htot⟩ := Fd.cycle_core_dlm o hrv v wcfg.wrap las hver hc hx hsp
  obtain ⟨lines2, las2', h4⟩ := htot wcfg.headerWidth
  have hr2 := Fd.readLines_header_dlm o v wcfg.wrap wcfg.headerWidth _ las2' lines2 h4 hc1
  rw [hfix, Fd.fileSteerD_of_firstRead o v wcfg.wrap _ las hfix] at hr2
  rw [← hW] at h4
  refine ⟨lines2, las2', h4, ?_, Fd.readLines_header_dlm o v wcfg.wrap w1 las las' lines1 hH hc, hr2,
    fun j x hx => afterHeader_well wcfg o1 j x hx, rfl, rfl⟩
  exact writeObj_of_steps (hl := (lines2, las2')) hs h1 (resolveVersion_given wcfg o1.versionTr vsec v hv hver)
    (prepare_noop sd o1 u a b c hd hu) h4 h5 h6

/-- **… and the data tokens are those of the previous output**: `o1.data` holds the re-read matrix of `rows`, the NULL text is the
same: the token matrix `write` prints for `o1` is the token matrix it printed for `rows` (`C11_data_tokens_fixed`) -/
theorem C11_cycle_data (wcfg : WriteCfg) (o1 : WObj) {ft : Dt.FloatTable} {val : Str → Option F64} {null nv : Str}
    {c : Dw.RowCfg} {rows : List (List F64)}
    (hD : rowsOf o1.data = Cd.reRows ft val null nv c rows)
    (hr : Cd.ReadOK ft val null nv) (hst : Cd.StrtodClose ft val c rows) (hcl : Rt.NoNullClash ft nv c rows)
    (hi : Cd.IndexOK val nv null c rows) :
    Rt.tokenRows c null (rowsOf (afterHeader wcfg o1).data) = Rt.tokenRows c null rows := by
  show Rt.tokenRows c null (rowsOf o1.data) = _
  rw [hD]
  exact C11.C11_data_tokens_fixed hr hst hcl hi

/-! ## concrete objects: a LASFile built from scratch (default ~Version section), and the objects `read()` builds from its outputs -/

def rs (s : String) : Str := s.toList
def rf (n : Bool) (m : Nat) (e : Int) : F64 := .finite n m e
def rCfg (fmt : String) : WriteCfg :=
  ⟨some "2.0", some false, 20, rs fmt, [], none, [' '], [' '], 80, rs "~ASCII", false⟩
def rVersion : List OItem :=
  [mkOItem sVERS [] (.num (rf false 2 0) (rs "2.0")) (rs "CWLS log ASCII Standard -VERSION 2.0"),
   mkOItem sWRAP [] (.str (rs "NO")) (rs "One line per depth step"),
   mkOItem (rs "DLM") [] (.str (rs "SPACE")) (rs "Column Data Section Delimiter")]
def rNull : OItem := mkOItem sNULL [] (.num (rf true 3997 (-2)) (rs "-999.25")) (rs "null")
def rCurves : List OItem := [mkOItem (rs "DEPT") (rs "M") (.str []) (rs "depth"), mkOItem (rs "GR") (rs "API") (.str []) (rs "gamma")]
def rWell (a b c : PVal) : List OItem :=
  [mkOItem sSTRT (rs "M") a (rs "start"), mkOItem sSTOP (rs "M") b (rs "stop"), mkOItem sSTEP (rs "M") c (rs "step"), rNull]
def rNaN : PVal := .num .nan (rs "nan")
/-- `str()` of the float `m · 2^e`, as `read()` stores a header number -/
def rNum (m : Nat) (e : Int) (t : String) : PVal := .num (rf false m e) (rs t)

/-! ### the known finding: an index printed with fewer decimals than it holds -/

/-- built from scratch: index 0.5, 1.0, 1.5 -/
def rFreshL : WObj :=
  ⟨rVersion, false, rWell rNaN rNaN rNaN, false, rCurves, [], [],
   [[rf false 1 (-1), rf false 1 0, rf false 3 (-1)], [rf false 1 0, rf false 2 0, rf false 3 0]], none⟩
/-- what `read()` builds from its `%.0f` output: index 0, 1, 2 (`'%.0f' % 0.5 = "0"`, `'%.0f' % 1.5 = "2"`), STOP the number 1.5 -/
def rReadL1 : WObj :=
  ⟨rVersion, true, rWell (rNum 1 (-1) "0.5") (rNum 3 (-1) "1.5") (rNum 1 (-1) "0.5"), true, rCurves, [], [],
   [[rf false 0 0, rf false 1 0, rf false 2 0], [rf false 1 0, rf false 2 0, rf false 3 0]],
   some [rf false 0 0, rf false 1 0, rf false 2 0]⟩
/-- … and from the output of the second write: STRT 0.0, STOP 2.0, STEP 1.0 -/
def rReadL2 : WObj := { rReadL1 with well := rWell (rNum 0 0 "0.0") (rNum 2 0 "2.0") (rNum 1 0 "1.0") }

def wellLines (t : List Str) : List Str := (t.drop 5).take 3

/-- **COUNTER-EXAMPLE (`sss-shift-after-lossy-index-format`)**: fmt `%.0f`.  Cycle 1 (refresh, the object was not read from a file) writes
STRT 0.50000, STOP 1.50000, STEP 0.50000 over the index tokens 0, 1, 2.  The re-read object has `index[-1] = 2.0 != 1.5 = STOP`:
cycle 2 REFRESHES and writes 0.00000, 2.00000, 1.00000.  For the object re-read from that, `2.0 == 2.0`: cycle 3 does not refresh, prints
the numbers with `str()` (0.0, 2.0, 1.0), and cycle 4 writes the text of cycle 3. -/
theorem C11_refresh_counterexample_lossy_index :
    ((writeObj (rCfg "%.0f") (some (rf false 1 (-1))) rFreshL).toOption.map fun r => wellLines r.1) =
      some [rs "STRT.M 0.50000 : start", rs "STOP.M 1.50000 : stop", rs "STEP.M 0.50000 : step"] ∧
    refreshDecision rReadL1 = .ok true ∧
    ((writeObj (rCfg "%.0f") (some (rf false 1 0)) rReadL1).toOption.map fun r => wellLines r.1) =
      some [rs "STRT.M 0.00000 : start", rs "STOP.M 2.00000 : stop", rs "STEP.M 1.00000 : step"] ∧
    refreshDecision rReadL2 = .ok false ∧
    ((writeObj (rCfg "%.0f") (some (rf false 1 0)) rReadL2).toOption.map fun r => wellLines r.1) =
      some [rs "STRT.M    0.0 : start", rs "STOP.M    2.0 : stop", rs "STEP.M    1.0 : step"] ∧
    ((writeObj (rCfg "%.0f") (some (rf false 1 0)) rReadL2).toOption.map fun r => r.2.well) = some rReadL2.well ∧
    ((writeObj (rCfg "%.0f") (some (rf false 1 0)) rReadL1).toOption.map fun r => (r.1.drop 15)) =
      ((writeObj (rCfg "%.0f") (some (rf false 1 (-1))) rFreshL).toOption.map fun r => (r.1.drop 15)) := by
  decide +kernel

/-! ### non-vacuity: the default format `%.5f`, a 3-row index -/

/-- built from scratch: index 1, 2, 3; GR 0.123456, NaN, 0.5 -/
def rFresh : WObj :=
  ⟨rVersion, false, rWell rNaN rNaN rNaN, false, rCurves, [], [],
   [[rf false 1 0, rf false 2 0, rf false 3 0], [rf false 8895942329546431 (-56), .nan, rf false 1 (-1)]], none⟩
/-- what `read()` builds from its `%.5f` output (`mnemonic_case="upper"`): the numbers 1.0, 3.0, 1.0; GR 0.12346 (binary64), NaN, 0.5 -/
def rRead : WObj :=
  ⟨rVersion, true, rWell (rNum 1 0 "1.0") (rNum 3 0 "3.0") (rNum 1 0 "1.0"), true, rCurves, [], [],
   [[rf false 1 0, rf false 2 0, rf false 3 0], [rf false 8896230559922583 (-56), .nan, rf false 1 (-1)]],
   some [rf false 1 0, rf false 2 0, rf false 3 0]⟩

/-- **the one-time respelling**: the refreshing first write stores and prints `'%.5f'` strings (`1.00000`), the next write prints the numbers
that were read with `str()` (`1.0`) — equal numbers, different text; the data lines are the same; a further write of the (same) re-read object
gives the same text and leaves the ~Well values as they are -/
theorem C11_refresh_respelt :
    ((writeObj (rCfg "%.5f") (some (rf false 1 0)) rFresh).toOption.map fun r => wellLines r.1) =
      some [rs "STRT.M 1.00000 : start", rs "STOP.M 3.00000 : stop", rs "STEP.M 1.00000 : step"] ∧
    refreshDecision rRead = .ok false ∧
    ((writeObj (rCfg "%.5f") none rRead).toOption.map fun r => wellLines r.1) =
      some [rs "STRT.M    1.0 : start", rs "STOP.M    3.0 : stop", rs "STEP.M    1.0 : step"] ∧
    ((writeObj (rCfg "%.5f") none rRead).toOption.map fun r => r.1.drop 15) =
      some [rs "    1.00000    0.12346", rs "    2.00000    -999.25", rs "    3.00000    0.50000"] ∧
    ((writeObj (rCfg "%.5f") (some (rf false 1 0)) rFresh).toOption.map fun r => r.1.drop 15) =
      some [rs "    1.00000    0.12346", rs "    2.00000    -999.25", rs "    3.00000    0.50000"] ∧
    ((writeObj (rCfg "%.5f") none rRead).toOption.map fun r => (r.2.well, r.2.data, r.2.indexInitial)) =
      some (rRead.well, rRead.data, rRead.indexInitial) := by
  decide +kernel

/-- `num()` for the header values of the example: the numeric literals become numbers that print as they are spelt -/
def rvEx (t : Str) : Wr.WVal :=
  if t = rs "2.0" ∨ t = rs "1.0" ∨ t = rs "3.0" ∨ t = rs "-999.25" then Wr.WVal.num t false else Wr.WVal.str t

theorem rvEx_retype : Cy.Retype rvEx where
  notNone := fun t => by unfold rvEx; split <;> rfl
  falsy := fun t h _ => by
    unfold rvEx at h
    split at h
    · cases h
    · simpa [Wr.WVal.str] using h

def rOpts : Rd.ReadOpts := ⟨false, .upper⟩
def rLas : Wr.WLas := toWLas rRead

theorem rConf (kind : SecName) (it : Wr.WItem) (h : it ∈ rLas.version ++ rLas.well ++ rLas.curves) : Wr.TextConf kind it :=
  Cy.textConf_of_forall _ (by decide +kernel) kind it h

theorem rFileConf : Fd.FileConfD rOpts "2.0" (some false) rLas :=
  Fd.fileConfD_of_check _ _ _ _ (by decide +kernel)
    ⟨(mkOItem sVERS [] (.num (rf false 2 0) (rs "2.0")) (rs "CWLS log ASCII Standard -VERSION 2.0")).toW, by decide +kernel⟩
    (show ∀ d ∈ Fr.steerVal rOpts "DLM" (RH.versionCopy "2.0" (some false) rLas), d = rs "SPACE" by decide +kernel)

theorem rCycleConf : Cy.CycleConf rOpts "2.0" (some false) rLas :=
  ⟨⟨Wr.wrapItem false, by decide +kernel⟩, by decide, by decide, by decide⟩

theorem rSpelt : Cy.SpeltConf rvEx "2.0" (some false) rLas := by
  intro it _
  unfold Cy.Spelt rvEx
  split <;> rfl

theorem rUnits : UnitsAligned rRead (rs "M") 0 1 2 :=
  ⟨by decide +kernel, by decide +kernel, by decide +kernel,
   fun x hx => by cases hx; rfl, fun x hx => by cases hx; rfl, fun x hx => by cases hx; rfl, fun c0 hc => by cases hc; rfl⟩

/-- `C11_refresh_stable` on the example: 3.0 == 3.0 -/
theorem rNoRefresh : refreshDecision rRead = .ok false :=
  ((C11_refresh_stable rRead _ rfl rfl (by decide +kernel) (rf false 3 0) rfl
    (mkOItem sSTOP (rs "M") (rNum 3 0 "3.0") (rs "stop")) (by decide +kernel)).1 (rf false 3 0) (rs "3.0") rfl).mpr
    (by decide +kernel)

theorem rPrepare (sd : Option F64) : prepare sd rRead = .ok rRead := prepare_noop sd rRead _ 0 1 2 rNoRefresh rUnits

theorem rDataLines : Dw.dataLines (dataCfg (rCfg "%.5f")) (rs "-999.25") ((afterHeader (rCfg "%.5f") rRead).curves.map (·.session))
    (rowsOf (afterHeader (rCfg "%.5f") rRead).data) = some (rs "~ASCII -------------" ::
      [rs "    1.00000    0.12346", rs "    2.00000    -999.25", rs "    3.00000    0.50000"]) := by
  decide +kernel

/-- **the composed cycle on the example, by the theorems**: `rRead` is what `read()` builds from the output written for `rRead` itself
(`hW`), no refresh is decided (`C11_refresh_stable`: 3.0 == 3.0), the units are aligned: `write` gives `headerLines (toWLas rRead)` followed by
the three data lines, and that header reads back to the same sections and steering values as the previous one -/
example (lines1 : List Str) (las' : Wr.WLas) (hH : Wr.headerLines "2.0" (some false) 60 rLas = .ok (lines1, las')) :
    ∃ lines2 las2', Wr.headerLines "2.0" (some false) 20 (toWLas rRead) = .ok (lines2, las2') ∧
      writeObj (rCfg "%.5f") none rRead = .ok
        (lines2 ++ rs "~ASCII -------------" ::
          [rs "    1.00000    0.12346", rs "    2.00000    -999.25", rs "    3.00000    0.50000"], afterHeader (rCfg "%.5f") rRead) ∧
      Rd.readLines rOpts lines1 = .ok ⟨Cy.firstRead rOpts "2.0" (some false) rLas, Fd.fileSteerD rOpts "2.0" (some false) rLas, []⟩ ∧
      Rd.readLines rOpts lines2 = .ok ⟨Cy.firstRead rOpts "2.0" (some false) rLas, Fd.fileSteerD rOpts "2.0" (some false) rLas, []⟩ ∧
      Fd.fileSteerD rOpts "2.0" (some false) rLas = ⟨some (rs "2.0"), some (rs "NO"), some (rs "-999.25"), some (rs "SPACE")⟩ ∧
      Cy.secItems Rd.kWell (Cy.firstRead rOpts "2.0" (some false) rLas) =
        [⟨rs "STRT", rs "M", rs "1.0", rs "start"⟩, ⟨rs "STOP", rs "M", rs "3.0", rs "stop"⟩,
         ⟨rs "STEP", rs "M", rs "1.0", rs "step"⟩, ⟨rs "NULL", [], rs "-999.25", rs "null"⟩] := by
  obtain ⟨lines2, las2', h4, hw, r1, r2, _⟩ := C11_cycle_fixed_point rOpts rvEx rvEx_retype "2.0" (rCfg "%.5f") rfl 60 rLas las'
    lines1 hH rFileConf rCycleConf rSpelt rRead (by decide +kernel) none (rs "M") 0 1 2 rNoRefresh rUnits (by decide +kernel) _ rfl
    (rs "-999.25") _ _ (by decide +kernel) rDataLines
  exact ⟨lines2, las2', h4, hw, r1, r2, by decide +kernel⟩

/-- `C11_refresh_prec5` on the example: last index token and STOP text are both `3.00000` -/
example : refreshDecision rRead = .ok false :=
  C11_refresh_prec5 [(rs "3.00000", rs "0x1.8000000000000p+1")]
    (fun s => if s = rs "0x1.8000000000000p+1" then some (rf false 3 0) else none) (rs "-999.25") (rs "-0x1.f3a0000000000p+9")
    ⟨⟨none, 5⟩, [], 10, [' '], [' ']⟩ (rf false 3 0) rfl rfl rRead _ rfl rfl (by decide +kernel) (by decide +kernel)
    (mkOItem sSTOP (rs "M") (rNum 3 0 "3.0") (rs "stop")) (by decide +kernel) (rs "3.0") (by decide +kernel)

end Lasio.Cr

#print axioms Lasio.Cr.C11_refresh_decision
#print axioms Lasio.Cr.C11_refresh_stable
#print axioms Lasio.Cr.C11_refresh_same_float
#print axioms Lasio.Cr.C11_refresh_prec5
#print axioms Lasio.Cr.C11_prepare_noop
#print axioms Lasio.Cr.C11_cycle_fixed_point
#print axioms Lasio.Cr.C11_cycle_data
#print axioms Lasio.Cr.C11_refresh_counterexample_lossy_index
#print axioms Lasio.Cr.C11_refresh_respelt
#print axioms Lasio.Cr.rFileConf
