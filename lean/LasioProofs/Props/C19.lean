import LasioModel.Reader
import LasioProofs.Lemmas.ReaderLemmas
/-
C19 — `ignore_header_errors=True` makes header parsing tolerant and non-interfering.

Model: `Lasio.Rd.itemsLoop` / `parseItemsSection` (reader.py `parse_header_items_section`), `Lasio.Rd.steer`
(las.py:272-286).  A section body is the list of physical lines between two title lines; `bodyItems o p body` is what
the lines parse to one by one (`lineItem`), `bodyRun` the same with the error of the first unparsable line.

* `C19_total`            with the flag the items loop never returns an error, whatever the lines are
* `C19_local`            a line inserted into a body only inserts what it alone parses to (nothing or one item)
* `C19_steer`            an item whose upper-cased mnemonic is not VERS/WRAP/DLM/NULL leaves the steering unchanged
* `C19_only_header_error` without the flag the only error is `HeaderError` of the first unparsable line
-/
namespace Lasio.Rd

/-- WITHOUT THE FLAG the only possible failure of the loop is the `LASHeaderError` of an unparsable line, and its
line number is that of a line of the section that `read_header_line` cannot parse (1-based: `lineNo + i + 2`). -/
theorem C19_only_header_error (o : ReadOpts) (p : Parser) (last : Nat) (rest : List Str) (lineNo : Nat) (e : RErr)
    (h : itemsLoop o p last rest lineNo = .error e) :
    o.ignoreHeaderErrors = false ∧
      ∃ i l, rest[i]? = some l ∧ lineRes o p l = .bad ∧ e = .headerError (lineNo + i + 2) := by
  induction rest generalizing lineNo with
  | nil => simp [itemsLoop] at h
  | cons b bs ih =>
    simp only [itemsLoop] at h
    cases hr : lineRes o p b with
    | title => simp [hr] at h
    | skip =>
      simp only [hr] at h
      split at h
      · simp at h
      · obtain ⟨h1, i, l, hl, hb, he⟩ := ih (lineNo + 1) h
        exact ⟨h1, i + 1, l, by simpa using hl, hb, he.trans (congrArg RErr.headerError (by omega))⟩
    | bad =>
      simp only [hr] at h
      cases hi : o.ignoreHeaderErrors with
      | true =>
        simp only [hi, if_true] at h
        split at h
        · simp at h
        · obtain ⟨h1, _⟩ := ih (lineNo + 1) h
          rw [hi] at h1; cases h1
      | false =>
        simp [hi] at h
        exact ⟨rfl, 0, b, by simp, hr, by rw [← h]⟩
    | item it =>
      simp only [hr] at h
      split at h
      · simp at h
      · cases hrec : itemsLoop o p last bs (lineNo + 1) with
        | ok l => simp [hrec] at h
        | error e' =>
          simp [hrec] at h
          subst h
          obtain ⟨h1, i, l, hl, hb, he⟩ := ih (lineNo + 1) hrec
          exact ⟨h1, i + 1, l, by simpa using hl, hb, he.trans (congrArg RErr.headerError (by omega))⟩

/-- … and on a section body it is exactly the FIRST unparsable line (nothing after it is looked at). -/
theorem C19_first_bad_line (o : ReadOpts) (p : Parser) (body rest : List Str) (first : Nat)
    (hi : o.ignoreHeaderErrors = false) (hne : body ≠ []) (hb : ∀ b ∈ body, isTitle b = false) :
    itemsLoop o p (first + body.length) (body ++ rest) first =
      match firstBad o p body with
      | none => .ok (bodyItems o p body)
      | some i => .error (.headerError (first + i + 2)) := by
  rw [itemsLoop_body o p body rest first _ (no_title o p body hb) hne rfl]
  exact bodyRun_strict o p body first hi

/-- With `ignore_header_errors=True` the loop over the lines of a header section cannot fail, for any lines at all. -/
theorem C19_total (o : ReadOpts) (p : Parser) (last : Nat) (rest : List Str) (lineNo : Nat)
    (hi : o.ignoreHeaderErrors = true) : ∃ items, itemsLoop o p last rest lineNo = .ok items := by
  cases h : itemsLoop o p last rest lineNo with
  | ok l => exact ⟨l, rfl⟩
  | error e =>
    have := (C19_only_header_error o p last rest lineNo e h).1
    rw [hi] at this; cases this

/-- … hence `parse_header_items_section` can only fail on the section title / version (`ORDER_DEFINITIONS[version]`),
never on a line of the section. -/
theorem C19_total_section (o : ReadOpts) (ver : VerVal) (secLines : List Str) (first last : Nat) (e : RErr)
    (hi : o.ignoreHeaderErrors = true) (h : parseItemsSection o ver secLines first last = .error e) :
    e = .keyError ∨ e = .unmodelled := by
  unfold parseItemsSection at h
  cases secLines with
  | nil => simp at h
  | cons t rest =>
    simp only at h
    cases hp : mkParser (lineStrip t) ver with
    | ok p =>
      simp only [hp] at h
      obtain ⟨l, hl⟩ := C19_total o p last rest first hi
      rw [hl] at h; cases h
    | error e' =>
      simp only [hp] at h
      cases h
      unfold mkParser at hp
      cases ver with
      | undecided => simp at hp; right; exact hp.symm
      | bad => simp at hp; left; exact hp.symm
      | known v =>
        simp only at hp
        split at hp <;> cases hp

/-- A whole body is read line by line: with the flag, the items of a section whose body is `body` (no title line inside,
`rest` = whatever follows in the file) are exactly what each line parses to on its own. -/
theorem C19_body (o : ReadOpts) (p : Parser) (body rest : List Str) (first : Nat)
    (hi : o.ignoreHeaderErrors = true) (hne : body ≠ []) (hb : ∀ b ∈ body, isTitle b = false) :
    itemsLoop o p (first + body.length) (body ++ rest) first = .ok (bodyItems o p body) := by
  rw [itemsLoop_body o p body rest first _ (no_title o p body hb) hne rfl]
  exact bodyRun_ignore o p body first hi

/-- LOCALITY. Inserting a line `j` (not a title line) into a section body changes the item list only by inserting,
at its place, what `j` alone parses to: nothing, or one item.  The genuine items keep their original mnemonic, unit,
value, description and their order. -/
theorem C19_local (o : ReadOpts) (p : Parser) (l₁ l₂ rest : List Str) (j : Str) (first : Nat)
    (hi : o.ignoreHeaderErrors = true)
    (h₁ : ∀ b ∈ l₁, isTitle b = false) (hj : isTitle j = false) (h₂ : ∀ b ∈ l₂, isTitle b = false) :
    itemsLoop o p (first + (l₁ ++ j :: l₂).length) (l₁ ++ j :: l₂ ++ rest) first
      = .ok (bodyItems o p l₁ ++ (lineItem o p j).toList ++ bodyItems o p l₂) := by
  have hb : ∀ b ∈ l₁ ++ j :: l₂, isTitle b = false :=
    List.forall_mem_append.mpr ⟨h₁, List.forall_mem_cons.mpr ⟨hj, h₂⟩⟩
  rw [C19_body o p (l₁ ++ j :: l₂) rest first hi (by simp) hb, Tf.bodyItems_insert]

/-- the same body without the junk line, for comparison: `items (l₁ ++ l₂) = items l₁ ++ items l₂` -/
theorem C19_local_base (o : ReadOpts) (p : Parser) (l₁ l₂ : List Str) :
    bodyItems o p (l₁ ++ l₂) = bodyItems o p l₁ ++ bodyItems o p l₂ := bodyItems_append o p l₁ l₂

/-- a junk line contributes at most one item -/
theorem C19_junk_at_most_one (o : ReadOpts) (p : Parser) (j : Str) : (lineItem o p j).toList.length ≤ 1 := by
  cases lineItem o p j <;> simp

/-- STEERING. An extra item whose upper-cased mnemonic is none of VERS, WRAP, DLM, NULL — wherever it is inserted in the
section and whatever else it contains — leaves the steering values computed from that section unchanged
(in every `mnemonic_case` mode, for every title). -/
theorem C19_steer (o : ReadOpts) (title : Str) (a b : List RItem) (x : RItem) (s : Steer)
    (hx : upper x.orig ∉ steerKeys) :
    steer o title (a ++ x :: b) s = steer o title (a ++ b) s := by
  apply steer_congr
  intro k hk
  have hk := Tf.consulted_steerKeys title k hk
  exact lookupItem_insert _ k hk a b x (not_steering _ x hx k hk)

/-- the hypothesis is necessary: an extra `VERS` line in ~V changes the steering (here it hides the genuine one,
because two items named VERS become `VERS:1`, `VERS:2` and `"VERS" in section` turns false) -/
theorem C19_steer_needs_hyp :
    steer ⟨true, .upper⟩ "~V".toList ([⟨"VERS".toList, [], "1.2".toList, []⟩] ++ ⟨"VERS".toList, [], "3.0".toList, []⟩ :: []) Steer.init
      ≠ steer ⟨true, .upper⟩ "~V".toList ([⟨"VERS".toList, [], "1.2".toList, []⟩] ++ []) Steer.init := by
  decide +kernel

/-! ### non-vacuity: a concrete ~W body with a junk line -/

def exParser : Parser := ⟨.metadata, .well, valueDescr, []⟩

def errOf {α} : Except RErr α → Option RErr
  | .error e => some e
  | .ok _ => none

example : (itemsLoop ⟨true, .upper⟩ exParser 3
    ["STRT.M 1 : start\n".toList, "no period here\n".toList, "STOP.M 2 : stop\n".toList, "~C\n".toList] 0).toOption
    = some [⟨"STRT".toList, "M".toList, "1".toList, "start".toList⟩, ⟨"STOP".toList, "M".toList, "2".toList, "stop".toList⟩] := by
  decide +kernel

example : errOf (itemsLoop ⟨false, .upper⟩ exParser 3
    ["STRT.M 1 : start\n".toList, "no period here\n".toList, "STOP.M 2 : stop\n".toList, "~C\n".toList] 0)
    = some (.headerError 3) := by
  decide +kernel

example : lineItem ⟨true, .upper⟩ exParser "no period here\n".toList = none := by decide +kernel
example : lineItem ⟨true, .upper⟩ exParser "junk.x 5 : parsable junk\n".toList
    = some ⟨"JUNK".toList, "x".toList, "5".toList, "parsable junk".toList⟩ := by decide +kernel

end Lasio.Rd

#print axioms Lasio.Rd.C19_total
#print axioms Lasio.Rd.C19_total_section
#print axioms Lasio.Rd.C19_body
#print axioms Lasio.Rd.C19_local
#print axioms Lasio.Rd.C19_steer
#print axioms Lasio.Rd.C19_steer_needs_hyp
#print axioms Lasio.Rd.C19_only_header_error
#print axioms Lasio.Rd.C19_first_bad_line
