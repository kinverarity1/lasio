import LasioModel.Writer
import LasioProofs.Lemmas.WriterLemmas
import LasioProofs.Props.C03
import LasioProofs.Lemmas.RoundTripData
/-
C12 — the content recovered from a written file does not depend on how it was written.
First the header (version, wrap, header width; with the counter-examples for a colon in a value or description),
then the data section (numeric formats of equal precision, wrap, widths, spacers) on the data writer/reader models.
The two halves are put together for a whole written file in Props/C12File.lean.
-/
namespace Lasio.Wr

/-- a writer configuration (all keyword arguments of `LASFile.write` that are not STRT/STOP/STEP) -/
structure WriteCfg where
  version : String
  wrap : Option Bool
  headerWidth : Nat
  fmt : Str
  columnFmt : List (Nat × Str)
  lenNumericField : Option Int
  lhsSpacer : Str
  spacer : Str
  dataWidth : Nat
  dataSectionHeader : Str
  mnemonicsHeader : Bool

/-- the header text of a configuration -/
def headerOf (cfg : WriteCfg) (las : WLas) : Except Err (List Str × WLas) :=
  headerLines cfg.version cfg.wrap cfg.headerWidth las

/-- **The header depends on the configuration only through `version`, `wrap` (the WRAP item) and
`header_width`**: fmt, column_fmt, len_numeric_field, spacers, data_width, data-section header style never
reach it (by construction of `headerLines`; stated for the record). -/
theorem C12_header_independent (c1 c2 : WriteCfg) (las : WLas)
    (hv : c1.version = c2.version) (hw : c1.wrap = c2.wrap) (hh : c1.headerWidth = c2.headerWidth) :
    headerOf c1 las = headerOf c2 las := by
  unfold headerOf
  rw [hv, hw, hh]

/-- **`header_width` only reaches the five title lines**: the item lines of every section, the ~Other lines
and the object after the call are those of `headerSections`, which does not take the width. -/
theorem C12_header_width_titles_only (v : String) (w : Option Bool) (hw : Nat) (las : WLas) :
    headerLines v w hw las =
      (match headerSections v w las with
       | .error e => .error e
       | .ok (secs, las') => .ok (secs.flatMap (fun tl => ljust hw '-' tl.1.toList :: tl.2), las')) := rfl

/-- **Version swap, one item.**  For a conformant item (in particular: no ':' in the VALUE text — the forced
clause `hconf.value_nocolon`, see `C12_counterexample_colon_value`) the line written for target version 1.2
and the line written for target version 2.0 read back — each under its own version — as the same item,
whatever the widths of the two layouts.  In ~Well the two lines differ on disk (description and value
swapped) unless the mnemonic is STRT/STOP/STEP/NULL. -/
theorem C12_version_swap (kind : SecName) (c : MCase) (o12 : Order) (W12 W20 : Widths) (it : WItem)
    (hkind : kind ≠ .other)
    (hw12 : orderOf "1.2" (secKey kind) it.orig = .ok o12)
    (hconf : TextConf kind it)
    (hpad12 : 1 ≤ W12.middle - it.unit.length - (rhsOf o12 it).length)
    (hpad20 : 1 ≤ W20.middle - it.unit.length - (rhsOf .valueDescr it).length) :
    readItem "1.2" kind c (formatItem o12 W12 it) = readItem "2.0" kind c (formatItem .valueDescr W20 it) := by
  rw [C03_item "1.2" kind c o12 W12 it hkind hw12 hconf hpad12,
    C03_item "2.0" kind c .valueDescr W20 it hkind (C03_order_v20 kind hkind _) hconf hpad20]

/-- **Version swap, one section**: the lines `write` emits for a section under target version 1.2 and under
2.0 read back to the same item list. -/
theorem C12_section_version_swap (kind : SecName) (c : MCase) (items : List WItem) (l12 l20 : List Str)
    (hkind : kind ≠ .other)
    (h12 : writeSection "1.2" (secKey kind) items = .ok l12)
    (h20 : writeSection "2.0" (secKey kind) items = .ok l20)
    (hconf : ∀ it ∈ items, TextConf kind it)
    (hmark : ∀ it ∈ items, it.orig.head? ≠ some '#' ∧ it.orig.head? ≠ some '~') :
    readSection "1.2" kind c l12 = readSection "2.0" kind c l20 := by
  rw [C03_section "1.2" kind c items l12 hkind h12 hconf hmark,
    C03_section "2.0" kind c items l20 hkind h20 hconf hmark]

/-- **Known finding `well-colon-value-1.2`**: the ~Well item `TIME. 12:30 : start time`.  Written for 2.0 it
reads back unchanged; written for 1.2 (`TIME.  start time : 12:30`) the reader splits at the LAST colon and
returns value `30`, description `start time : 12`.  So `value_nocolon` cannot be dropped from
`C12_version_swap`. -/
theorem C12_counterexample_colon_value :
    writeSection "2.0" "Well" [⟨"TIME".toList, "TIME".toList, [], .str "12:30".toList, "start time".toList⟩] =
      .ok ["TIME. 12:30 : start time".toList] ∧
    writeSection "1.2" "Well" [⟨"TIME".toList, "TIME".toList, [], .str "12:30".toList, "start time".toList⟩] =
      .ok ["TIME. start time : 12:30".toList] ∧
    readSection "2.0" .well .preserve ["TIME. 12:30 : start time".toList] =
      some [⟨"TIME".toList, [], "12:30".toList, "start time".toList⟩] ∧
    readSection "1.2" .well .preserve ["TIME. start time : 12:30".toList] =
      some [⟨"TIME".toList, [], "30".toList, "start time : 12".toList⟩] := by
  decide +kernel

/-- **Mirror image** (found by the check, same root cause: the reader splits at the LAST colon): a ~Well
DESCRIPTION containing ':' — `LOC. A : location: site` — written for 2.0 re-reads with value `A : location` and
description `site`; written for 1.2 (`LOC. location: site : A`) it reads back unchanged.  So `descr_nocolon`
cannot be dropped from `C12_version_swap` either. -/
theorem C12_counterexample_colon_descr :
    writeSection "2.0" "Well" [⟨"LOC".toList, "LOC".toList, [], .str "A".toList, "location: site".toList⟩] =
      .ok ["LOC. A : location: site".toList] ∧
    writeSection "1.2" "Well" [⟨"LOC".toList, "LOC".toList, [], .str "A".toList, "location: site".toList⟩] =
      .ok ["LOC. location: site : A".toList] ∧
    readSection "2.0" .well .preserve ["LOC. A : location: site".toList] =
      some [⟨"LOC".toList, [], "A : location".toList, "site".toList⟩] ∧
    readSection "1.2" .well .preserve ["LOC. location: site : A".toList] =
      some [⟨"LOC".toList, [], "A".toList, "location: site".toList⟩] := by
  decide +kernel

/-- **Blank mnemonic with a further period** (found by the check): `HeaderItem('', '', 'x', 'a.b')` in ~Well.
Written for 1.2 (`. a.b : x`) the name pattern `\.?([^.]*)\.` skips the delimiter period and reads mnemonic
`a`, unit `b`; written for 2.0 (`. x : a.b`) the item reads back unchanged.  So `mnem_ne` cannot be dropped from
`C12_version_swap` (C03's property text restricts blank mnemonics to lines with no further period). -/
theorem C12_counterexample_blank_mnemonic_period :
    writeSection "1.2" "Well" [⟨[], "UNKNOWN".toList, [], .str "x".toList, "a.b".toList⟩] =
      .ok [". a.b : x".toList] ∧
    writeSection "2.0" "Well" [⟨[], "UNKNOWN".toList, [], .str "x".toList, "a.b".toList⟩] =
      .ok [". x : a.b".toList] ∧
    readSection "1.2" .well .preserve [". a.b : x".toList] =
      some [⟨"a".toList, "b".toList, "x".toList, []⟩] ∧
    readSection "2.0" .well .preserve [". x : a.b".toList] =
      some [⟨[], [], "x".toList, "a.b".toList⟩] := by
  decide +kernel

/-- the item of the counter-example satisfies every clause of `TextConf` except `value_nocolon` -/
theorem C12_counterexample_colon_value_conf :
    let it : WItem := ⟨"TIME".toList, "TIME".toList, [], .str "12:30".toList, "start time".toList⟩
    it.orig ≠ [] ∧ strip it.orig = it.orig ∧ (∀ c ∈ it.orig, c ≠ '.' ∧ c ≠ ':') ∧
    (∀ c ∈ it.unit, isPySpace c = false) ∧ ¬ hasDotDot it.unit ∧ it.unit = [] ∧ isBracketed it.unit = false ∧
    strip it.value.text = it.value.text ∧ strip it.descr = it.descr ∧ (∀ c ∈ it.descr, c ≠ ':') := by
  dsimp only
  decide +kernel

/-! ## Non-vacuity -/

/-- a conformant ~Well item: on disk the two versions differ, the items read back are equal -/
example (c : MCase) :
    formatItem .descrValue ⟨6, 25⟩
      ⟨"DEPT".toList, "DEPT".toList, "M".toList, .str "1670.0".toList, "start (depth) \"x\"".toList⟩ ≠
    formatItem .valueDescr ⟨6, 25⟩
      ⟨"DEPT".toList, "DEPT".toList, "M".toList, .str "1670.0".toList, "start (depth) \"x\"".toList⟩ ∧
    readItem "1.2" .well c (formatItem .descrValue ⟨6, 25⟩
      ⟨"DEPT".toList, "DEPT".toList, "M".toList, .str "1670.0".toList, "start (depth) \"x\"".toList⟩) =
    readItem "2.0" .well c (formatItem .valueDescr ⟨6, 25⟩
      ⟨"DEPT".toList, "DEPT".toList, "M".toList, .str "1670.0".toList, "start (depth) \"x\"".toList⟩) :=
  ⟨by decide +kernel, C12_version_swap .well c .descrValue ⟨6, 25⟩ ⟨6, 25⟩ _ (by decide)
    (by decide +kernel) (C03_example_conf .well) (by decide +kernel) (by decide +kernel)⟩

/-! ## Data section: writer options change the presentation only

Writer model `Dw` (`LasioModel/DataWrite.lean`), reader model `Dt` (`LasioModel/Data.lean`), bridge `Rt`
(`Lemmas/RoundTripData.lean`); `Rt.Written cfg null mn rows c n hdr body` = `cfg` parses to the row configuration `c`,
`Dw.CfgOK c null`, the NULL text is a quiet token, `Dw.dataLines cfg null mn rows = some (hdr :: body)`, `rows` is a
non-empty r × n matrix (built by `C01_written`, Props/C01.lean).  `Rt.SamePrec c1 c2 n`: column j < n is printed with the same
number of decimals by both. -/

/-- **The token matrix depends on the options only through the precision of each column** — not on the field width of the
format (`%10.3f` vs `%.3f`), `len_numeric_field`, `lhs_spacer`, `spacer`, `wrap`, `data_width`, `header_width`,
`data_section_header`, `mnemonics_header`, nor on the mnemonics. -/
theorem C12_data_tokens_independent (c1 c2 : Dw.RowCfg) (null : Str) (rows : List (List Dw.F64)) (n : Nat)
    (hrect : ∀ r ∈ rows, r.length = n) (hp : Rt.SamePrec c1 c2 n) :
    rows.map (Dw.rowTokens c1 null) = rows.map (Dw.rowTokens c2 null) :=
  Rt.tokenRows_samePrec c1 c2 null rows n hrect hp

/-- **What is read does not depend on how it was written**: two supported option records with the same precision per column
and otherwise arbitrary presentation options (wrap or not, widths, spacers, header style, line ends) — the recovered token
matrices are equal and so are the results of the normal engine on the two bodies (under any active substitutions). -/
theorem C12_data_independent {cfg1 cfg2 : Dw.DataCfg} {null : Str} {mn1 mn2 : List Str} {rows : List (List Dw.F64)}
    {c1 c2 : Dw.RowCfg} {n : Nat} {hdr1 hdr2 : Str} {body1 body2 : List Str}
    (w1 : Rt.Written cfg1 null mn1 rows c1 n hdr1 body1) (w2 : Rt.Written cfg2 null mn2 rows c2 n hdr2 body2)
    (hp : Rt.SamePrec c1 c2 n) (ft : Dt.FloatTable) (sb1 sb2 : Dt.Subs) (eol1 eol2 : Str)
    (h1 : Dt.AllWs eol1) (h2 : Dt.AllWs eol2) :
    rows.map (Dw.rowTokens c1 null) = rows.map (Dw.rowTokens c2 null) ∧
    Dt.normalEngineLines ft sb1 .space n (body1.map (· ++ eol1)) =
      Dt.normalEngineLines ft sb2 .space n (body2.map (· ++ eol2)) ∧
    Dt.normalEngineLines ft sb1 .space n (body1.map (· ++ eol1)) =
      .ok (Dt.matrixColumns ft n (rows.map (Dw.rowTokens c1 null))) :=
  ⟨(Rt.presentation_independent w1 w2 hp ft sb1 sb2 eol1 eol2 h1 h2).1,
   (Rt.presentation_independent w1 w2 hp ft sb1 sb2 eol1 eol2 h1 h2).2,
   Rt.roundtrip_normal w1 ft sb1 eol1 h1⟩

/-- **Through `readData`, wrapped vs unwrapped**: the file written with options 1 (any `wrap`) and read with WRAP = YES
declared, and the file written with options 2 (`wrap=False`) and read with WRAP ≠ YES (after its section: nothing, or a
line whose first token is not a number), `n` declared curves, the same header NULL, the same null policy, any requested
engines: the same curves. -/
theorem C12_data_read_independent {cfg1 cfg2 : Dw.DataCfg} {null : Str} {mn1 mn2 : List Str} {rows : List (List Dw.F64)}
    {c1 c2 : Dw.RowCfg} {n : Nat} {hdr1 hdr2 : Str} {body1 body2 : List Str}
    (w1 : Rt.Written cfg1 null mn1 rows c1 n hdr1 body1) (w2 : Rt.Written cfg2 null mn2 rows c2 n hdr2 body2)
    (hp : Rt.SamePrec c1 c2 n) (hwrap2 : cfg2.wrap = false)
    (e1 e2 : Dt.Engine) (p : Dt.NullPolicy) (st1 st2 : Dt.Steer) (ft : Dt.FloatTable)
    (eol1 eol2 : Str) (h1 : Dt.AllWs eol1) (h2 : Dt.AllWs eol2)
    (pre1 pre2 : List Str) (title1 title2 : Str) (after1 after2 : List Str)
    (hd1 : st1.delimiter = .space) (hd2 : st2.delimiter = .space)
    (hwd1 : st1.wrapDeclared = true) (hwy1 : st1.wrapped = Dt.yesTxt) (hw2 : st2.wrapped ≠ Dt.yesTxt)
    (hnull : st1.nullValue = st2.nullValue)
    (hnext : after2 = [] ∨ ∃ ln rest t ts, after2 = ln :: rest ∧ Dt.npTokens ln = t :: ts ∧ Dt.toFloat ft t = none) :
    (Dt.readData ⟨e1, p⟩ (pre1 ++ title1 :: (body1.map (· ++ eol1) ++ after1)) pre1.length
        (pre1.length + (body1.map (· ++ eol1)).length) st1 n ft).map Prod.snd =
    (Dt.readData ⟨e2, p⟩ (pre2 ++ title2 :: (body2.map (· ++ eol2) ++ after2)) pre2.length
        (pre2.length + (body2.map (· ++ eol2)).length) st2 n ft).map Prod.snd :=
  Rt.read_independent w1 w2 hp hwrap2 e1 e2 p st1 st2 ft eol1 eol2 h1 h2 pre1 pre2 title1 title2 after1 after2
    hd1 hd2 hwd1 hwy1 hw2 hnull hnext

/-- the precision is content, not presentation: 0.25 written with `%.1f` and with `%.2f` -/
theorem C12_data_precision_matters (null : Str) :
    Dw.cellToken null ⟨none, 1⟩ (.finite false 1 (-2)) = "0.2".toList ∧
    Dw.cellToken null ⟨none, 2⟩ (.finite false 1 (-2)) = "0.25".toList :=
  Rt.precision_matters null

/-- non-vacuity: the same 2 × 2 matrix written wrapped with `%.1f`, field 10, and unwrapped with `%8.1f`, no field, TAB
spacer and a mnemonics header: two different texts, both satisfy `Rt.Written`, same precision -/
theorem C12_data_example :
    Rt.Written ⟨true, "%.1f".toList, [], none, [' '], [' '], 12, 20, "~A".toList, false⟩ "-999.25".toList
      ["DEPT".toList, "A".toList] [[.finite false 1 0, .nan], [.finite false 1 1, .finite false 1 0]]
      ⟨⟨none, 1⟩, [], 10, [' '], [' ']⟩ 2
      "~A -----------------".toList ["        1.0".toList, "-999.25".toList, "        2.0".toList, "1.0".toList] ∧
    Rt.Written ⟨false, "%8.1f".toList, [], some (-1), [], ['\t'], 80, 60, "~ASCII".toList, true⟩ "-999.25".toList
      ["DEPT".toList, "A".toList] [[.finite false 1 0, .nan], [.finite false 1 1, .finite false 1 0]]
      ⟨⟨some 8, 1⟩, [], -1, [], ['\t']⟩ 2
      "~ASCII DEPT       A".toList ["     1.0\t-999.25".toList, "     2.0\t     1.0".toList] ∧
    Rt.SamePrec ⟨⟨none, 1⟩, [], 10, [' '], [' ']⟩ ⟨⟨some 8, 1⟩, [], -1, [], ['\t']⟩ 2 := by
  refine ⟨⟨by rfl,
      ⟨by decide +kernel, by decide +kernel, by decide +kernel, ⟨by decide +kernel, by decide +kernel⟩⟩,
      Rt.quietTok_of_check _ (by decide +kernel), by decide +kernel, by decide +kernel,
      by decide +kernel, by decide +kernel⟩,
    ⟨by rfl,
      ⟨by decide +kernel, by decide +kernel, by decide +kernel, ⟨by decide +kernel, by decide +kernel⟩⟩,
      Rt.quietTok_of_check _ (by decide +kernel), by decide +kernel, by decide +kernel,
      by decide +kernel, by decide +kernel⟩, fun j _ => ?_⟩
  simp [Dw.RowCfg.colFmt]

#print axioms C12_header_independent
#print axioms C12_header_width_titles_only
#print axioms C12_version_swap
#print axioms C12_section_version_swap
#print axioms C12_counterexample_colon_value
#print axioms C12_counterexample_colon_descr
#print axioms C12_counterexample_blank_mnemonic_period
#print axioms C12_counterexample_colon_value_conf
#print axioms C12_data_tokens_independent
#print axioms C12_data_independent
#print axioms C12_data_read_independent
#print axioms C12_data_precision_matters
#print axioms C12_data_example

end Lasio.Wr
