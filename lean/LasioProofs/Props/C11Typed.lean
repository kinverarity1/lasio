import LasioProofs.Lemmas.ReadObjLemmas
import LasioProofs.Props.C11Refresh
/-
C11 — the TYPED link of the load/save cycle.

`Cr.C11_cycle_fixed_point` (Props/C11Refresh.lean) assumes `hW : toWLas o1 = Cy.lasOfRead rv o (Cy.firstRead … las)` — "the object `o1` that
`write` starts from is the re-read of the previous output" — with the value conversion `rv : Str → WVal` a parameter.  Here `hW` is DERIVED
from "`o1` is the typed object (`Ro.headerObj`, LasioModel/ReadObj.lean) of reading the previous output with `Ro.readObjLines`", for the
concrete `rvNum py` built from NumLit's `num`:

    rvNum py t = (toPVal py t (num t)).toW      -- `str` stays the text; an int is exact; a float is `py.f64 lit` with `str()` = `py.str lit`

  `rvNum_retype`                `Cy.Retype (rvNum py)` holds for EVERY `py` (no hypothesis on `float()` / `str()`)
  `typeP_toW`                   the typed value of a stored item, seen by the header writer, is `rvNum py v` — except for the EXEMPT items
                                (every item of a curves-kind section; API / UWI of a metadata-kind section), whose value is the `str` `v`
  `toWLas_headerObj`            `toWLas (headerObj py o th) = Cy.lasOfRead (rvNum py) o th.raw.sections` provided `LinkOK py th`: for every exempt
                                item of the four standard sections `rvNum py v = WVal.str v` — i.e. the writer cannot tell the number from the
                                text (true when `v` is not a numeric literal: `exemptAgree_of_text`; also true when `v` is a non-zero literal
                                that `str()` prints as it is spelt: `exemptAgree_of_spelt`)
  `C11_link_gap_zero`           the gap is real: a ~Curves value `0` is the truthy `str` "0" in lasio but the falsy number 0 under ANY single `rv`
                                that types ~Parameter values (`lasOfRead` uses one `rv` for all four sections): `LinkOK` cannot be dropped
  `C11_cycle_fixed_point_typed` `Cr.C11_cycle_fixed_point` with `rv := rvNum py`, `hrv` proved, and `hW` replaced by
                                   `hr  : Ro.readObjLines o lines1 = .ok th`           (the typed read of the previous output)
                                   `ho1 : o1 = withData (headerObj py o th) data ii`   (`o1` is that typed header + some data matrix)
                                   `hlink : LinkOK py th`
Non-vacuity: the example of C11Refresh.lean (`Cr.rRead`, `Cr.rLas`) — the typed read of the written header, evaluated (`exKey`), IS `Cr.rRead`, `LinkOK`
holds, `SpeltConf (rvNum exPy)` holds (`exSpelt`), and the theorem is applied (last `example`).
What REMAINS ASSUMED (as in the original): `hsp : Cy.SpeltConf (rvNum py) …` — `str(float(t)) = t` for the value texts the previous write
printed (a statement about `py.str` and about integer spelling: `+5`, `007` are not printed by `str()`); `hd` / `hu` (no refresh, units
aligned); `h1`, `h5`, `h6`; that `py` IS numpy's `float64()` / `str()`; and, here, that the data half of `o1` (`data`, `ii`) is what the data
reader builds (derived, with `hr` / `ho1`, from the written text in Props/C11EndToEnd.lean).  Ints are carried exactly: for |i| ≥ 2^53 numpy compares an int64 with a float64 after rounding, the model exactly (the
convention of harness/props/c16.py `pval`, which puts such a STOP / VERS value outside the domain).
-/
namespace Lasio.Ro
open Lasio Lasio.Rd Lasio.Wo

/-! ## the concrete `rv` -/

/-- `num()` as the header writer sees its result -/
def rvNum (py : PyFloat) (t : Str) : Wr.WVal := (toPVal py t (num t)).toW

/-- a `str` result of `num` is the argument (re-proved here: NumLitLemmas cannot be imported next to the C04 lemmas) -/
theorem num_str_eq (s u : Str) (h : num s = .str u) : u = s := by
  unfold num at h
  simp only at h
  split at h
  · cases h; rfl
  · split at h
    · cases h; rfl
    · split at h
      · cases h
      · split at h
        · cases h
        · cases h; rfl

theorem rvNum_retype (py : PyFloat) : Cy.Retype (rvNum py) where
  notNone := fun t => by
    unfold rvNum
    cases num t <;> rfl
  falsy := fun t h hz => by
    unfold rvNum at h hz
    cases hn : num t with
    | str u =>
      rw [hn] at h
      have hu := num_str_eq t u hn
      subst hu
      simpa [toPVal, PVal.toW, Wr.WVal.str] using h
    | int i | flt n m e =>
      rw [hn] at h hz
      simp only [toPVal, PVal.toW, Wr.WVal.num] at h hz
      rw [h] at hz; cases hz

/-! ## typed value vs `rvNum` -/

/-- the items whose value the section parser never converts: every item of a curves-kind section, API / UWI of a metadata-kind section -/
def Exempt (kind : PKind) (r : RItem) : Bool :=
  kind == .curves || (kind == .metadata && isNumberString r.orig)

theorem typeP_toW (py : PyFloat) (kind : PKind) (r : RItem) :
    (typeP py kind r.orig r.value).toW = if Exempt kind r = true then Wr.WVal.str r.value else rvNum py r.value := by
  unfold typeP Exempt rvNum
  cases kind with
  | curves => rfl
  | params => rfl
  | metadata =>
    simp only [typeValue, metadataValue]
    cases isNumberString r.orig <;> rfl

/-- on the exempt items of `l` the writer cannot tell `num(v)` from the text `v` -/
def ExemptAgree (py : PyFloat) (kind : PKind) (l : List RItem) : Prop :=
  ∀ r ∈ l, Exempt kind r = true → rvNum py r.value = Wr.WVal.str r.value

/-- … true when no exempt item holds a numeric literal -/
theorem exemptAgree_of_text (py : PyFloat) (kind : PKind) (l : List RItem)
    (h : ∀ r ∈ l, Exempt kind r = true → num r.value = .str r.value) : ExemptAgree py kind l := by
  intro r hr he
  unfold rvNum
  rw [h r hr he]
  rfl

theorem num_nil : num [] = .str [] := by decide

/-- … and when every exempt numeric literal is non-zero and printed by `str()` as it is spelt -/
theorem exemptAgree_of_spelt (py : PyFloat) (kind : PKind) (l : List RItem)
    (h : ∀ r ∈ l, Exempt kind r = true → Cy.Spelt (rvNum py) r.value ∧ (rvNum py r.value).isZero = false) :
    ExemptAgree py kind l := by
  intro r hr he
  obtain ⟨hs, hz⟩ := h r hr he
  unfold Cy.Spelt at hs
  unfold rvNum at hs hz ⊢
  cases hn : num r.value with
  | str u => rw [num_str_eq _ _ hn]; rfl
  | int i | flt n m e =>
    rw [hn] at hs hz
    simp only [toPVal, PVal.toW, Wr.WVal.num] at hs hz ⊢
    have hne : r.value ≠ [] := by
      intro e'; rw [e', num_nil] at hn; cases hn
    simp only [Wr.WVal.str, hs, hz, Wr.WVal.mk.injEq, true_and, and_true]
    cases hv : r.value with
    | nil => exact absurd hv hne
    | cons _ _ => rfl

theorem zipWith_congr_mem {α β γ} (f g : α → β → γ) : ∀ (as : List α) (bs : List β),
    (∀ a, ∀ b ∈ bs, f a b = g a b) → List.zipWith f as bs = List.zipWith g as bs := by
  intro as bs h
  rw [← List.map_uncurry_zip_eq_zipWith, ← List.map_uncurry_zip_eq_zipWith]
  exact List.map_congr_left fun p hp => h p.1 p.2 (List.of_mem_zip hp).2

theorem oItems_toW (py : PyFloat) (tr : Bool) (kind : PKind) (l : List RItem) (h : ExemptAgree py kind l) :
    (oItems py tr kind l).map OItem.toW = Cy.itemsOfRead (rvNum py) tr l := by
  unfold oItems Cy.itemsOfRead
  rw [List.map_zipWith]
  apply zipWith_congr_mem
  intro s r hr
  simp only [mkO, OItem.toW, Cy.mkRead, Wr.WItem.mk.injEq, true_and, and_true]
  rw [typeP_toW]
  split
  · rename_i he; exact (h r hr he).symm
  · rfl

/-- the exempt items of the four standard sections are indistinguishable from their `num()` for the writer -/
structure LinkOK (py : PyFloat) (th : THeader) : Prop where
  version : ExemptAgree py (kindAt th.kinds kVersion) (secItems kVersion th.raw.sections)
  well : ExemptAgree py (kindAt th.kinds kWell) (secItems kWell th.raw.sections)
  curves : ExemptAgree py (kindAt th.kinds kCurves) (secItems kCurves th.raw.sections)
  params : ExemptAgree py (kindAt th.kinds kParameter) (secItems kParameter th.raw.sections)

/-- **The typed link.**  The header of the object `read()` builds, as the header writer sees it, IS `Cy.lasOfRead (rvNum py)` of the sections
`Rd` read. -/
theorem toWLas_headerObj (py : PyFloat) (o : ReadOpts) (th : THeader) (h : LinkOK py th) :
    toWLas (headerObj py o th) = Cy.lasOfRead (rvNum py) o th.raw.sections := by
  unfold toWLas headerObj Cy.lasOfRead objItems
  simp only [oItems_toW py _ _ _ h.version, oItems_toW py _ _ _ h.well, oItems_toW py _ _ _ h.curves,
    oItems_toW py _ _ _ h.params]
  rfl

theorem toWLas_withData (h : WObj) (data : List (List F64)) (ii : Option (List F64)) : toWLas (withData h data ii) = toWLas h := rfl

/-! ## the gap is real -/

/-- **COUNTER-EXAMPLE (why `LinkOK` is needed).**  A ~Curves line `DEPT.M 0 : d` gives the item value the `str` "0" (truthy), whereas an
`rv` that turns the ~Parameter text `0` into the number 0 gives a falsy value: no single `rv` serves both sections.  (`lasOfRead` applies one
`rv` to all four sections.) -/
theorem C11_link_gap_zero (py : PyFloat) :
    (typeP py .curves "DEPT".toList ['0']).toW = Wr.WVal.str ['0'] ∧
    (typeP py .params "DEPT".toList ['0']).toW = rvNum py ['0'] ∧
    rvNum py ['0'] ≠ Wr.WVal.str ['0'] := by
  have hn : num ['0'] = .int 0 := by decide
  refine ⟨rfl, rfl, ?_⟩
  unfold rvNum
  rw [hn]
  show Wr.WVal.num (intToStr 0) (fIsZero (intF64 0)) ≠ Wr.WVal.str ['0']
  decide

/-- … while a non-zero integer code that `str()` prints as it is spelt is harmless -/
theorem C11_link_nonzero_ok (py : PyFloat) : rvNum py "45".toList = Wr.WVal.str "45".toList := by
  have hn : num "45".toList = .int 45 := by decide
  unfold rvNum
  rw [hn]
  show Wr.WVal.num (intToStr 45) (fIsZero (intF64 45)) = Wr.WVal.str "45".toList
  decide

/-! ## the composed cycle with the typed object -/

/-- **The composed cycle is a fixed point — typed.**  `las` is the header object a cycle wrote (`lines1` its header lines); `th` is the typed
read of `lines1`; `o1` is the object with that typed header (`headerObj`) and some data; `LinkOK`; no refresh is decided for `o1` and its units
are aligned; `setWrap`, `nullText` and `dataLines` succeed.  Then the conclusions of `Cr.C11_cycle_fixed_point` hold with `rv := rvNum py`. -/
theorem C11_cycle_fixed_point_typed (o : ReadOpts) (py : PyFloat) (v : String) (wcfg : WriteCfg)
    (hv : wcfg.version = some v) (w1 : Nat) (las las' : Wr.WLas) (lines1 : List Str)
    (hH : Wr.headerLines v wcfg.wrap w1 las = .ok (lines1, las'))
    (hc : Fd.FileConfD o v wcfg.wrap las) (hx : Cy.CycleConf o v wcfg.wrap las) (hsp : Cy.SpeltConf (rvNum py) v wcfg.wrap las)
    (th : THeader) (hr : readObjLines o lines1 = .ok th) (hlink : LinkOK py th)
    (o1 : WObj) (data : List (List F64)) (ii : Option (List F64)) (ho1 : o1 = withData (headerObj py o th) data ii)
    (sd : Option F64) (u : Str) (a b c : Nat) (hd : refreshDecision o1 = .ok false) (hu : Cr.UnitsAligned o1 u a b c)
    (hs : (o1.data.length != o1.curves.length || !sameLengths o1.data) = false)
    (vsec : List OItem) (h1 : setWrap wcfg o1 = .ok vsec)
    (null2 hdr2 : Str) (body2 : List Str) (h5 : nullText (afterHeader wcfg o1) = .ok null2)
    (h6 : Dw.dataLines (dataCfg wcfg) null2 ((afterHeader wcfg o1).curves.map (·.session))
      (rowsOf (afterHeader wcfg o1).data) = some (hdr2 :: body2)) :
    th.raw = ⟨Cy.firstRead o v wcfg.wrap las, Fd.fileSteerD o v wcfg.wrap las, []⟩ ∧
    toWLas o1 = Cy.lasOfRead (rvNum py) o (Cy.firstRead o v wcfg.wrap las) ∧
    ∃ lines2 las2', Wr.headerLines v wcfg.wrap wcfg.headerWidth (toWLas o1) = .ok (lines2, las2') ∧
      writeObj wcfg sd o1 = .ok (lines2 ++ hdr2 :: body2, afterHeader wcfg o1) ∧
      Rd.readLines o lines1 = .ok ⟨Cy.firstRead o v wcfg.wrap las, Fd.fileSteerD o v wcfg.wrap las, []⟩ ∧
      Rd.readLines o lines2 = .ok ⟨Cy.firstRead o v wcfg.wrap las, Fd.fileSteerD o v wcfg.wrap las, []⟩ ∧
      (∀ (j : Nat) (x : OItem), o1.well[j]? = some x → ∃ y : OItem, (afterHeader wcfg o1).well[j]? = some y ∧
        y.value = stdP x.value x.unit ∧
        y.unit = x.unit ∧ ∀ f t, x.value = .num f t → y.value = x.value) ∧
      (afterHeader wcfg o1).data = o1.data ∧ (afterHeader wcfg o1).indexInitial = o1.indexInitial := by
  have hraw : th.raw = ⟨Cy.firstRead o v wcfg.wrap las, Fd.fileSteerD o v wcfg.wrap las, []⟩ := by
    have h1' := readObjLines_ok o lines1 th hr
    rw [Fd.readLines_header_dlm o v wcfg.wrap w1 las las' lines1 hH hc] at h1'
    injection h1' with h1'
    exact h1'.symm
  have hW : toWLas o1 = Cy.lasOfRead (rvNum py) o (Cy.firstRead o v wcfg.wrap las) := by
    rw [ho1, toWLas_withData, toWLas_headerObj py o th hlink, hraw]
  exact ⟨hraw, hW, Cr.C11_cycle_fixed_point o (rvNum py) (rvNum_retype py) v wcfg hv w1 las las' lines1 hH hc hx hsp o1 hW sd u a b c hd hu hs
    vsec h1 null2 hdr2 body2 h5 h6⟩

/-! ## non-vacuity: the example of C11Refresh.lean, typed -/

/-- `float64()` / `str()` on the four literals of the example (`str` prints them as they are spelt) -/
def exPy : PyFloat :=
  ⟨fun t => if t = Cr.rs "2.0" then Cr.rf false 2 0 else if t = Cr.rs "3.0" then Cr.rf false 3 0
            else if t = Cr.rs "-999.25" then Cr.rf true 3997 (-2) else Cr.rf false 1 0,
   fun t => t⟩

def exemptAgreeB (py : PyFloat) (kind : PKind) (l : List RItem) : Bool :=
  l.all fun r => !Exempt kind r || decide (rvNum py r.value = Wr.WVal.str r.value)

theorem exemptAgreeB_sound (py : PyFloat) (kind : PKind) (l : List RItem) (h : exemptAgreeB py kind l = true) : ExemptAgree py kind l := by
  intro r hr he
  have := List.all_eq_true.mp h r hr
  simpa [he] using this

def linkOKB (py : PyFloat) (th : THeader) : Bool :=
  exemptAgreeB py (kindAt th.kinds kVersion) (secItems kVersion th.raw.sections) &&
  exemptAgreeB py (kindAt th.kinds kWell) (secItems kWell th.raw.sections) &&
  exemptAgreeB py (kindAt th.kinds kCurves) (secItems kCurves th.raw.sections) &&
  exemptAgreeB py (kindAt th.kinds kParameter) (secItems kParameter th.raw.sections)

theorem linkOKB_sound (py : PyFloat) (th : THeader) (h : linkOKB py th = true) : LinkOK py th := by
  simp only [linkOKB, Bool.and_eq_true] at h
  exact ⟨exemptAgreeB_sound _ _ _ h.1.1.1, exemptAgreeB_sound _ _ _ h.1.1.2, exemptAgreeB_sound _ _ _ h.1.2, exemptAgreeB_sound _ _ _ h.2⟩

/-- the typed read of the header written for `Cr.rLas`, evaluated: it IS `Cr.rRead` (with its data), and the link condition holds -/
theorem exKey :
    (match Wr.headerLines "2.0" (some false) 60 Cr.rLas with
     | .ok (l, _) => (readObjLines Cr.rOpts l).toOption.map fun th =>
         (decide (withData (headerObj exPy Cr.rOpts th) Cr.rRead.data Cr.rRead.indexInitial = Cr.rRead) && linkOKB exPy th)
     | .error _ => none) = some true := by
  decide +kernel

theorem exSpelt : Cy.SpeltConf (rvNum exPy) "2.0" (some false) Cr.rLas := by
  have : ∀ it ∈ Cy.writtenItems "2.0" (some false) Cr.rLas, (rvNum exPy it.value.text).text = it.value.text := by decide +kernel
  exact this

/-- **non-vacuity of `C11_cycle_fixed_point_typed`**: for the header lines written for `Cr.rLas`, the typed read succeeds, the object it builds
(with the data of the example) IS `Cr.rRead`, `LinkOK` holds, and the theorem gives the next output and its re-read -/
example (lines1 : List Str) (las' : Wr.WLas) (hH : Wr.headerLines "2.0" (some false) 60 Cr.rLas = .ok (lines1, las')) :
    ∃ th, readObjLines Cr.rOpts lines1 = .ok th ∧
      Cr.rRead = withData (headerObj exPy Cr.rOpts th) Cr.rRead.data Cr.rRead.indexInitial ∧ LinkOK exPy th ∧
      ∃ lines2 las2', Wr.headerLines "2.0" (some false) 20 (toWLas Cr.rRead) = .ok (lines2, las2') ∧
        writeObj (Cr.rCfg "%.5f") none Cr.rRead = .ok
          (lines2 ++ Cr.rs "~ASCII -------------" ::
            [Cr.rs "    1.00000    0.12346", Cr.rs "    2.00000    -999.25", Cr.rs "    3.00000    0.50000"],
           afterHeader (Cr.rCfg "%.5f") Cr.rRead) ∧
        Rd.readLines Cr.rOpts lines2 = .ok ⟨Cy.firstRead Cr.rOpts "2.0" (some false) Cr.rLas, Fd.fileSteerD Cr.rOpts "2.0" (some false) Cr.rLas, []⟩ := by
  have key := exKey
  rw [hH] at key
  simp only at key
  cases hr : readObjLines Cr.rOpts lines1 with
  | error e => rw [hr] at key; cases key
  | ok th =>
    rw [hr] at key
    simp only [Except.toOption, Option.map_some, Option.some.injEq, Bool.and_eq_true, decide_eq_true_eq] at key
    obtain ⟨ho1, hl⟩ := key
    obtain ⟨_, _, lines2, las2', h4, hw, _, r2, _⟩ := C11_cycle_fixed_point_typed Cr.rOpts exPy "2.0" (Cr.rCfg "%.5f") rfl 60 Cr.rLas las'
      lines1 hH Cr.rFileConf Cr.rCycleConf exSpelt th hr (linkOKB_sound _ _ hl) Cr.rRead _ _ ho1.symm none (Cr.rs "M") 0 1 2 Cr.rNoRefresh
      Cr.rUnits (by decide +kernel) _ rfl (Cr.rs "-999.25") _ _ (by decide +kernel) Cr.rDataLines
    exact ⟨th, rfl, ho1.symm, linkOKB_sound _ _ hl, lines2, las2', h4, hw, r2⟩

end Lasio.Ro

#print axioms Lasio.Ro.rvNum_retype
#print axioms Lasio.Ro.typeP_toW
#print axioms Lasio.Ro.exemptAgree_of_text
#print axioms Lasio.Ro.exemptAgree_of_spelt
#print axioms Lasio.Ro.toWLas_headerObj
#print axioms Lasio.Ro.C11_link_gap_zero
#print axioms Lasio.Ro.C11_link_nonzero_ok
#print axioms Lasio.Ro.C11_cycle_fixed_point_typed
#print axioms Lasio.Ro.exKey
#print axioms Lasio.Ro.exSpelt
#print axioms Lasio.Ro.linkOKB_sound
