import LasioModel.Data
import LasioProofs.Lemmas.DataLemmas
/-
C07 — rectangular result, cell (i, j) of the data is element i of curve j, declared curves keep their order,
surplus columns become extra curves after them, curves without a column are NaN of the common length.
`C07_binding` puts its hypothesis on the FLAT token sequence, so it covers wrapped layouts (any partition of the depth steps
over lines); `reshape`/transpose is `reshape_flatten` in Lemmas/DataLemmas.lean.
-/
namespace Lasio.Dt

/-! ### 1. rectangular -/

/-- After any successful read all curves have the same length. -/
theorem C07_rect (o : DataOpts) (lines : List Str) (first last : Nat) (st : Steer) (d : Nat) (ft : FloatTable)
    (e : Engine) (curves : List (Slot × Column))
    (h : readData o lines first last st d ft = .ok (e, curves)) :
    ∃ L, ∀ sc ∈ curves, sc.2.length = L := by
  have key : ∀ cols, Rect cols → ∀ u null, ∀ sc ∈ assignCurves d (applyNull u null cols),
      sc.2.length = curveLength (applyNull u null cols) := by
    intro cols hr u null
    apply assignCurves_rect
    obtain ⟨L, hL⟩ := hr
    exact ⟨L, applyNull_mem_length u null cols L hL⟩
  have hnormal : ∀ sb n, (normalEngine ft sb st.delimiter n lines first last).map
        (fun cols => (Engine.normal, assignCurves d (applyNull (o.nullPolicy == .strict) st.nullValue cols))) = .ok (e, curves) →
      ∃ L, ∀ sc ∈ curves, sc.2.length = L := by
    intro sb n hn
    cases hne : normalEngine ft sb st.delimiter n lines first last with
    | error err => simp [hne, Except.map] at hn
    | ok cols =>
      simp only [hne, Except.map, Except.ok.injEq, Prod.mk.injEq] at hn
      obtain ⟨_, rfl⟩ := hn
      exact ⟨_, key cols (normalEngineLines_rect _ _ _ _ _ _ hne) _ _⟩
  unfold readData at h
  simp only at h
  split at h
  · split at h
    · rename_i cols hnp
      simp only [Except.ok.injEq, Prod.mk.injEq] at h
      obtain ⟨_, rfl⟩ := h
      exact ⟨_, key cols (numpyEngineLines_rect _ _ _ _ hnp) _ _⟩
    · exact hnormal _ _ h
  · exact hnormal _ _ h

/-! ### 2. binding of cells to curves -/

/-- Normal engine, `n_columns = c`, flat token sequence = the row-major flattening of an r × c matrix (r ≥ 1, c ≥ 1):
the result is the c columns of the matrix, column j = the j-th entries of the rows (`matrixColumns`, Lemmas/DataLemmas.lean). -/
theorem C07_binding (ft : FloatTable) (sb : Subs) (dlm : Dlm) (body : List Str) (rows : List (List Str)) (c : Nat)
    (hc : 0 < c) (hr : rows ≠ []) (hrows : ∀ r ∈ rows, r.length = c)
    (htoks : normalTokens sb dlm body = rows.flatten) :
    normalEngineLines ft sb dlm c body = .ok (matrixColumns ft c rows) :=
  normalEngineLines_matrix ft sb dlm body rows c hc hr hrows htoks

/-- unwrapped layout: body line i tokenises to row i -/
theorem C07_binding_lines (ft : FloatTable) (sb : Subs) (dlm : Dlm) (body : List Str) (rows : List (List Str)) (c : Nat)
    (hc : 0 < c) (hr : rows ≠ []) (hrows : ∀ r ∈ rows, r.length = c)
    (hlines : body.map (lineTokens sb dlm) = rows) :
    normalEngineLines ft sb dlm c body = .ok (matrixColumns ft c rows) := by
  apply C07_binding ft sb dlm body rows c hc hr hrows
  rw [← hlines, normalTokens, List.flatMap_def]

/-- the cell statement: in the result of `C07_binding`, element i of column j is token (i, j) (as a float when the whole
column is numeric, as text otherwise) -/
theorem C07_cell (ft : FloatTable) (c : Nat) (rows : List (List Str)) (i j : Nat) (hj : j < c) (row : List Str)
    (hi : rows[i]? = some row) :
    (∃ vs, (matrixColumns ft c rows)[j]? = some (.floats vs) ∧ vs[i]? = toFloat ft (row.getD j [])) ∨
    (∃ ts, (matrixColumns ft c rows)[j]? = some (.text ts) ∧ ts[i]? = some (row.getD j [])) := by
  rw [matrixColumns_getElem? ft hj]
  unfold typedColumn
  split
  · rename_i vs hvs
    exact .inl ⟨vs, rfl, floatCells_getElem? ft _ vs hvs i _ (by rw [List.getElem?_map, hi]; rfl)⟩
  · exact .inr ⟨_, rfl, by rw [List.getElem?_map, hi]; rfl⟩

/-- numpy engine (genfromtxt specification) on lines that tokenise to the rows of a numeric r × c matrix, r ≤ max_rows:
the same columns -/
theorem C07_binding_numpy (ft : FloatTable) (rest : List Str) (rows : List (List Str)) (c maxRows : Nat)
    (hc : 0 < c) (hr : rows ≠ []) (hrows : ∀ r ∈ rows, r.length = c)
    (hlines : rest.map npTokens = rows) (hmax : rows.length ≤ maxRows)
    (hnum : ∀ r ∈ rows, ∀ t ∈ r, (toFloat ft t).isSome) :
    numpyEngineLines ft maxRows rest = some (matrixColumns ft c rows) := by
  have hseen : Tf.npRows rest = rows := by
    rw [Tf.npRows, hlines, List.filter_eq_self]
    intro r hr'
    cases r with
    | nil => exact absurd (hrows _ hr').symm (Nat.ne_of_gt hc)
    | cons _ _ => rfl
  rw [Tf.numpyEngineLines_rows, hseen, Tf.numpyRows_rect ft hr hrows hmax]
  exact allFloatCols_matrix hrows hnum

/-! ### 3. assignment to curves: order kept, nothing shifted, surplus appended, missing filled -/

theorem C07_assign_length (d : Nat) (cols : List Column) : (assignCurves d cols).length = max d cols.length := by
  simp [assignCurves, assignFrom_length]; omega

/-- column j lands in curve j, unchanged: declared curve j when j < d, a new unnamed curve otherwise -/
theorem C07_assign_column (d : Nat) (cols : List Column) (j : Nat) (col : Column) (h : cols[j]? = some col) :
    (assignCurves d cols)[j]? = some ((if j < d then Slot.declared j else Slot.extra), col) := by
  have hj : j < cols.length := by
    rcases Nat.lt_or_ge j cols.length with h' | h'
    · exact h'
    · rw [List.getElem?_eq_none h'] at h; simp at h
  simp only [assignCurves]
  rw [List.getElem?_append_left (by rw [assignFrom_length]; exact hj), assignFrom_getElem?, h]
  simp

/-- a declared curve without a column is NaN of the common length -/
theorem C07_assign_missing (d : Nat) (cols : List Column) (j : Nat) (h1 : cols.length ≤ j) (h2 : j < d) :
    (assignCurves d cols)[j]? = some (Slot.declared j, nanColumn (curveLength cols)) := by
  simp only [assignCurves]
  rw [List.getElem?_append_right (by rw [assignFrom_length]; exact h1), assignFrom_length]
  simp only [List.getElem?_map]
  rw [List.getElem?_range' (by omega)]
  simp
  omega

/-- the first d curves are the declared ones in their declared order, everything after them is unnamed -/
theorem C07_assign_slots (d : Nat) (cols : List Column) :
    (assignCurves d cols).map Prod.fst =
      (List.range d).map Slot.declared ++ List.replicate (cols.length - d) Slot.extra := by
  apply List.ext_getElem?
  intro j
  simp only [List.getElem?_map]
  rcases Nat.lt_or_ge j cols.length with hj | hj
  · rw [C07_assign_column d cols j cols[j] (by simp [hj])]
    by_cases hd : j < d
    · rw [List.getElem?_append_left (by simp [hd])]
      simp [hd]
    · rw [List.getElem?_append_right (by simp; omega)]
      simp only [hd, ↓reduceIte, Option.map_some, List.length_map, List.length_range]
      rw [List.getElem?_replicate]
      have : j - d < cols.length - d := by omega
      simp [this]
  · by_cases hd : j < d
    · rw [C07_assign_missing d cols j hj hd, List.getElem?_append_left (by simp [hd])]
      simp [hd]
    · have : (assignCurves d cols).length ≤ j := by rw [C07_assign_length]; omega
      rw [List.getElem?_eq_none this, List.getElem?_eq_none (by simp; omega)]
      rfl

/-- the data columns are never merged or reordered: dropping the NaN fill, the curves' data are exactly the columns -/
theorem C07_assign_columns_kept (d : Nat) (cols : List Column) :
    ((assignCurves d cols).take cols.length).map Prod.snd = cols := by
  simp only [assignCurves]
  rw [List.take_left' (assignFrom_length d 0 cols), assignFrom_snd]

/-- end to end for one data section read by the normal engine (what `readData` computes after the engine): the r × c matrix
with d declared curves -/
theorem C07_binding_assigned (ft : FloatTable) (sb : Subs) (dlm : Dlm) (body : List Str) (rows : List (List Str)) (c d : Nat)
    (u : Bool) (null : Option Str)
    (hc : 0 < c) (hr : rows ≠ []) (hrows : ∀ r ∈ rows, r.length = c)
    (htoks : normalTokens sb dlm body = rows.flatten) :
    ∃ cols, normalEngineLines ft sb dlm c body = .ok cols ∧ cols.length = c ∧
      (∀ col ∈ cols, col.length = rows.length) ∧
      (assignCurves d (applyNull u null cols)).length = max d c ∧
      (∀ j, j < c → ∃ col, cols[j]? = some col ∧
        (assignCurves d (applyNull u null cols))[j]? =
          some ((if j < d then Slot.declared j else Slot.extra), applyNullCol u null j col)) ∧
      (∀ j, c ≤ j → j < d → (assignCurves d (applyNull u null cols))[j]? = some (Slot.declared j, nanColumn rows.length)) := by
  have hcurve : curveLength (matrixColumns ft c rows) = rows.length := by
    cases hm : matrixColumns ft c rows with
    | nil => exact absurd ((congrArg List.length hm).symm.trans (matrixColumns_length ft c rows)) (Nat.ne_of_lt hc)
    | cons col cs => exact mem_matrixColumns_length (hm ▸ List.mem_cons_self)
  refine ⟨matrixColumns ft c rows, C07_binding ft sb dlm body rows c hc hr hrows htoks, matrixColumns_length ft c rows,
    fun col h => mem_matrixColumns_length h, ?_, ?_, ?_⟩
  · rw [C07_assign_length, applyNull_length, matrixColumns_length]
  · intro j hj
    refine ⟨_, matrixColumns_getElem? ft hj rows, ?_⟩
    apply C07_assign_column
    rw [applyNull_getElem?, matrixColumns_getElem? ft hj]
    rfl
  · intro j h1 h2
    rw [C07_assign_missing d _ j (by rw [applyNull_length, matrixColumns_length]; exact h1) h2, curveLength_applyNull, hcurve]

/-! ### hypotheses are necessary, non-vacuity -/

def c07s (s : String) : Str := s.toList

def ft6 : FloatTable := [(c07s "0", c07s "a0"), (c07s "1", c07s "a1"), (c07s "2", c07s "a2"), (c07s "1000", c07s "b0"), (c07s "1001", c07s "b1"), (c07s "1002", c07s "b2")]

/-- 2 × 3 matrix with cells 1000·i + j, two declared curves: the third column becomes an extra curve -/
example : readData ⟨.normal, .strict⟩ [c07s "~A\n", c07s "0 1 2\n", c07s " 1000\t1001  1002 \n"] 0 2 ⟨true, c07s "NO", none, .space⟩ 2 ft6
    = .ok (.normal, [(.declared 0, .floats [c07s "a0", c07s "b0"]), (.declared 1, .floats [c07s "a1", c07s "b1"]),
                     (.extra, .floats [c07s "a2", c07s "b2"])]) := by decide +kernel

/-- the same through the numpy engine -/
example : readData ⟨.numpy, .strict⟩ [c07s "~A\n", c07s "0 1 2\n", c07s " 1000\t1001  1002 \n"] 0 2 ⟨true, c07s "NO", none, .space⟩ 2 ft6
    = .ok (.numpy, [(.declared 0, .floats [c07s "a0", c07s "b0"]), (.declared 1, .floats [c07s "a1", c07s "b1"]),
                    (.extra, .floats [c07s "a2", c07s "b2"])]) := by decide +kernel

/-- four declared curves, three columns: the fourth curve is NaN of the common length -/
example : readData ⟨.normal, .strict⟩ [c07s "~A\n", c07s "0 1 2\n", c07s "1000 1001 1002\n"] 0 2 ⟨true, c07s "NO", none, .space⟩ 4 ft6
    = .ok (.normal, [(.declared 0, .floats [c07s "a0", c07s "b0"]), (.declared 1, .floats [c07s "a1", c07s "b1"]),
                     (.declared 2, .floats [c07s "a2", c07s "b2"]), (.declared 3, .floats [nanTxt, nanTxt])]) := by decide +kernel

/-- wrapped layout: the depth steps re-partitioned over physical lines, three declared curves -/
example : readData ⟨.numpy, .strict⟩ [c07s "~A\n", c07s "0\n", c07s "1 2\n", c07s "1000 1001\n", c07s "1002\n"] 0 4 ⟨true, c07s "YES", none, .space⟩ 3 ft6
    = .ok (.normal, [(.declared 0, .floats [c07s "a0", c07s "b0"]), (.declared 1, .floats [c07s "a1", c07s "b1"]),
                     (.declared 2, .floats [c07s "a2", c07s "b2"])]) := by decide +kernel

/-- `n_columns = c` is necessary in `C07_binding`: when the sniffer cannot tell (ragged sample) the DECLARED count is used, and a
6-token section with 2 declared curves is cut into 3 rows of 2 — columns are then not the columns of the file -/
theorem C07_ncolumns_needed :
    readData ⟨.normal, .strict⟩ [c07s "~A\n", c07s "0 1 2 1000\n", c07s "1001 1002\n"] 0 2 ⟨true, c07s "NO", none, .space⟩ 2 ft6
    = .ok (.normal, [(.declared 0, .floats [c07s "a0", c07s "a2", c07s "b1"]), (.declared 1, .floats [c07s "a1", c07s "b0", c07s "b2"])]) := by
  decide +kernel

end Lasio.Dt

#print axioms Lasio.Dt.C07_rect
#print axioms Lasio.Dt.C07_binding
#print axioms Lasio.Dt.C07_binding_lines
#print axioms Lasio.Dt.C07_cell
#print axioms Lasio.Dt.C07_binding_numpy
#print axioms Lasio.Dt.C07_assign_length
#print axioms Lasio.Dt.C07_assign_column
#print axioms Lasio.Dt.C07_assign_missing
#print axioms Lasio.Dt.C07_assign_slots
#print axioms Lasio.Dt.C07_assign_columns_kept
#print axioms Lasio.Dt.C07_binding_assigned
#print axioms Lasio.Dt.C07_ncolumns_needed
