import LasioModel.Section
import LasioProofs.Lemmas.SectionInv
/-
C15 — Section lookup by key, attribute, membership and get() always agree.
Stated for EVERY section value `s` (not only reachable ones), every key, both settings of
`mnemonic_transforms`; pure case analysis on the accessor loops of `SectionItems`.
-/
namespace Lasio

/-- `section.<key>` for keys that are not class attributes: `if key in self: return self[key]`, else AttributeError -/
def Section.getattr (s : Section) (k : Str) : Except Err Nat :=
  if s.contains (.str k) then s.getitem (.str k) else .error .other

/-- `findFirst` is the library's `List.findIdx?` -/
theorem findFirst_eq_findIdx? {α} (p : α → Bool) (l : List α) : findFirst p l = l.findIdx? p := by
  induction l with
  | nil => rfl
  | cons a as ih => rw [findFirst, List.findIdx?_cons, ih]

theorem findFirst_some_iff {α} (p : α → Bool) (l : List α) (i : Nat) :
    findFirst p l = some i ↔ (∃ a, l[i]? = some a ∧ p a = true) ∧ ∀ j b, j < i → l[j]? = some b → p b = false := by
  rw [findFirst_eq_findIdx?, List.findIdx?_eq_some_iff_getElem]
  constructor
  · rintro ⟨h, hp, hall⟩
    refine ⟨⟨l[i], List.getElem?_eq_getElem h, hp⟩, fun j b hj hb => ?_⟩
    obtain ⟨hjl, rfl⟩ := List.getElem?_eq_some_iff.mp hb
    simpa using hall j hj
  · rintro ⟨⟨a, ha, hp⟩, hall⟩
    obtain ⟨h, rfl⟩ := List.getElem?_eq_some_iff.mp ha
    exact ⟨h, hp, fun j hj => by simp [hall j _ hj (List.getElem?_eq_getElem (Nat.lt_trans hj h))]⟩

theorem findFirst_none_iff {α} (p : α → Bool) (l : List α) :
    findFirst p l = none ↔ ∀ a ∈ l, p a = false := by
  rw [findFirst_eq_findIdx?, List.findIdx?_eq_none_iff]

theorem findFirst_lt {α} (p : α → Bool) (l : List α) (i : Nat) (h : findFirst p l = some i) : i < l.length := by
  obtain ⟨⟨a, ha, _⟩, _⟩ := (findFirst_some_iff p l i).mp h
  exact (List.getElem?_eq_some_iff.mp ha).1

/-- `k in s` is true exactly when `s[k]` succeeds (string keys) -/
theorem C15_contains_iff_getitem (s : Section) (k : Str) :
    s.contains (.str k) = true ↔ ∃ i, s.getitem (.str k) = .ok i := by
  unfold Section.contains Section.getitem
  cases h : s.find (.str k) with
  | none => simp
  | some i => simp

/-- `s[k]` returns the FIRST item whose session mnemonic equals `k` (ignoring case when transforms are on) -/
theorem C15_first_match (s : Section) (k : Str) (i : Nat) (h : s.getitem (.str k) = .ok i) :
    (∃ it, s.items[i]? = some it ∧ cmpStr s.tr it.session k = true) ∧
    ∀ j it, j < i → s.items[j]? = some it → cmpStr s.tr it.session k = false := by
  unfold Section.getitem at h
  cases hf : s.find (.str k) with
  | none => simp [hf] at h
  | some i' =>
    simp [hf] at h; subst h
    unfold Section.find at hf
    have := (findFirst_some_iff _ _ _).mp hf
    simpa [cmpKey] using this

/-- attribute access returns the same item as item access -/
theorem C15_getattr_eq_getitem (s : Section) (k : Str) (h : s.contains (.str k) = true) :
    s.getattr k = s.getitem (.str k) := by
  simp [Section.getattr, h]

/-- a missing key raises KeyError from item access and from deletion, and leaves nothing changed -/
theorem C15_missing_keyerror (s : Section) (k : Str) (h : s.contains (.str k) = false) :
    s.getitem (.str k) = .error .keyError ∧ s.delitem (.str k) = .error .keyError := by
  unfold Section.contains at h
  have hf : s.find (.str k) = none := by
    cases hf : s.find (.str k) <;> simp [hf] at h ⊢
  simp [Section.getitem, Section.delitem, hf]

/-- get() without add=True never changes the section -/
theorem C15_get_pure (s : Section) (m d : Str) : (s.get m d false).2 = s := by
  unfold Section.get
  cases s.find (.str m) <;> simp

/-- get(add=True) on a present key changes nothing; on a missing key it appends exactly one item, whose
original mnemonic is the key, after all the existing items (whose originals and order are kept) -/
theorem C15_get_add (s : Section) (m d : Str) :
    (s.contains (.str m) = true → (s.get m d true).2 = s) ∧
    (s.contains (.str m) = false → (s.get m d true).2.origs = s.origs ++ [m]) := by
  unfold Section.get Section.contains
  cases hf : s.find (.str m) with
  | some i => simp
  | none =>
    simp only [Option.isSome_none, Bool.false_eq_true, false_implies, true_and, if_true]
    intro _
    unfold Section.append
    rw [assign_origs]
    simp [Section.origs, mkItem]

/-- assigning a plain value to a key changes only that item's value -/
theorem C15_set_value_frame (s s' : Section) (k : Key) (v : Str) (h : s.setValue k v = .ok s') :
    ∃ i, s.getitem k = .ok i ∧ s'.tr = s.tr ∧ s'.items.length = s.items.length ∧
      (∀ j, j ≠ i → s'.items[j]? = s.items[j]?) ∧
      (∀ it, s.items[i]? = some it → s'.items[i]? = some { it with value := v }) := by
  obtain ⟨i, hg, rfl⟩ := (setValue_ok_iff s s' k v).mp h
  refine ⟨i, hg, rfl, by simp, ?_, ?_⟩
  · intro j hj
    simp [Ne.symm hj]
  · intro it hit
    simp [hit]

/-- deleting by key or index removes exactly the addressed item and preserves the order of the rest -/
theorem C15_delete_exact (s s' : Section) (k : Key) (h : s.delitem k = .ok s') :
    ∃ i, s.getitem k = .ok i ∧ i < s.items.length ∧ s'.tr = s.tr ∧
      s'.items = s.items.take i ++ s.items.drop (i + 1) := by
  obtain ⟨i, hg, rfl⟩ := (delitem_ok_iff s s' k).mp h
  refine ⟨i, hg, ?_, rfl, by simp [List.eraseIdx_eq_take_drop_succ]⟩
  unfold Section.getitem at hg
  cases hf : s.find k with
  | some i' =>
    simp [hf] at hg; subst hg
    exact findFirst_lt _ _ _ hf
  | none =>
    simp only [hf] at hg
    cases k with
    | str _ => simp at hg
    | int n =>
      simp only [] at hg
      cases hp : pyIndex s.items.length n with
      | none => simp [hp] at hg
      | some j =>
        simp [hp] at hg; subst hg
        exact pyIndex_lt hp

/-- integer keys address positions exactly as in a Python list, for every section: an `int` never equals a
session mnemonic -/
theorem C15_int_as_list (s : Section) (n : Int) :
    s.find (.int n) = none ∧
    s.getitem (.int n) = (match pyIndex s.items.length n with
      | some j => .ok j | none => .error .indexError) := by
  have hf : s.find (.int n) = none := by
    unfold Section.find
    exact (findFirst_none_iff _ _).mpr (by intro a _; rfl)
  refine ⟨hf, ?_⟩
  unfold Section.getitem
  rw [hf]
  cases hp : pyIndex s.items.length n <;> simp [hp]

/-- `pyIndex` is Python's rule: non-negative `i` is position `i`, negative `i` is `len + i`, otherwise out of range -/
theorem C15_pyIndex_spec (len : Nat) (i : Int) :
    (0 ≤ i → i < len → pyIndex len i = some i.toNat) ∧
    (i < 0 → -(len : Int) ≤ i → ∃ j, pyIndex len i = some j ∧ (j : Int) = len + i) ∧
    ((len : Int) ≤ i ∨ i < -(len : Int) → pyIndex len i = none) := by
  unfold pyIndex
  refine ⟨fun h0 h1 => ?_, fun h0 h1 => ?_, fun h => ?_⟩
  · rw [if_pos h0, if_pos (by omega)]
  · rw [if_neg (by omega), if_pos (by omega)]
    exact ⟨_, rfl, by omega⟩
  · rcases h with h | h
    · rw [if_pos (by omega), if_neg (by omega)]
    · rw [if_neg (by omega), if_neg (by omega)]

private theorem sliceBound_pos (len : Nat) (d : Int) (hd : 0 ≤ d ∧ d ≤ len) (v : Option Int) :
    0 ≤ sliceBound len false d v ∧ sliceBound len false d v ≤ len := by
  cases v with
  | none => simpa [sliceBound] using hd
  | some v =>
    simp only [sliceBound, Bool.false_eq_true, if_false]
    by_cases h1 : v < 0
    · by_cases h2 : v + (len : Int) < 0 <;> simp [h1, h2] <;> omega
    · by_cases h2 : v ≥ (len : Int) <;> simp [h1, h2] <;> omega

private theorem sliceBound_neg (len : Nat) (d : Int) (hd : -1 ≤ d ∧ d ≤ (len : Int) - 1) (v : Option Int) :
    -1 ≤ sliceBound len true d v ∧ sliceBound len true d v ≤ (len : Int) - 1 := by
  cases v with
  | none => simpa [sliceBound] using hd
  | some v =>
    simp only [sliceBound, if_true]
    by_cases h1 : v < 0
    · by_cases h2 : v + (len : Int) < 0 <;> simp [h1, h2] <;> omega
    · by_cases h2 : v ≥ (len : Int) <;> simp [h1, h2] <;> omega

/-- the last index of a range of `(n / c + 1)` steps of width `c > 0` stays within `n` -/
private theorem step_mul_le (k : Nat) (c n : Int) (hc : 0 < c) (hk : (k : Int) < n / c + 1) :
    0 ≤ (k : Int) * c ∧ (k : Int) * c ≤ n :=
  ⟨Int.mul_nonneg (by omega) (by omega),
    calc (k : Int) * c ≤ (n / c) * c := Int.mul_le_mul_of_nonneg_right (by omega) (by omega)
      _ ≤ n := Int.ediv_mul_le _ (by omega)⟩

/-- **Slices address positions exactly as in a list**: every selected position is a position of the section (no padding, no
wrap-around), for every start / stop / step, negative ones included.  `Section.getSlice` returns positions only: taking a slice
is a read, the section value is not part of the result (the real call builds a new list of the same item objects). -/
theorem C15_slice_in_range (len : Nat) (a b : Option Int) (c : Int) (l : List Nat)
    (h : pySlice len a b c = some l) : ∀ p ∈ l, p < len := by
  unfold pySlice at h
  split at h
  · cases h
  · rename_i hc0
    have hc0' : c ≠ 0 := by simpa using hc0
    split at h
    · rename_i hpos
      simp only [Option.some.injEq] at h
      subst h
      intro p hp
      simp only [List.mem_map, List.mem_range] at hp
      obtain ⟨k, hk, rfl⟩ := hp
      have ha := sliceBound_pos len 0 (by omega) a
      have hb := sliceBound_pos len len (by omega) b
      generalize sliceBound len false 0 a = A at *
      generalize sliceBound len false (len : Int) b = B at *
      split at hk
      · rename_i hab
        have := step_mul_le k c (B - A - 1) hpos (by omega)
        omega
      · simp at hk
    · rename_i hpos
      have hneg : c < 0 := by omega
      simp only [Option.some.injEq] at h
      subst h
      intro p hp
      simp only [List.mem_map, List.mem_range] at hp
      obtain ⟨k, hk, rfl⟩ := hp
      have ha := sliceBound_neg len ((len : Int) - 1) (by omega) a
      have hb := sliceBound_neg len (-1) (by omega) b
      generalize sliceBound len true ((len : Int) - 1) a = A at *
      generalize sliceBound len true (-1) b = B at *
      split at hk
      · rename_i hab
        have := step_mul_le k (-c) (A - B - 1) (by omega) (by omega)
        rw [Int.mul_neg] at this
        omega
      · simp at hk

private theorem sliceBound_nat (len v : Nat) (d : Int) (h : v ≤ len) : sliceBound len false d (some (v : Int)) = v := by
  simp only [sliceBound, Bool.false_eq_true, if_false]
  have h0 : ¬ ((v : Int) < 0) := by omega
  by_cases h2 : (v : Int) ≥ (len : Int)
  · simp [h0, h2]; omega
  · simp [h0, h2]

/-- positions of a forward slice with unit step between two resolved bounds -/
private theorem pySlice_step1 (len : Nat) (a b : Option Int) :
    pySlice len a b 1 = some ((List.range (sliceBound len false len b - sliceBound len false 0 a).toNat).map
      fun (k : Nat) => (sliceBound len false 0 a + (k : Int)).toNat) := by
  simp only [pySlice]
  generalize sliceBound len false 0 a = A
  generalize sliceBound len false (len : Int) b = B
  have h1 : ((1 : Int) == 0) = false := by decide
  simp only [h1, Bool.false_eq_true, if_false, Int.mul_one, Int.ediv_one]
  have h2 : (1 : Int) > 0 := by decide
  simp only [h2, if_true]
  by_cases hab : A < B
  · simp only [hab, if_true]
    have : (B - A - 1 + 1).toNat = (B - A).toNat := by congr 1; omega
    rw [this]
  · simp only [hab, if_false]
    have : (B - A).toNat = 0 := by omega
    rw [this]

/-- `s[:]` : every position, in order -/
theorem C15_slice_full (len : Nat) : pySlice len none none 1 = some (List.range len) := by
  rw [pySlice_step1]
  simp only [sliceBound]
  congr 1
  apply List.ext_getElem
  · simp
  · intro i h1 h2; simp

/-- `s[a:b]` with `0 ≤ a ≤ b ≤ len` : the positions `a, a+1, …, b-1` -/
theorem C15_slice_contiguous (len a b : Nat) (hab : a ≤ b) (hb : b ≤ len) :
    pySlice len (some (a : Int)) (some (b : Int)) 1 = some ((List.range (b - a)).map (· + a)) := by
  rw [pySlice_step1, sliceBound_nat len a 0 (by omega), sliceBound_nat len b len hb]
  congr 1
  have : ((b : Int) - (a : Int)).toNat = b - a := by omega
  rw [this]
  apply List.map_congr_left
  intro k _
  omega

/-- `s[::-1]` : every position, last first -/
theorem C15_slice_reverse (len : Nat) : pySlice len none none (-1) = some ((List.range len).map fun k => len - 1 - k) := by
  simp only [pySlice, sliceBound]
  have h1 : ((-1 : Int) == 0) = false := by decide
  have h2 : ¬ ((-1 : Int) > 0) := by decide
  simp only [h1, Bool.false_eq_true, if_false, h2, Int.neg_neg, Int.ediv_one]
  by_cases h : (-1 : Int) < (len : Int) - 1
  · simp only [h, if_true]
    have : ((len : Int) - 1 - -1 - 1 + 1).toNat = len := by omega
    rw [this]
    congr 1
    apply List.map_congr_left
    intro k hk
    have := List.mem_range.mp hk
    omega
  · have : len = 0 := by omega
    subst this; simp

/-- the section-level form of the three closed forms -/
theorem C15_slice_section (s : Section) :
    s.getSlice none none 1 = some (List.range s.items.length) ∧
    s.getSlice none none (-1) = some ((List.range s.items.length).map fun k => s.items.length - 1 - k) ∧
    (∀ a b : Nat, a ≤ b → b ≤ s.items.length →
      s.getSlice (some (a : Int)) (some (b : Int)) 1 = some ((List.range (b - a)).map (· + a))) ∧
    s.getSlice none none 0 = none :=
  ⟨C15_slice_full _, C15_slice_reverse _, fun a b h1 h2 => C15_slice_contiguous _ a b h1 h2, by simp [Section.getSlice, pySlice]⟩

example : pySlice 5 (some (-2)) none 1 = some [3, 4] ∧ pySlice 5 (some 5) (some 1) (-2) = some [4, 2] ∧
    pySlice 4 (some 1) (some 4) 2 = some [1, 3] := by decide

/-- non-vacuity: a concrete section with duplicates and case variants exercises the statements -/
def exSec : Section := ⟨[mkItem ['A'] [] [] [], mkItem ['a'] [] [] []], true⟩
example : exSec.contains (.str ['a']) = true ∧ exSec.getitem (.str ['a']) = .ok 0 ∧
    exSec.getitem (.int (-1)) = .ok 1 ∧ exSec.getitem (.str ['b']) = .error .keyError :=
  ⟨by decide, by rfl, by rfl, by rfl⟩

end Lasio
