import LasioModel.Curves
import LasioProofs.Props.C13
import LasioProofs.Lemmas.CurvesLemmas
import LasioProofs.Lemmas.Eval
/-
C14 — a LASFile's curves behave like an ordered list of (name, metadata, 1-D array).

Model: `LasioModel/Curves.lean` (`LasCurves` = the `~Curves` `Section` of C13 + one array per curve; `step` =
the real methods of las.py, partial mutations on failure included).  Specification: `SpecCurves`, a plain list
of (original name, unit, value, descr, array) with ordinary list surgery (`specStep`); a mnemonic argument is
resolved in the table of current session names (`keys.index(m)`), nothing else of the session-name machinery is
visible to the specification.

Well-formedness `WF` (one array per curve) is an invariant of every operation (`C14_wf_step`) and holds for a fresh
LASFile; it is the only hypothesis of the refinement theorems.
-/
namespace Lasio

theorem C14_step_spec (L : LasCurves) (h : L.WF) (op : CurveOp) :
    (L.step op).1.abs = specStep L.keys L.abs op ∧ (L.step op).1.WF := by
  have hlen := abs_length L h
  cases op with
  | appendCurve m u v d data => exact appendItem_spec L h ⟨mkItem m u v d, data, true⟩
  | insertCurve ix m u v d data => exact insertItem_spec L h ix ⟨mkItem m u v d, data, true⟩
  | appendItem c => exact appendItem_spec L h c
  | insertItem ix c => exact insertItem_spec L h ix c
  | replaceItem ix c => exact replaceItem_spec L h ix c
  | deleteIx ix => exact deleteIx_spec L h ix
  | deleteMnem m =>
    simp only [LasCurves.step, specStep, LasCurves.deleteMnem]
    cases hk : keyIndex L.keys m with
    | none => exact ⟨rfl, h⟩
    | some j =>
      have hj : j < L.sec.items.length := by rw [← keys_length]; exact keyIndex_lt hk
      have := deleteIx_spec L h (Int.ofNat j)
      unfold specDelete at this
      rw [hlen, pyIndex_ofNat _ _ hj] at this
      exact this
  | updateIx ix data u d v => exact updateIx_spec L h ix data u d v
  | updateMnem m data u d v =>
    simp only [LasCurves.step, specStep, LasCurves.updateMnem]
    cases hk : keyIndex L.keys m with
    | none => exact ⟨rfl, h⟩
    | some j => exact updateIx_spec L h (Int.ofNat j) data u d v
  | setItemCurve key it data =>
    simp only [LasCurves.step, specStep, LasCurves.setItemCurve]
    by_cases hkey : (key != it.session) = true
    · simp only [hkey, if_true]
      exact ⟨by first | rfl | trivial, h⟩
    · simp only [hkey, Bool.false_eq_true, if_false]
      cases hk : keyIndex L.keys key with
      | none =>
        simp only [LasCurves.appendItem]
        exact appendItem_spec L h ⟨it, data, true⟩
      | some j =>
        have hj : j < L.abs.length := by rw [hlen, ← keys_length]; exact keyIndex_lt hk
        have := replaceItem_spec L h (Int.ofNat j) ⟨it, data, true⟩
        rw [specReplace_ofNat _ _ _ hj rfl] at this
        exact this
  | setItemData key data =>
    simp only [LasCurves.step, specStep, LasCurves.setItemData]
    cases hk : keyIndex L.keys key with
    | none =>
      simp only [LasCurves.appendCurve, LasCurves.insertCurve]
      exact appendItem_spec L h ⟨mkItem key [] [] [], data, true⟩
    | some j =>
      simp only [LasCurves.updateMnem, hk]
      exact updateIx_spec L h (Int.ofNat j) (some data) none none none
  | setData rows names truncate => exact setData_spec L h rows names truncate

/-- order, original names, metadata and arrays after ANY operation (successful or raising) are those of the
plain list model after the same operation -/
theorem C14_refines (L : LasCurves) (h : L.WF) (op : CurveOp) :
    (L.step op).1.abs = specStep L.keys L.abs op := (C14_step_spec L h op).1

theorem C14_wf_step (L : LasCurves) (h : L.WF) (op : CurveOp) : (L.step op).1.WF := (C14_step_spec L h op).2

theorem C14_wf_run (L : LasCurves) (h : L.WF) (ops : List CurveOp) : (L.run ops).WF := by
  induction ops generalizing L with
  | nil => exact h
  | cons op ops ih => exact ih _ (C14_wf_step L h op)

/-- all histories: the abstraction of the state reached equals the plain-list history -/
theorem C14_refines_run (L : LasCurves) (h : L.WF) (ops : List CurveOp) :
    (L.run ops).abs = specRun L L.abs ops := by
  induction ops generalizing L with
  | nil => rfl
  | cons op ops ih =>
    have e : L.run (op :: ops) = (L.step op).1.run ops := rfl
    rw [e, ih _ (C14_wf_step L h op), C14_refines L h op]
    rfl

/-- a fresh `LASFile()` -/
theorem C14_refines_run_fresh (ops : List CurveOp) :
    (LasCurves.empty.run ops).abs = specRun LasCurves.empty [] ops ∧ (LasCurves.empty.run ops).WF :=
  ⟨C14_refines_run LasCurves.empty rfl ops, C14_wf_run LasCurves.empty rfl ops⟩

/-- operations that carry no mnemonic argument do not look at the session names at all -/
theorem C14_index_ops_ignore_keys (keys keys' : List Str) (S : SpecCurves) (op : CurveOp)
    (h : match op with
      | .deleteMnem _ | .updateMnem .. | .setItemCurve .. | .setItemData .. => False
      | _ => True) : specStep keys S op = specStep keys' S op := by
  cases op <;> first | rfl | exact absurd h id

/-- `replace_curve_item(ix, c)` with `0 ≤ ix < len` is list item assignment -/
theorem C14_replace_is_set (S : SpecCurves) (keys : List Str) (j : Nat) (c : CurveArg) (hj : j < S.length)
    (hc : c.isCurve = true) :
    specStep keys S (.replaceItem (Int.ofNat j) c) = S.set j (specOf c.item c.data) :=
  specReplace_ofNat S j c hj hc

/-- … but a NEGATIVE `ix` is resolved twice, the second time against the shorter list:
`replace_curve_item(-1, c)` on `[x, y]` gives `[c, x]` (model = code, validated by the harness) -/
theorem C14_counterexample_replace_negative (x y c : SpecCurve) :
    specStep [] [x, y] (.replaceItem (-1) ⟨⟨c.orig, [], c.unit, c.value, c.descr⟩, c.data, true⟩) = [c, x] := by
  rfl

theorem C14_sec_insert (L : LasCurves) (ix : Int) (m u v d : Str) (data : List Cell) :
    (L.step (.insertCurve ix m u v d data)).1.sec = L.sec.insert ix (mkItem m u v d) := by
  simp only [LasCurves.step, LasCurves.insertCurve, LasCurves.insertItem, if_true]

theorem C14_sec_append (L : LasCurves) (m u v d : Str) (data : List Cell) :
    (L.step (.appendCurve m u v d data)).1.sec = L.sec.append (mkItem m u v d) := by
  simp only [LasCurves.step, LasCurves.appendCurve, LasCurves.insertCurve, LasCurves.insertItem, if_true,
    Section.insert, Section.append, pyInsertPos_ofNat_len, insertAt_len_eq_append]

theorem C14_sec_delete (L : LasCurves) (ix : Int) :
    (L.step (.deleteIx ix)).1.sec = L.sec.step (.pop ix) := by
  show (L.deleteIx ix).1.sec = (match L.sec.pop ix with | .ok s' => s' | .error _ => L.sec)
  rw [deleteIx_eq]
  unfold Section.pop
  cases pyIndex L.sec.items.length ix <;> rfl

/-- C13's invariant transfers to the curve section (shown for the growth and deletion operations) -/
theorem C14_inv_insert_delete (L : LasCurves) (h : Inv L.sec) :
    (∀ ix m u v d data, Inv (L.step (.insertCurve ix m u v d data)).1.sec) ∧
    (∀ m u v d data, Inv (L.step (.appendCurve m u v d data)).1.sec) ∧
    (∀ ix, Inv (L.step (.deleteIx ix)).1.sec) := by
  refine ⟨?_, ?_, ?_⟩
  · intro ix m u v d data
    rw [C14_sec_insert]
    exact C13_inv_insert _ _ _ (suffixForm_mkItem m u v d) h
  · intro m u v d data
    rw [C14_sec_append]
    exact C13_inv_append _ _ (suffixForm_mkItem m u v d) h
  · intro ix
    rw [C14_sec_delete]
    exact C13_inv_step _ _ h

/-- the originals of the curve section are the names of the plain list (C13's `origs`) -/
theorem C14_originals (L : LasCurves) (h : L.WF) : L.abs.map (·.orig) = L.sec.origs := (abs_maps L h).1

/-- `assign_duplicate_suffixes()` iterates over a Python `set`: any order and multiplicity of the test mnemonics
gives the same section -/
theorem C14_assignAll_order (s : Section) (ts : List Str)
    (h : ∀ t, t ∈ ts ↔ t ∈ s.items.map (fun it => useful it.orig)) : assignMany s ts = s.assignAll :=
  assignMany_set_indep s ts _ h

/-- closed form: after re-suffixing all groups, the item at position `i` carries `useful:k` (k = its rank in its
group) when its group has more than one member, and is untouched otherwise -/
theorem C14_assignAll_closed_form (s : Section) (i : Nat) :
    s.assignAll.items[i]? = (s.items[i]?).map (fun it =>
      if 1 < countGroup s.tr (useful it.orig) s.items then
        withSuffix it (countGroup s.tr (useful it.orig) (s.items.take i) + 1) else it) := by
  unfold Section.assignAll
  rw [assignMany_getElem?]
  cases hi : s.items[i]? with
  | none => rfl
  | some it =>
    simp only [Option.map_some, finalItem, suffixHit_all _ _ _ (List.mem_of_getElem? hi), decide_eq_true_eq]

theorem C14_views_keys (L : LasCurves) : L.keys = L.sec.items.map (·.session) := rfl

theorem C14_views_values (L : LasCurves) (h : L.WF) : L.values = L.abs.map (·.data) := (abs_maps L h).2.symm

theorem C14_views_items (L : LasCurves) (h : L.WF) : L.itemsView = L.keys.zip (L.abs.map (·.data)) := by
  rw [← C14_views_values L h]; rfl

theorem C14_getitem_int (L : LasCurves) (h : L.WF) (i : Int) :
    L.getitem (.int i) = match pyIndex L.abs.length i with
      | some j => .ok ((L.abs.map (·.data)).getD j [])
      | none => .error .indexError := by
  unfold LasCurves.getitem
  simp only []
  rw [(C15_int_as_list L.sec i).2, abs_length L h, ← C14_views_values L h]
  cases pyIndex L.sec.items.length i <;> rfl

/-- `las.index` is the array of the first curve -/
theorem C14_views_index (L : LasCurves) (h : L.WF) :
    L.index = match L.abs with
      | [] => .error .indexError
      | c :: _ => .ok c.data := by
  unfold LasCurves.index
  rw [C14_getitem_int L h]
  cases hl : L.abs with
  | nil => rfl
  | cons c cs => simp [pyIndex]

/-- `las[m]` for a string: `m` must literally be a session name; the curve returned is the first one whose session
name matches `m` under the section's comparison -/
theorem C14_getitem_mnemonic (L : LasCurves) (m : Str) :
    L.getitem (.str m) =
      if L.keys.contains m then
        match findFirst (fun k => cmpStr L.sec.tr k m) L.keys with
        | some j => .ok (L.data.getD j [])
        | none => .error .keyError
      else .error .keyError := by
  unfold LasCurves.getitem Section.getitem Section.find LasCurves.keys Section.keys
  simp only [cmpKey, findFirst_map]
  cases findFirst (fun it => cmpStr L.sec.tr it.session m) L.sec.items <;> rfl

/-- with `mnemonic_transforms` off, or with session names that are distinct under the section's comparison (C13's
`Distinct`, which holds under `Inv` and `NoSuffixClash`), `las[m]` is the array of the FIRST curve whose session
name equals `m` exactly, and KeyError when there is none -/
theorem C14_getitem_mnemonic_exact (L : LasCurves) (m : Str) (hd : L.sec.tr = false ∨ Distinct L.sec) :
    L.getitem (.str m) = match keyIndex L.keys m with
      | some j => .ok (L.data.getD j [])
      | none => .error .keyError := by
  rw [C14_getitem_mnemonic]
  by_cases hm : L.keys.contains m = true
  · simp only [hm, if_true]
    rw [keyIndex_eq_findFirst_cmp _ L.keys _ (hd.imp id List.pairwise_map.mpr) hm]
  · simp only [hm, Bool.false_eq_true, if_false]
    have : keyIndex L.keys m = none := by
      unfold keyIndex
      rw [findFirst_none_iff]
      intro k hk
      simp only [beq_eq_false_iff_ne, ne_eq]
      rintro rfl
      exact hm (by simpa using hk)
    rw [this]

/-- the hypothesis is needed: a curve section read with the default `mnemonic_case="upper"` (transforms on) holding
originals `a:2`, `A`, `A` has session names `a:2`, `A:1`, `A:2`; `las["A:2"]` passes the exact membership test and
then resolves, case-insensitively, to the FIRST curve -/
def getitemClash : LasCurves :=
  (LasCurves.run ⟨⟨[], true⟩, []⟩
    [.appendCurve "a:2".toList [] [] [] ["x".toList], .appendCurve "A".toList [] [] [] ["y".toList],
     .appendCurve "A".toList [] [] [] ["z".toList]])

theorem C14_counterexample_getitem_transforms :
    getitemClash.keys = ["a:2".toList, "A:1".toList, "A:2".toList] ∧
    keyIndex getitemClash.keys "A:2".toList = some 2 ∧
    getitemClash.getitem (.str "A:2".toList) = .ok ["x".toList] ∧
    ¬ Distinct getitemClash.sec := by
  have h : getitemClash.keys = ["a:2".toList, "A:1".toList, "A:2".toList] ∧
      keyIndex getitemClash.keys "A:2".toList = some 2 ∧
      getitemClash.getitem (.str "A:2".toList) = .ok ["x".toList] := by decide +kernel
  refine ⟨h.1, h.2.1, h.2.2, fun hd => ?_⟩
  have e := C14_getitem_mnemonic_exact getitemClash "A:2".toList (Or.inr hd)
  rw [h.2.2, h.2.1] at e
  exact absurd e (by decide +kernel)

/-- `las.data`: column `i` of the 2-D view is the array of curve `i`; the view has one row per sample and one
column per curve -/
theorem C14_data_column (L : LasCurves) (rows : List (List Cell)) (h : L.dataView = .ok rows) :
    (∀ i d, L.data[i]? = some d → rows.map (fun r => r.getD i []) = d) ∧
    (∀ r ∈ rows, r.length = L.data.length) ∧
    (∀ d ∈ L.data, d.length = rows.length) := by
  unfold LasCurves.dataView at h
  cases hdat : L.data with
  | nil =>
    rw [hdat] at h
    injection h with h
    subst h
    simp
  | cons d0 ds =>
    rw [hdat] at h
    simp only [] at h
    split at h
    · rename_i hall
      injection h with h
      subst h
      have hlen := all_length_eq d0 ds hall
      refine ⟨?_, ?_, ?_⟩
      · intro i d hi
        have hd : d.length = d0.length := hlen d (List.mem_of_getElem? hi)
        rw [List.map_map]
        apply List.ext_getElem (by simp [hd])
        intro j h1 h2
        -- entry `j` of column `i`: row `j` is the map of `·.getD j []` over the arrays, and the `i`-th array is `d`
        simp only [List.getElem_map, List.getElem_range, Function.comp, List.getD_eq_getElem?_getD, List.getElem?_map, hi,
          Option.map_some, Option.getD_some, List.getElem?_eq_getElem h2]
      · intro r hr
        simp only [List.mem_map] at hr
        obtain ⟨j, _, rfl⟩ := hr
        simp
      · intro d hd
        simp [hlen d hd]
    · simp at h

/-- … and it raises (ValueError) exactly when two arrays have different lengths; without curves it is the empty
2-D array -/
theorem C14_data_error (L : LasCurves) :
    (∃ e, L.dataView = .error e) ↔ (∃ a ∈ L.data, ∃ b ∈ L.data, a.length ≠ b.length) := by
  unfold LasCurves.dataView
  cases hdat : L.data with
  | nil =>
    constructor
    · rintro ⟨e, he⟩; cases he
    · rintro ⟨a, ha, _⟩; cases ha
  | cons d0 ds =>
    simp only []
    by_cases hall : ds.all (fun x => x.length == d0.length) = true
    · simp only [hall, if_true]
      constructor
      · rintro ⟨e, he⟩; cases he
      · rintro ⟨a, ha, b, hb, hne⟩
        have hl := all_length_eq d0 ds hall
        exact absurd ((hl a ha).trans (hl b hb).symm) hne
    · simp only [hall, Bool.false_eq_true, if_false]
      refine ⟨fun _ => ?_, fun _ => ⟨_, rfl⟩⟩
      obtain ⟨x, hx1, hx2⟩ : ∃ x ∈ ds, x.length ≠ d0.length := by simpa using hall
      exact ⟨x, List.mem_cons_of_mem _ hx1, d0, List.mem_cons_self, hx2⟩

theorem C14_two_objects (A B : LasCurves) (ops : List (Bool × CurveOp)) :
    cvRun2 (A, B) ops =
      (A.run ((ops.filter (fun o => !o.1)).map (·.2)), B.run ((ops.filter (fun o => o.1)).map (·.2))) := by
  induction ops generalizing A B with
  | nil => rfl
  | cons o ops ih =>
    obtain ⟨w, op⟩ := o
    cases w
    · exact ih (A.step op).1 B
    · exact ih A (B.step op).1

/-- with `truncate` the surplus columns are dropped (the call equals the call on the truncated array) and no curve
is added -/
theorem C14_set_data_truncate (L : LasCurves) (rows : List (List Cell)) (names : Option (List Str)) :
    L.setData rows names true = L.setData (rows.map (fun r => r.take L.sec.items.length)) names false ∧
    (L.setData rows names true).1.sec.items.length = L.sec.items.length ∧
    (L.WF → (L.setData rows names true).1.abs.length = L.abs.length) := by
  have hl : (L.setData rows names true).1.sec.items.length = L.sec.items.length := by
    unfold LasCurves.setData
    simp only [setDataRows, if_true]
    have hw := cvRowsWidth_truncate L.sec.items.length rows
    have h0 : cvRowsWidth (rows.map (fun r => r.take L.sec.items.length)) - L.sec.items.length = 0 := by omega
    rw [h0]
    split
    · unfold LasCurves.assignCols LasCurves.extend
      simp only []
      split
      · rw [assignAll_length]; simp [cvMapIdx_length]
      · simp [cvMapIdx_length]
    · rfl
  refine ⟨?_, hl, fun h => ?_⟩
  · unfold LasCurves.setData setDataRows
    simp
  · have hw : (L.setData rows names true).1.WF := C14_wf_step L h (.setData rows names true)
    rw [abs_length _ hw, abs_length L h]
    exact hl

def exCurves : LasCurves :=
  LasCurves.empty.run
    [.appendCurve "DEPT".toList "m".toList [] [] ["1".toList, "2".toList],
     .appendCurve "A".toList [] [] [] ["3".toList, "4".toList],
     .insertCurve (-1) "A".toList [] [] [] ["5".toList, "6".toList],
     .deleteMnem "A:2".toList,
     .setData [["7".toList, "8".toList, "9".toList]] (some ["X".toList]) false]

example :
    exCurves.keys = ["X".toList, "UNKNOWN:1".toList, "UNKNOWN:2".toList] ∧
    exCurves.abs.map (·.orig) = ["X".toList, [], []] ∧
    exCurves.abs.map (·.data) = [["7".toList], ["8".toList], ["9".toList]] ∧
    exCurves.WF ∧ exCurves.dataView = .ok [["7".toList, "8".toList, "9".toList]] ∧
    exCurves.getitem (.str "UNKNOWN:2".toList) = .ok ["9".toList] ∧
    (exCurves.step (.setData [["q".toList]] none false)).2 = .indexError := by
  decide +kernel

#print axioms C14_step_spec
#print axioms C14_refines
#print axioms C14_wf_step
#print axioms C14_wf_run
#print axioms C14_refines_run
#print axioms C14_refines_run_fresh
#print axioms C14_index_ops_ignore_keys
#print axioms C14_replace_is_set
#print axioms C14_counterexample_replace_negative
#print axioms C14_inv_insert_delete
#print axioms C14_originals
#print axioms C14_assignAll_order
#print axioms C14_assignAll_closed_form
#print axioms C14_views_values
#print axioms C14_views_items
#print axioms C14_getitem_int
#print axioms C14_views_index
#print axioms C14_getitem_mnemonic
#print axioms C14_getitem_mnemonic_exact
#print axioms C14_counterexample_getitem_transforms
#print axioms C14_data_column
#print axioms C14_data_error
#print axioms C14_two_objects
#print axioms C14_set_data_truncate

end Lasio
