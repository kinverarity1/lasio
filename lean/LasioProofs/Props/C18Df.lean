import LasioProofs.Lemmas.DfLemmas
/-
C18 (DataFrame clause) — "df() has the first curve as index and the other curves as columns with equal values, and
set_data_from_df(df()) restores the same curve names and values."

pandas is trusted runtime; what lasio adds is: `df()` labels the frame with the SESSION mnemonics of the curves (`dfNames`) over
the 2-D view of the arrays (`dfRows` = C14's `dataView`), and `set_data_from_df(df)` = `set_data(values incl. index column,
names = [index name] + column labels)`, i.e. the model step `.setData (dfRows L) (some (dfNames L)) false` of LasioModel/Curves.lean.

`C18_df_roundtrip_names` (well-formed state, ≥ 1 curve, all arrays of one length r > 0):
  the call succeeds, and
  (a) the number of curves is unchanged;
  (c) the ORIGINAL mnemonics become the old SESSION names — a stale or generated suffix such as `GR:1` becomes part of the
      original mnemonic (this is what the code does; `original_mnemonic` is "restored" only where it equalled the session name);
  (d) the arrays are the old arrays, units / values / descriptions are untouched, `mnemonic_transforms` is untouched;
  (b) the session names are `assign_duplicate_suffixes()` of the useful forms of the old session names (closed form), and they
      ARE the old session names (`keys()` restored) when
        `hnb` no session name is blank (true of every name the suffix machinery produces: `C18_df_nonblank_of_inv`) and
        `hd`  the session names are pairwise distinct under the section's comparison (C13's `Distinct`).
  Both are needed: `C18_df_counterexample_case_duplicates` (`A`, `a` with transforms -> `A:1`, `a:2`),
  `C18_df_counterexample_blank_session`.  `C18_df_counterexample_no_rows`: unequal array lengths, no `dfRows`.
-/
namespace Lasio

/-- **`set_data_from_df(df())`**. -/
theorem C18_df_roundtrip_names (L : LasCurves) (hwf : L.WF) (hn : 0 < L.sec.items.length) (r : Nat) (hr : 0 < r)
    (hlen : ∀ d ∈ L.data, d.length = r) :
    ∃ rows, dfRows L = some rows ∧ rows.length = r ∧ (∀ row ∈ rows, row.length = L.sec.items.length) ∧
      (L.step (.setData rows (some (dfNames L)) false)).2 = .ok ∧
      -- (a)
      (L.step (.setData rows (some (dfNames L)) false)).1.sec.items.length = L.sec.items.length ∧
      (L.step (.setData rows (some (dfNames L)) false)).1.WF ∧
      -- (c)
      (L.step (.setData rows (some (dfNames L)) false)).1.sec.origs = dfNames L ∧
      -- (d)
      (L.step (.setData rows (some (dfNames L)) false)).1.data = L.data ∧
      (L.step (.setData rows (some (dfNames L)) false)).1.sec.items.map (fun it => (it.unit, it.value, it.descr)) =
        L.sec.items.map (fun it => (it.unit, it.value, it.descr)) ∧
      (L.step (.setData rows (some (dfNames L)) false)).1.sec.tr = L.sec.tr ∧
      dfRows (L.step (.setData rows (some (dfNames L)) false)).1 = some rows ∧
      -- (b), general form
      (L.step (.setData rows (some (dfNames L)) false)).1.sec =
        Section.assignAll { L.sec with items := L.sec.items.map renameToSession } ∧
      -- (b)
      ((∀ k ∈ dfNames L, strip k ≠ []) → Distinct L.sec →
        dfNames (L.step (.setData rows (some (dfNames L)) false)).1 = dfNames L) := by
  -- the 2-D view exists
  obtain ⟨rows, hrows⟩ : ∃ rows, L.dataView = .ok rows := by
    cases hv : L.dataView with
    | ok rows => exact ⟨rows, rfl⟩
    | error e =>
      obtain ⟨a, ha, b, hb, hne⟩ := (C14_data_error L).mp ⟨e, hv⟩
      exact absurd ((hlen a ha).trans (hlen b hb).symm) hne
  have hdf : dfRows L = some rows := by unfold dfRows; rw [hrows]
  obtain ⟨hrl, hrowlen⟩ := dataView_shape L hwf hn r hlen rows hrows
  refine ⟨rows, hdf, hrl, hrowlen, ?_⟩
  simp only [LasCurves.step]
  rw [setData_df L hwf hn r hr hlen rows hrows]
  simp only []
  have hcore := assignAll_core { L.sec with items := L.sec.items.map renameToSession }
  have hl : (Section.assignAll { L.sec with items := L.sec.items.map renameToSession }).items.length =
      L.sec.items.length := by
    rw [assignAll_length]; simp
  refine ⟨trivial, hl, ?_, ?_, trivial, ?_, ?_, ?_, trivial, ?_⟩
  · unfold LasCurves.WF; rw [hl]; exact hwf
  · rw [origs_eq_core, hcore]
    simp [List.map_map, Function.comp_def, Item.core, renameToSession, renameItem, dfNames, Section.keys]
  · have := congrArg (List.map (fun c : Str × Str × Str × Str => c.2)) hcore
    simpa [List.map_map, Function.comp_def, Item.core, renameToSession, renameItem] using this
  · unfold Section.assignAll; rw [assignMany_tr]
  · unfold dfRows LasCurves.dataView at hdf ⊢
    exact hdf
  · intro hnb hd
    have hu : ∀ it ∈ L.sec.items, useful it.session = it.session := by
      intro it hit
      exact useful_of_nonblank _ (hnb it.session (List.mem_map.mpr ⟨it, hit, rfl⟩))
    have hp : (L.sec.items.map renameToSession).Pairwise
        (fun a b => cmpStr L.sec.tr (useful a.orig) (useful b.orig) = false) := by
      rw [List.pairwise_map]
      refine List.Pairwise.imp_of_mem ?_ hd
      intro a b ha hb hab
      show cmpStr L.sec.tr (useful a.session) (useful b.session) = false
      rw [hu a ha, hu b hb]
      exact hab
    rw [assignAll_of_pairwise _ hp]
    simp only [dfNames, Section.keys, List.map_map]
    apply List.map_congr_left
    intro it hit
    exact hu it hit

/-- every session name is non-blank in a section all of whose items carry a session name of the form the suffix machinery
produces (`SuffixForm`: useful original, bare or with `:k`) — in particular under C13's invariant `Inv` -/
theorem C18_df_nonblank_of_inv (L : LasCurves) (h : ∀ it ∈ L.sec.items, SuffixForm it) :
    ∀ k ∈ dfNames L, strip k ≠ [] := by
  intro k hk
  obtain ⟨it, hit, rfl⟩ := List.mem_map.mp hk
  exact session_nonblank_of_suffixForm it (h it hit)

/-- the user-visible form: under C13's `Inv` and `Distinct`, `keys()` and the arrays are restored -/
theorem C18_df_roundtrip_keys (L : LasCurves) (hwf : L.WF) (hn : 0 < L.sec.items.length) (r : Nat) (hr : 0 < r)
    (hlen : ∀ d ∈ L.data, d.length = r) (hinv : Inv L.sec) (hd : Distinct L.sec) :
    ∃ rows, dfRows L = some rows ∧ (L.step (.setData rows (some (dfNames L)) false)).2 = .ok ∧
      (L.step (.setData rows (some (dfNames L)) false)).1.keys = L.keys ∧
      (L.step (.setData rows (some (dfNames L)) false)).1.values = L.values ∧
      (L.step (.setData rows (some (dfNames L)) false)).1.sec.origs = L.keys := by
  obtain ⟨rows, h1, _, _, h2, _, _, h3, h4, _, _, _, _, h5⟩ := C18_df_roundtrip_names L hwf hn r hr hlen
  exact ⟨rows, h1, h2, h5 (C18_df_nonblank_of_inv L hinv.1) hd, h4, h3⟩

def cvItem (orig session : String) : Item := ⟨orig.toList, session.toList, [], [], []⟩

/-- **`Distinct` is needed**: with `mnemonic_transforms` on, two curves whose session names are `A` and `a` (not distinct under
the case-insensitive comparison) come back as `A:1`, `a:2` -/
theorem C18_df_counterexample_case_duplicates :
    let L : LasCurves := ⟨⟨[cvItem "A" "A", cvItem "a" "a"], true⟩, [["1".toList], ["2".toList]]⟩
    dfRows L = some [["1".toList, "2".toList]] ∧ ¬ Distinct L.sec ∧
    (L.step (.setData [["1".toList, "2".toList]] (some (dfNames L)) false)).2 = .ok ∧
    dfNames (L.step (.setData [["1".toList, "2".toList]] (some (dfNames L)) false)).1 = ["A:1".toList, "a:2".toList] := by
  unfold Distinct
  decide +kernel

/-- **non-blank session names are needed** (a state no lasio method produces): a blank session name comes back as `UNKNOWN` -/
theorem C18_df_counterexample_blank_session :
    let L : LasCurves := ⟨⟨[cvItem "X" " "], false⟩, [["1".toList]]⟩
    Distinct L.sec ∧
    dfNames (L.step (.setData [["1".toList]] (some (dfNames L)) false)).1 = ["UNKNOWN".toList] := by
  unfold Distinct
  decide +kernel

/-- unequal array lengths: `df()` has no values (`np.vstack` raises) -/
theorem C18_df_counterexample_no_rows :
    dfRows ⟨⟨[cvItem "A" "A", cvItem "B" "B"], false⟩, [["1".toList], ["2".toList, "3".toList]]⟩ = none := by
  decide +kernel

/-- **zero rows** (every curve empty), or no column at all: `set_data` with an EMPTY array renames nothing and re-numbers
nothing — the whole curve collection, stale suffixes included, is what it was (lasio `fix:` 17e170b; before it the code called
`assign_duplicate_suffixes()` here too and `X1:3` became `X1:2`). -/
theorem C18_df_roundtrip_empty (L : LasCurves) (rows : List (List Cell)) (names : Option (List Str))
    (h : rows.length * cvRowsWidth rows = 0) :
    L.setData rows names false = (L, .ok) := by
  unfold LasCurves.setData setDataRows
  simp [h]

/-- the state of the sweep's failing input: DEPT, X1, X1, a, X1 with the second X1 deleted, no rows -/
def exDfStale : LasCurves :=
  (LasCurves.run ⟨⟨[], true⟩, []⟩
    [.appendCurve "DEPT".toList [] [] [] [], .appendCurve "X1".toList [] [] [] [], .appendCurve "X1".toList [] [] [] [],
     .appendCurve "a".toList [] [] [] [], .appendCurve "X1".toList [] [] [] [], .deleteIx 2])

example : dfNames exDfStale = ["DEPT".toList, "X1:1".toList, "a".toList, "X1:3".toList] ∧ dfRows exDfStale = some [] ∧
    (exDfStale.setData [] (some (dfNames exDfStale)) false).1.sec.keys
      = ["DEPT".toList, "X1:1".toList, "a".toList, "X1:3".toList] := by
  decide +kernel

/-- the curves of a file with the lines DEPT, GR, GR (as `read` builds them: appended one by one, transforms on) -/
def exDf : LasCurves :=
  (LasCurves.run ⟨⟨[], true⟩, []⟩
    [.appendCurve "DEPT".toList "M".toList [] [] ["1".toList, "2".toList],
     .appendCurve "GR".toList "API".toList [] [] ["10".toList, "20".toList],
     .appendCurve "GR".toList "API".toList [] [] ["11".toList, "21".toList]])

/-- `exDf` satisfies the hypotheses of `C18_df_roundtrip_keys` (C13's `Inv`: the section is a run of appends) -/
theorem exDf_hyps : exDf.WF ∧ 0 < exDf.sec.items.length ∧ (∀ d ∈ exDf.data, d.length = 2) ∧ Distinct exDf.sec ∧
    Inv exDf.sec := by
  have e : exDf.sec = Section.run ⟨[], true⟩ [.append "DEPT".toList "M".toList [] [], .append "GR".toList "API".toList [] [],
      .append "GR".toList "API".toList [] []] := by decide +kernel
  have h : exDf.WF ∧ 0 < exDf.sec.items.length ∧ (∀ d ∈ exDf.data, d.length = 2) ∧ Distinct exDf.sec := by
    unfold Distinct
    decide +kernel
  exact ⟨h.1, h.2.1, h.2.2.1, h.2.2.2, by rw [e]; exact C13_inv_run _ _⟩

theorem exDf_roundtrip : ∃ rows, dfRows exDf = some rows ∧ (exDf.step (.setData rows (some (dfNames exDf)) false)).2 = .ok ∧
    (exDf.step (.setData rows (some (dfNames exDf)) false)).1.keys = exDf.keys ∧
    (exDf.step (.setData rows (some (dfNames exDf)) false)).1.values = exDf.values ∧
    (exDf.step (.setData rows (some (dfNames exDf)) false)).1.sec.origs = exDf.keys :=
  C18_df_roundtrip_keys exDf exDf_hyps.1 exDf_hyps.2.1 2 (by decide) exDf_hyps.2.2.1 exDf_hyps.2.2.2.2 exDf_hyps.2.2.2.1

/-- sessions DEPT, GR:1, GR:2 over the originals DEPT, GR, GR; after `set_data_from_df(df())` the sessions are DEPT, GR:1, GR:2
again, the ORIGINALS are now DEPT, GR:1, GR:2, the arrays and units are the same — by the theorem, and by running the model -/
example :
    dfNames exDf = ["DEPT".toList, "GR:1".toList, "GR:2".toList] ∧
    exDf.sec.origs = ["DEPT".toList, "GR".toList, "GR".toList] ∧
    dfRows exDf = some [["1".toList, "10".toList, "11".toList], ["2".toList, "20".toList, "21".toList]] ∧
    (∃ rows, dfRows exDf = some rows ∧ (exDf.step (.setData rows (some (dfNames exDf)) false)).2 = .ok ∧
      (exDf.step (.setData rows (some (dfNames exDf)) false)).1.keys = exDf.keys ∧
      (exDf.step (.setData rows (some (dfNames exDf)) false)).1.values = exDf.values ∧
      (exDf.step (.setData rows (some (dfNames exDf)) false)).1.sec.origs = exDf.keys) ∧
    (let L' := (exDf.step (.setData [["1".toList, "10".toList, "11".toList], ["2".toList, "20".toList, "21".toList]]
        (some (dfNames exDf)) false)).1
     dfNames L' = ["DEPT".toList, "GR:1".toList, "GR:2".toList] ∧
     L'.sec.origs = ["DEPT".toList, "GR:1".toList, "GR:2".toList] ∧
     L'.data = exDf.data ∧ L'.sec.items.map (·.unit) = ["M".toList, "API".toList, "API".toList]) := by
  refine ⟨?_, ?_, ?_, exDf_roundtrip, ?_⟩
  all_goals decide +kernel

/-- the same state satisfies the hypotheses of `C18_df_roundtrip_keys` (C13's `Inv`: the section is a run of appends) -/
example : Inv exDf.sec ∧ Distinct exDf.sec ∧
    ∃ rows, dfRows exDf = some rows ∧ (exDf.step (.setData rows (some (dfNames exDf)) false)).2 = .ok ∧
      (exDf.step (.setData rows (some (dfNames exDf)) false)).1.keys = exDf.keys ∧
      (exDf.step (.setData rows (some (dfNames exDf)) false)).1.values = exDf.values ∧
      (exDf.step (.setData rows (some (dfNames exDf)) false)).1.sec.origs = exDf.keys :=
  ⟨exDf_hyps.2.2.2.2, exDf_hyps.2.2.2.1, exDf_roundtrip⟩

#print axioms C18_df_roundtrip_names
#print axioms C18_df_nonblank_of_inv
#print axioms C18_df_roundtrip_keys
#print axioms C18_df_counterexample_case_duplicates
#print axioms C18_df_counterexample_blank_session
#print axioms C18_df_counterexample_no_rows
#print axioms C18_df_roundtrip_empty
#print axioms setData_df

end Lasio
