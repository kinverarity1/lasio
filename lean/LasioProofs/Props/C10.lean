import LasioModel.Channel
import LasioModel.Generated
import LasioProofs.Lemmas.ChannelLemmas
/-
C10 — result is independent of input channel and encoding; reads are pure.  (partial: codecs are a hypothesis)
-/
namespace Lasio

/-- a string with more than one line is LAS content, never taken for a file name; a one-line string is a file name -/
theorem C10_classify (s : Str) :
    (2 ≤ (pySplitlines s).length → classifyStr s = .content) ∧
    ((pySplitlines s).length = 1 → classifyStr s = .filename) := by
  unfold classifyStr
  constructor
  · intro h
    match hs : pySplitlines s with
    | [] => simp [hs] at h
    | [_] => simp [hs] at h
    | _ :: _ :: _ => rfl
  · intro h
    match hs : pySplitlines s with
    | [] => simp [hs] at h
    | [_] => rfl
    | _ :: _ :: _ => simp [hs] at h

/-- a UTF-8 BOM wins over everything; otherwise a non-empty `encoding=` argument is used as given -/
theorem C10_encoding_choice (arg : Option Str) (e : Str) (he : e ≠ []) :
    chooseEncoding true arg = .utf8sig ∧ chooseEncoding false (some e) = .named e := by
  constructor
  · rfl
  · unfold chooseEncoding
    cases e with
    | nil => exact absurd rfl he
    | cons c cs => rfl

/-- all file channels deliver the same text; strings and StringIO deliver the text itself -/
theorem C10_deliver (t d : Str) :
    deliver .pathStr t d = univNL d ∧ deliver .pathObj t d = univNL d ∧ deliver .fileObj t d = univNL d ∧
    deliver .stringIO t d = t ∧ deliver .content t d = t := ⟨rfl, rfl, rfl, rfl, rfl⟩

/-- if the codec round-trips the text (`decoded = t`: the trusted hypothesis on Python's codecs), every channel delivers
text whose stripped lines are the same — the reader strips every line before using it.  Lone CRs are excluded for the
string channels (claimed for files only). -/
theorem C10_channels (t : Str) (ch : Channel) (hcr : NoLoneCR t) :
    (splitLF (deliver ch t t)).map strip = (splitLF t).map strip := by
  cases ch <;> simp only [deliver] <;> first | rfl | exact LinesRel.map_strip _ _ (splitLF_univNL_rel t hcr)

/-- universal newline translation is idempotent and leaves no CR -/
theorem C10_univNL (t : Str) : univNL (univNL t) = univNL t ∧ '\r' ∉ univNL t :=
  ⟨univNL_of_noCR _ (univNL_noCR t), univNL_noCR t⟩

/-- generated obligation (re-checked against the current source): every LASFile gets freshly built default sections -/
theorem C10_default_items_fresh : Generated.defaultItemsFresh = true := by decide

/-- with fresh defaults every reachable world is well-formed: section ids in range, no section shared between objects -/
theorem C10_wf_run (ops : List WOp) : WF (World.run true World.init ops) :=
  wf_run_from ops _ wf_init

/-- non-interference: in a well-formed world an in-place mutation or a read of one object never changes what another
object shows -/
theorem C10_noninterference (w : World) (h : WF w) (o o' : Nat) (ho : o ≠ o') :
    (∀ k v, (w.mutate o k v).observe o' = w.observe o') ∧
    (∀ parsed, (w.read o parsed).observe o' = w.observe o') ∧
    ((w.newLas true).observe o' = w.observe o' ∨ w.objs.length ≤ o') :=
  ⟨fun k v => observe_mutate_other w h o o' ho k v, fun p => (read_inv w h o p).2.2 o' ho, observe_newLas_other w h o'⟩

/-- purity for all histories: whatever happens to OTHER objects, an object shows what it showed -/
theorem C10_pure (ops : List WOp) (o' : Nat) (w : World) (h : WF w) (ho : o' < w.objs.length)
    (hops : ∀ op ∈ ops, targetOf op ≠ some o') :
    (World.run true w ops).observe o' = w.observe o' :=
  observe_run_other ops o' w h ho hops

/-- the hypothesis is needed: with a shared (cached) default dictionary, mutating one fresh LASFile changes another -/
theorem C10_shared_defaults_interfere :
    (World.run false World.init [.newLas, .newLas, .mutate 0 1 [['X']]]).observe 1 ≠
    (World.run false World.init [.newLas, .newLas]).observe 1 := by decide +kernel

/-- `NoLoneCR` is needed in `C10_channels`: a lone CR is a line break for files but not for strings -/
theorem C10_channels_needs_noLoneCR :
    (splitLF (deliver .pathStr ['a', '\r', 'b'] ['a', '\r', 'b'])).map strip ≠
    (splitLF ['a', '\r', 'b']).map strip := by decide

/-- non-vacuity: a CRLF text satisfies `NoLoneCR` and is delivered as two stripped lines by a file channel -/
example : NoLoneCR ['a', '\r', '\n', 'b'] ∧
    (splitLF (deliver .fileObj ['a', '\r', '\n', 'b'] ['a', '\r', '\n', 'b'])).map strip = [['a'], ['b']] := by
  decide

/-- non-vacuity (contrast with `C10_shared_defaults_interfere`): with fresh defaults the same history leaves
object 1 untouched -/
example :
    (World.run true World.init [.newLas, .newLas, .mutate 0 1 [['X']], .read 0 [(2, [['Y']])]]).observe 1 =
    (World.run true World.init [.newLas, .newLas]).observe 1 := by decide +kernel

end Lasio

#print axioms Lasio.C10_classify
#print axioms Lasio.C10_encoding_choice
#print axioms Lasio.C10_deliver
#print axioms Lasio.C10_channels
#print axioms Lasio.C10_univNL
#print axioms Lasio.C10_default_items_fresh
#print axioms Lasio.C10_wf_run
#print axioms Lasio.C10_noninterference
#print axioms Lasio.C10_pure
#print axioms Lasio.C10_shared_defaults_interfere
#print axioms Lasio.C10_channels_needs_noLoneCR
