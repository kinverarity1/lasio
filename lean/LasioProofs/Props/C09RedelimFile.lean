import LasioProofs.Lemmas.RedelimHeaderLemmas
/-
C09, WHOLE FILE for `Transform.redelim`: "re-delimiting the data with the declared delimiter … yields equal curve data".

The document is given by its structure
    `pre ++ flat ((tV, bV) :: M ++ (t, body) :: s₂)`
— lines `pre` before the first title; the ~Version section `(tV, bV)` is the FIRST section; `(t, body)` is the ONLY data section;
no section of `M`, `s₂` is a ~V section (`OtherSecsOK`).  `redelim first last vk replace frm to seps` with
`first = |pre| + size ((tV, bV) :: M)`, `last = first + |body|`, `vk = |pre| + 1 + |l₁|`:
  * `replace = true`:  `bV = l₁ ++ x :: l₂`, `x` the DLM item line — the only line of the ~Version body whose item answers to DLM under
                       the reader's mnemonic comparison (`isDlmLine`); it becomes `DLM. <to> : delimiter` with the terminator of `x`;
  * `replace = false`: `bV = l₁ ++ l₂`, no line of it is a DLM item; the line `DLM. <to> : delimiter\n` is inserted between `l₁`, `l₂`.

WHAT IS PROVED (`C09_redelim_file_replace`, `C09_redelim_file_insert`): for a readable document (`Base o nullOf ft d r`) whose
declared delimiter is `frm` (SPACE when there is no DLM item), with `NumBody frm c body`, `SepsOK to seps`, the float-table
hypotheses of C09Redelim and the engines agreeing on the re-laid window (`AgreeAlone`; discharged from the document by
`C09_redelim_agree_relaid`), the transformed document is readable (again a `Base`) with
  * `steer` equal except `dlm := some (dlmName to)`;
  * the same sections except the value stored under "Version" (`JRel Rd.kVersion old new`), which is the item list of the
    ~Version body with the one item replaced / inserted at the position the line has among the item lines
    (`I₁ ++ (item of x) :: I₂ ↦ I₁ ++ dlmItem :: I₂`, resp. `I₁ ++ I₂ ↦ I₁ ++ dlmItem :: I₂`, `Iᵢ` = the items of `lᵢ`),
    and that value is what `sections.lookup "Version"` returns in both reads;
  * the same curves for every data section (the engine may change).
The header step on its own: `C09_redelim_header` (`Rd.readLines` of the document with the DLM item replaced / inserted).

HYPOTHESES shown necessary: no second DLM item (`C09_redelim_file_second_dlm`), no second ~V section
(`C09_redelim_file_second_version`), one data section (`C09_redelim_file_two_data_sections`).
RESTRICTIONS of the statement that are NOT forced (the proof uses them, no counter-example exists or is claimed): the ~Version
section is the first section (the proof computes its parser from the provisional version 2.0); its title has no underscore
(`vTitle`); for `replace = false` the line before the insertion point ends with a line feed (otherwise `insLine` adds one).
-/
namespace Lasio.Tf
open Lasio Lasio.Dt

/-- the sections other than ~Version and the data section: no ~V section, no data section -/
def OtherSecsOK (secs : List (Str × List Str)) : Prop := ∀ tb ∈ secs, Rd.isV tb = false ∧ ¬ isDataKind (kindOf tb.1)

instance (secs : List (Str × List Str)) : Decidable (OtherSecsOK secs) := by unfold OtherSecsOK; infer_instance

/-! ## the header step -/

/-- HEADER LEVEL. The ~Version section is the first section, its body is `l₁ ++ ox.toList ++ l₂` (`ox = some x`: the DLM item
line; `ox = none`: nothing there), no other line of it is a DLM item, no other section is a ~V section.  With the line
`DLM. <to> : delimiter` (any terminator `eol`) in that place `Rd.readLines` returns the steering values with `dlm` changed, the
sections related by `JRel` (only the "Version" value differs: the item lists below), the data windows of the new document. -/
theorem C09_redelim_header (o : Rd.ReadOpts) (pre : List Str) (tV : Str) (l₁ l₂ : List Str) (ox : Option Str) (eol : Str) (to : Dlm)
    (B : List (Str × List Str)) (hpre : ∀ x ∈ pre, Rd.isTitle x = false)
    (hw : Rd.WellFormed ((tV, l₁ ++ ox.toList ++ l₂) :: B)) (hV : vTitle tV = true) (he : AllWs eol)
    (hB : ∀ tb ∈ B, Rd.isV tb = false)
    (hx : ∀ x ∈ ox, isDlmLine o x = true) (huniq : ∀ l ∈ l₁ ++ l₂, isDlmLine o l = false)
    (h : Rd.RHeader) (hr : Rd.readLines o (pre ++ Rd.flat ((tV, l₁ ++ ox.toList ++ l₂) :: B)) = .ok h) :
    ∃ secs',
      Rd.readLines o (pre ++ Rd.flat ((tV, l₁ ++ (dlmItemLine to ++ eol) :: l₂) :: B)) =
        .ok ⟨secs', { h.steer with dlm := some (dlmName to) },
              docData ((tV, l₁ ++ (dlmItemLine to ++ eol) :: l₂) :: B) pre.length⟩ ∧
      h.data = docData ((tV, l₁ ++ ox.toList ++ l₂) :: B) pre.length ∧
      JRel Rd.kVersion
        (.items (Rd.bodyItems o vParser l₁ ++ (ox.bind (Rd.lineItem o vParser)).toList ++ Rd.bodyItems o vParser l₂))
        (.items (Rd.bodyItems o vParser l₁ ++ dlmItem o.mnemonicCase to :: Rd.bodyItems o vParser l₂)) h.sections secs' ∧
      h.sections.lookup Rd.kVersion =
        some (.items (Rd.bodyItems o vParser l₁ ++ (ox.bind (Rd.lineItem o vParser)).toList ++ Rd.bodyItems o vParser l₂)) ∧
      secs'.lookup Rd.kVersion =
        some (.items (Rd.bodyItems o vParser l₁ ++ dlmItem o.mnemonicCase to :: Rd.bodyItems o vParser l₂)) :=
  readLines_dlm o pre tV l₁ l₂ ox eol to B hpre hw hV he hB hx huniq h hr

/-- what the new line is for the ~Version parser: the item `DLM`, no unit, value `<to>`, description `delimiter` (the mnemonic in
the case the reader was asked for) -/
theorem C09_redelim_header_item (o : Rd.ReadOpts) (to : Dlm) (eol : Str) (he : AllWs eol) :
    Rd.lineItem o vParser (dlmItemLine to ++ eol) = some (dlmItem o.mnemonicCase to) ∧
    isDlmItem o (dlmItem o.mnemonicCase to) = true ∧ Rd.delimiters.contains (dlmName to) = true ∧
    dlmOf (some (dlmName to)) = to :=
  ⟨lineItem_dlmLine o to eol he, dlmItem_isDlm o to, delimiters_dlmName to, dlmOf_dlmName to⟩

/-! ## the engines on the re-laid window -/

/-- `AgreeAlone` on the re-laid window (the hypothesis of the whole-file theorems) from the document: the normal engine is in
effect; or SPACE / TAB on both sides and the engines agree on the original window; or the new delimiter is COMMA, `float()`
rejects tokens with a comma, and the window has a data line of two or more cells (genfromtxt raises) -/
theorem C09_redelim_agree_relaid (o : DataOpts) (st : Steer) (d : Nat) (ft : FloatTable) (to : Dlm) (c : Nat)
    (seps : List Str) (body : List Str) (hnb : NumBody st.delimiter c body) (hs : SepsOK to seps)
    (hS : FtStripOn ft (normalTokens (readSubs st.delimiter) st.delimiter body))
    (hS' : FtStripOn ft (normalTokens (readSubs to) to (relayBody st.delimiter to seps body)))
    (hC : Converts ft (normalTokens (readSubs st.delimiter) st.delimiter body))
    (hcase : effectiveEngine o st = .normal ∨
      (st.delimiter ≠ .comma ∧ to ≠ .comma ∧ AgreeAlone o st d ft body) ∨
      (to = .comma ∧ CommaNotFloat ft ∧ 2 ≤ c ∧ ∃ l ∈ body, isSkip l = false)) :
    AgreeAlone o (withDlm st to) d ft (relayBody st.delimiter to seps body) := by
  have hrel := bodyRel_relayBody st.delimiter to c seps body hnb hs
  rcases hcase with h1 | ⟨hf, ht, hag⟩ | ⟨rfl, hcf, hc2, hd⟩
  · exact agreeAlone_of_normal o _ d ft _ h1
  · unfold AgreeAlone at hag ⊢
    rw [readBody_rel_ws o st to d ft [] hf ht hrel hS hS' hC, normalRead_rel o st to d ft hrel hS hS' hC]
    exact hag
  · unfold AgreeAlone
    rw [readBody_comma o (withDlm st .comma) d ft hcf (bodyRel_numBodyD hrel).2 hc2 (bodyRel_data hrel hd)]

/-! ## the whole file -/

/-- WHOLE FILE, `replace = true`: the DLM item line `x` of ~Version is replaced, the data section re-delimited. -/
theorem C09_redelim_file_replace (o : Opts) (nullOf : Option Str → Option Str) (ft : FloatTable) (htf : TildeNotFloat ft)
    (pre : List Str) (tV : Str) (l₁ l₂ : List Str) (x : Str) (M s₂ : List (Str × List Str)) (t : Str) (body : List Str)
    (frm to : Dlm) (c : Nat) (seps : List Str) (r : FullRead)
    (hpre : ∀ y ∈ pre, Rd.isTitle y = false)
    (hw : Rd.WellFormed ((tV, l₁ ++ x :: l₂) :: M ++ (t, body) :: s₂)) (hV : vTitle tV = true)
    (hM : OtherSecsOK (M ++ s₂)) (hk : isDataKind (kindOf t))
    (hx : isDlmLine o.hdr x = true) (huniq : ∀ l ∈ l₁ ++ l₂, isDlmLine o.hdr l = false)
    (hb : Base o nullOf ft (pre ++ Rd.flat ((tV, l₁ ++ x :: l₂) :: M ++ (t, body) :: s₂)) r)
    (hfrm : (dtSteer nullOf r.steer).delimiter = frm)
    (hnb : NumBody frm c body) (hs : SepsOK to seps)
    (hS : FtStripOn ft (normalTokens (readSubs frm) frm body))
    (hS' : FtStripOn ft (normalTokens (readSubs to) to (relayBody frm to seps body)))
    (hC : Converts ft (normalTokens (readSubs frm) frm body))
    (hag' : AgreeAlone o.dat (withDlm (dtSteer nullOf r.steer) to) (declaredCount r.sections) ft (relayBody frm to seps body)) :
    ∃ r', Base o nullOf ft
        ((Transform.redelim (pre.length + Rd.size ((tV, l₁ ++ x :: l₂) :: M))
            (pre.length + Rd.size ((tV, l₁ ++ x :: l₂) :: M) + body.length) (pre.length + 1 + l₁.length) true frm to seps).apply
          (pre ++ Rd.flat ((tV, l₁ ++ x :: l₂) :: M ++ (t, body) :: s₂))) r' ∧
      r'.steer = { r.steer with dlm := some (dlmName to) } ∧
      JRel Rd.kVersion
        (.items (Rd.bodyItems o.hdr vParser l₁ ++ (Rd.lineItem o.hdr vParser x).toList ++ Rd.bodyItems o.hdr vParser l₂))
        (.items (Rd.bodyItems o.hdr vParser l₁ ++ dlmItem o.hdr.mnemonicCase to :: Rd.bodyItems o.hdr vParser l₂))
        r.sections r'.sections ∧
      r.sections.lookup Rd.kVersion =
        some (.items (Rd.bodyItems o.hdr vParser l₁ ++ (Rd.lineItem o.hdr vParser x).toList ++ Rd.bodyItems o.hdr vParser l₂)) ∧
      r'.sections.lookup Rd.kVersion =
        some (.items (Rd.bodyItems o.hdr vParser l₁ ++ dlmItem o.hdr.mnemonicCase to :: Rd.bodyItems o.hdr vParser l₂)) ∧
      r'.data.map (fun y => y.res.map Prod.snd) = r.data.map (fun y => y.res.map Prod.snd) := by
  have e : l₁ ++ (some x).toList ++ l₂ = l₁ ++ x :: l₂ := by simp
  have core := readFull_redelim_core o nullOf ft htf pre tV l₁ l₂ (some x) (splitEol x).2 frm to c seps M s₂ t body r hpre
    (by rw [e]; exact hw) hV (splitEol_allWs x) hM hk (fun y hy => by cases hy; exact hx) huniq (by rw [e]; exact hb) hfrm hnb hs
    hS hS' hC hag'
  simp only [Transform.apply]
  rw [redelim_struct_replace]
  simpa using core

/-- WHOLE FILE, `replace = false`: the document declares no delimiter (no line of ~Version is a DLM item; so `frm` is SPACE); the
line `DLM. <to> : delimiter` is inserted between `l₁` and `l₂` of the ~Version body, the data section re-delimited. -/
theorem C09_redelim_file_insert (o : Opts) (nullOf : Option Str → Option Str) (ft : FloatTable) (htf : TildeNotFloat ft)
    (pre : List Str) (tV : Str) (l₁ l₂ : List Str) (M s₂ : List (Str × List Str)) (t : Str) (body : List Str)
    (frm to : Dlm) (c : Nat) (seps : List Str) (r : FullRead)
    (hpre : ∀ y ∈ pre, Rd.isTitle y = false)
    (hw : Rd.WellFormed ((tV, l₁ ++ l₂) :: M ++ (t, body) :: s₂)) (hV : vTitle tV = true)
    (hterm : ∀ y, (tV :: l₁).getLast? = some y → y.getLast? = some '\n')
    (hM : OtherSecsOK (M ++ s₂)) (hk : isDataKind (kindOf t))
    (huniq : ∀ l ∈ l₁ ++ l₂, isDlmLine o.hdr l = false)
    (hb : Base o nullOf ft (pre ++ Rd.flat ((tV, l₁ ++ l₂) :: M ++ (t, body) :: s₂)) r)
    (hfrm : (dtSteer nullOf r.steer).delimiter = frm)
    (hnb : NumBody frm c body) (hs : SepsOK to seps)
    (hS : FtStripOn ft (normalTokens (readSubs frm) frm body))
    (hS' : FtStripOn ft (normalTokens (readSubs to) to (relayBody frm to seps body)))
    (hC : Converts ft (normalTokens (readSubs frm) frm body))
    (hag' : AgreeAlone o.dat (withDlm (dtSteer nullOf r.steer) to) (declaredCount r.sections) ft (relayBody frm to seps body)) :
    ∃ r', Base o nullOf ft
        ((Transform.redelim (pre.length + Rd.size ((tV, l₁ ++ l₂) :: M))
            (pre.length + Rd.size ((tV, l₁ ++ l₂) :: M) + body.length) (pre.length + 1 + l₁.length) false frm to seps).apply
          (pre ++ Rd.flat ((tV, l₁ ++ l₂) :: M ++ (t, body) :: s₂))) r' ∧
      r'.steer = { r.steer with dlm := some (dlmName to) } ∧
      JRel Rd.kVersion
        (.items (Rd.bodyItems o.hdr vParser l₁ ++ Rd.bodyItems o.hdr vParser l₂))
        (.items (Rd.bodyItems o.hdr vParser l₁ ++ dlmItem o.hdr.mnemonicCase to :: Rd.bodyItems o.hdr vParser l₂))
        r.sections r'.sections ∧
      r.sections.lookup Rd.kVersion = some (.items (Rd.bodyItems o.hdr vParser l₁ ++ Rd.bodyItems o.hdr vParser l₂)) ∧
      r'.sections.lookup Rd.kVersion =
        some (.items (Rd.bodyItems o.hdr vParser l₁ ++ dlmItem o.hdr.mnemonicCase to :: Rd.bodyItems o.hdr vParser l₂)) ∧
      r'.data.map (fun y => y.res.map Prod.snd) = r.data.map (fun y => y.res.map Prod.snd) := by
  have e : l₁ ++ (none : Option Str).toList ++ l₂ = l₁ ++ l₂ := by simp
  have core := readFull_redelim_core o nullOf ft htf pre tV l₁ l₂ none nl frm to c seps M s₂ t body r hpre
    (by rw [e]; exact hw) hV allWs_nl hM hk (fun y hy => by cases hy) huniq (by rw [e]; exact hb) hfrm hnb hs hS hS' hC hag'
  simp only [Transform.apply]
  rw [redelim_struct_insert pre tV l₁ l₂ M s₂ t body frm to seps hterm]
  simpa using core

/-- the declared delimiter of a document without DLM item in ~Version is SPACE: `frm = .space` in `C09_redelim_file_insert` -/
theorem C09_redelim_file_insert_frm (o : Opts) (nullOf : Option Str → Option Str) (ft : FloatTable)
    (pre : List Str) (tV : Str) (l₁ l₂ : List Str) (B : List (Str × List Str)) (r : FullRead)
    (hpre : ∀ y ∈ pre, Rd.isTitle y = false) (hw : Rd.WellFormed ((tV, l₁ ++ l₂) :: B)) (hV : vTitle tV = true)
    (hB : ∀ tb ∈ B, Rd.isV tb = false) (huniq : ∀ l ∈ l₁ ++ l₂, isDlmLine o.hdr l = false)
    (hr : readFull o nullOf ft (pre ++ Rd.flat ((tV, l₁ ++ l₂) :: B)) = .ok r) :
    r.steer.dlm = none ∧ (dtSteer nullOf r.steer).delimiter = .space := by
  obtain ⟨h, hh, -, e2, -⟩ := readFull_data o nullOf ft _ r hr
  obtain ⟨_, st, hd, hf⟩ := (Rd.readLines_ok_iff hpre hw).mp hh
  obtain ⟨s2, hT, hd⟩ := Rd.docSections_cons_ok.mp hd
  -- the old `dlm` is read off the ~Version section directly
  obtain ⟨p, items, hp, hbr, hT⟩ := (Rd.docSection_items (tb := (tV, l₁ ++ l₂)) (vTitle_kind hV)).mp hT
  simp only at hp hbr hT hd
  cases (vTitle_parser hV).symm.trans hp
  obtain ⟨_, rfl⟩ := (Rd.bodyRun_ok_iff o.hdr vParser _ _ _).mp hbr
  obtain ⟨k, _, _, hs2⟩ := Rd.finishItems_ok o.hdr _ _ Rd.RState.init s2 hT
  have hs2d : s2.steer.dlm = none := by
    have hl := lookup_dlm_none o.hdr _ (bodyItems_not_dlm o.hdr _ huniq)
    simp only [trOf, dlmKey] at hl
    rw [hs2]
    simp only
    unfold Rd.steer
    simp only [vTitle_letter hV, beq_self_eq_true, if_true]
    rw [hl]
    rfl
  -- the sections after ~Version leave `dlm` alone
  obtain ⟨st', hd', hst, -⟩ := docSections_D s2.steer.dlm (fun _ => True) (fun _ _ => True) (fun _ _ _ _ _ _ => trivial)
    o.hdr B _ _ s2 s2 st hB (fun _ _ _ _ _ => trivial) rfl rfl trivial hd
  cases hd.symm.trans hd'
  have hdlm : r.steer.dlm = none := by
    rw [e2, (finishRead_same st st h rfl rfl hf).1]
    simp only
    rw [hst]
    exact hs2d
  refine ⟨hdlm, ?_⟩
  simp only [dtSteer, hdlm, dlmOf]


/-! ## the hypotheses are needed -/

def rfDocA : Doc := [c09r "~V\n", c09r "VERS. 2.0 : v\n", c09r "WRAP. NO : w\n", c09r "DLM. COMMA : d\n", c09r "DLM. COMMA : e\n",
  c09r "~C\n", c09r "A.M : a\n", c09r "B.M : b\n", c09r "~A\n", c09r "1,2\n", c09r "3,4\n"]

/-- `huniq` (no second DLM item) is needed: with two items named DLM the session mnemonics are `DLM:1`, `DLM:2`, `"DLM" in section`
is false, and replacing one of them leaves the steering delimiter undeclared (SPACE) — while the data are now TAB-delimited -/
theorem C09_redelim_file_second_dlm :
    isDlmLine rdExOpts.hdr (c09r "DLM. COMMA : e\n") = true ∧
    (rdExHdr rfDocA).steer.dlm = none ∧
    (rdExHdr (redelim 8 10 3 true .comma .tab [] rfDocA)).steer.dlm = none ∧
    (redelim 8 10 3 true .comma .tab [] rfDocA)[3]? = some (c09r "DLM. TAB : delimiter\n") := by
  decide +kernel

def rfDocB : Doc := [c09r "~V\n", c09r "VERS. 2.0 : v\n", c09r "WRAP. NO : w\n", c09r "DLM. COMMA : d\n", c09r "~C\n", c09r "A.M : a\n",
  c09r "B.M : b\n", c09r "~V2\n", c09r "DLM. COMMA : z\n", c09r "~A\n", c09r "1,2\n", c09r "3,4\n"]

/-- `OtherSecsOK` (no second ~V section) is needed: a later ~V section with a DLM item overrides the new one -/
theorem C09_redelim_file_second_version :
    ¬ OtherSecsOK [(c09r "~C\n", [c09r "A.M : a\n", c09r "B.M : b\n"]), (c09r "~V2\n", [c09r "DLM. COMMA : z\n"])] ∧
    (rdExHdr (redelim 9 11 3 true .comma .tab [] rfDocB)).steer.dlm = some (c09r "COMMA") ∧
    (redelim 9 11 3 true .comma .tab [] rfDocB)[3]? = some (c09r "DLM. TAB : delimiter\n") ∧
    (redelim 9 11 3 true .comma .tab [] rfDocB)[10]? = some (c09r "1\t2\n") := by
  decide +kernel

def rfDocC : Doc := [c09r "~V\n", c09r "VERS. 2.0 : v\n", c09r "WRAP. NO : w\n", c09r "DLM. COMMA : d\n", c09r "~C\n", c09r "A.M : a\n",
  c09r "B.M : b\n", c09r "~A\n", c09r "1,2\n", c09r "~A\n", c09r "3,4\n"]

/-- ONE data section is needed: `redelim` re-lays one window, the new delimiter steers the reading of all of them -/
theorem C09_redelim_file_two_data_sections :
    (rdExHdr rfDocC).data = [(7, 8, c09r "~A"), (9, 10, c09r "~A")] ∧
    (rdExHdr (redelim 7 8 3 true .comma .tab [] rfDocC)).data = [(7, 8, c09r "~A"), (9, 10, c09r "~A")] ∧
    readData ⟨.normal, .strict⟩ rfDocC 9 10 rdStComma 2 rdFt14 =
      .ok (.normal, [(.declared 0, .floats [c09r "a3"]), (.declared 1, .floats [c09r "a4"])]) ∧
    readData ⟨.normal, .strict⟩ (redelim 7 8 3 true .comma .tab [] rfDocC) 9 10 (withDlm rdStComma .tab) 2 rdFt14 =
      .ok (.normal, [(.declared 0, .text [c09r "3.4"]), (.declared 1, .floats [c09r "nan"])]) := by
  decide +kernel

/-! ## non-vacuity -/

def rfC : Str × List Str := (c09r "~C\n", [c09r "A.M : a\n", c09r "B.M : b\n", c09r "C.M : c\n"])
def rfDoc : Doc := [] ++ Rd.flat ((c09r "~V\n", [c09r "VERS. 2.0 : v\n", c09r "WRAP. NO : w\n"] ++ c09r "DLM. COMMA : d\n" :: []) ::
  [rfC] ++ (c09r "~A\n", rdExBody) :: [])

def rfRead (d : Doc) (ft : FloatTable) : FullRead :=
  match readFull rdExOpts (fun _ => none) ft d with
  | .ok r => r
  | .error _ => ⟨[], Rd.Steer.init, []⟩

theorem rfRead_base (d : Doc) (ft : FloatTable) (h : (readFull rdExOpts (fun _ => none) ft d).isOk = true) :
    Base rdExOpts (fun _ => none) ft d (rfRead d ft) :=
  base_of_normal (Except.eq_ok_of_isOk h (fun r hr => by unfold rfRead; rw [hr])) rfl

/-- REPLACE: the example of C09Redelim (COMMA-delimited data with padding blanks, a comment line, a CRLF line; the DLM item is
line 3) re-delimited with TABs — all side conditions hold (by evaluation), and, instance of `C09_redelim_file_replace`, the
transformed file is readable with `dlm = TAB`, the "Version" items `VERS, WRAP, DLM=TAB`, and the same curves. -/
example :
    (Transform.redelim 8 11 3 true .comma .tab rdExSeps).apply rfDoc =
      [c09r "~V\n", c09r "VERS. 2.0 : v\n", c09r "WRAP. NO : w\n", c09r "DLM. TAB : delimiter\n", c09r "~C\n", c09r "A.M : a\n",
        c09r "B.M : b\n", c09r "C.M : c\n", c09r "~A\n", c09r "1.5 \t-2\t\t3e5\n", c09r "# 2018-05-22 - note\n", c09r "4 \t5\t\t6\r\n"] ∧
    ∃ r', Base rdExOpts (fun _ => none) rdExFt ((Transform.redelim 8 11 3 true .comma .tab rdExSeps).apply rfDoc) r' ∧
      r'.steer = { (rfRead rfDoc rdExFt).steer with dlm := some (c09r "TAB") } ∧
      r'.sections.lookup Rd.kVersion = some (.items [⟨c09r "VERS", [], c09r "2.0", c09r "v"⟩, ⟨c09r "WRAP", [], c09r "NO", c09r "w"⟩,
        ⟨c09r "DLM", [], c09r "TAB", c09r "delimiter"⟩]) ∧
      r'.data.map (fun y => y.res.map Prod.snd) = (rfRead rfDoc rdExFt).data.map (fun y => y.res.map Prod.snd) := by
  refine ⟨by decide +kernel, ?_⟩
  have h : (readFull rdExOpts (fun _ => none) rdExFt rfDoc).isOk = true ∧
      (dtSteer (fun _ => none) (rfRead rfDoc rdExFt).steer).delimiter = .comma := by decide +kernel
  obtain ⟨r', h1, h2, _, _, h5, h6⟩ := C09_redelim_file_replace rdExOpts (fun _ => none) rdExFt C09_redelim_example_tilde []
    (c09r "~V\n") [c09r "VERS. 2.0 : v\n", c09r "WRAP. NO : w\n"] [] (c09r "DLM. COMMA : d\n") [rfC] [] (c09r "~A\n") rdExBody
    .comma .tab 3 rdExSeps (rfRead rfDoc rdExFt) (by intro y hy; cases hy) (by decide +kernel) (by decide) (by decide)
    (by decide) (by decide) (by decide) (rfRead_base _ _ h.1) h.2 (by decide) (by decide) (by decide)
    (by decide) (by decide) (agreeAlone_of_normal _ _ _ _ _ (effectiveEngine_of_normal _ _ rfl))
  exact ⟨r', h1, h2, h5, h6⟩

def rfDoc2 : Doc := [] ++ Rd.flat ((c09r "~V\n", [c09r "VERS. 2.0 : v\n", c09r "WRAP. NO : w\n"] ++ []) ::
  [(c09r "~C\n", [c09r "A.M : a\n", c09r "B.M : b\n"])] ++ (c09r "~A\n", [c09r "1 2\n", c09r "3  4\n"]) :: [])

theorem C09_redelim_example_tilde14 : TildeNotFloat rdFt14 := tildeNotFloat_of_keys _ (by decide +kernel)

/-- INSERT: a file that declares no delimiter, blank-delimited data; a DLM item is inserted at the end of ~Version and the data
are re-delimited with commas (instance of `C09_redelim_file_insert`) -/
example :
    (Transform.redelim 6 8 3 false .space .comma []).apply rfDoc2 =
      [c09r "~V\n", c09r "VERS. 2.0 : v\n", c09r "WRAP. NO : w\n", c09r "DLM. COMMA : delimiter\n", c09r "~C\n", c09r "A.M : a\n",
        c09r "B.M : b\n", c09r "~A\n", c09r "1,2\n", c09r "3,4\n"] ∧
    ∃ r', Base rdExOpts (fun _ => none) rdFt14 ((Transform.redelim 6 8 3 false .space .comma []).apply rfDoc2) r' ∧
      r'.steer = { (rfRead rfDoc2 rdFt14).steer with dlm := some (c09r "COMMA") } ∧
      r'.sections.lookup Rd.kVersion = some (.items [⟨c09r "VERS", [], c09r "2.0", c09r "v"⟩, ⟨c09r "WRAP", [], c09r "NO", c09r "w"⟩,
        ⟨c09r "DLM", [], c09r "COMMA", c09r "delimiter"⟩]) ∧
      r'.data.map (fun y => y.res.map Prod.snd) = (rfRead rfDoc2 rdFt14).data.map (fun y => y.res.map Prod.snd) := by
  refine ⟨by decide +kernel, ?_⟩
  have h : (readFull rdExOpts (fun _ => none) rdFt14 rfDoc2).isOk = true ∧
      (dtSteer (fun _ => none) (rfRead rfDoc2 rdFt14).steer).delimiter = .space := by decide +kernel
  obtain ⟨r', h1, h2, _, _, h5, h6⟩ := C09_redelim_file_insert rdExOpts (fun _ => none) rdFt14 C09_redelim_example_tilde14 []
    (c09r "~V\n") [c09r "VERS. 2.0 : v\n", c09r "WRAP. NO : w\n"] [] [(c09r "~C\n", [c09r "A.M : a\n", c09r "B.M : b\n"])] []
    (c09r "~A\n") [c09r "1 2\n", c09r "3  4\n"] .space .comma 2 [] (rfRead rfDoc2 rdFt14) (by intro y hy; cases hy)
    (by decide +kernel) (by decide) (by decide) (by decide) (by decide) (by decide) (rfRead_base _ _ h.1) h.2 (by decide) trivial
    (by decide) (by decide) (by decide) (agreeAlone_of_normal _ _ _ _ _ (effectiveEngine_of_normal _ _ rfl))
  exact ⟨r', h1, h2, h5, h6⟩

end Lasio.Tf

#print axioms Lasio.Tf.C09_redelim_header
#print axioms Lasio.Tf.C09_redelim_header_item
#print axioms Lasio.Tf.C09_redelim_agree_relaid
#print axioms Lasio.Tf.C09_redelim_file_replace
#print axioms Lasio.Tf.C09_redelim_file_insert
#print axioms Lasio.Tf.C09_redelim_file_insert_frm
#print axioms Lasio.Tf.C09_redelim_file_second_dlm
#print axioms Lasio.Tf.C09_redelim_file_second_version
#print axioms Lasio.Tf.C09_redelim_file_two_data_sections
