import LasioProofs.Lemmas.FileNull
/-
C06 at WHOLE-FILE level: "Under the default policy a sample becomes NaN if and only if it lies in a non-index numeric curve and is
numerically equal to the ~Well NULL value, however either is spelled; index samples equal to NULL are kept, and text columns are
untouched.  With null_policy='none' no sample is changed."

`Tf.readFull` = header-level reader, then `Dt.readData` on every data window with the steering values `dtSteer nullOf steer`
(`nullValue := nullOf steer.null`: `nullOf` is the numeric service — raw NULL text ↦ canonical float text when `num()`/`float()`
accept it).  In `readData` the NULL step sits between the engine and the assignment to curves:
`(e, assignCurves d (applyNull (policy == strict) nullValue raw))`.

* `C06_file`             EVERY document, every option record, every successful data record: the curves are
                         `assignCurves d (applyNull (policy == .strict) (nullOf r.steer.null) raw)` for the raw columns `raw` of the
                         engine that is recorded (`numpyEngine` / `normalEngine` on that window), all of one length.
* `C06_file_cells`       cell by cell, for the curves that have a column (`j < |raw|`; the other declared curves are NaN-filled,
                         `C07_file_curves`): strict policy and numeric NULL `nv`: NaN afterwards IFF NaN in the data, or `j ≠ 0` and
                         the cell is `feq` (IEEE `==` on float texts — however spelled in the file) to `nv`; a cell that is not
                         NaN afterwards is the raw cell; curve 0 is the raw column 0; a text column stays that text column.
* `C06_file_unchanged`   policy `none`, or `nullOf r.steer.null = none` (no NULL item, several NULL items, a NULL that is not a
                         number): the curves are `assignCurves d raw` — no sample is changed.
* `C06_file_null_source` where `steer.null` comes from: a section that is not a ~W header section never touches it
                         (`C06_file_null_other_sections`); the LAST ~W header section sets it to the value of its single NULL item
                         (single under the reader's mnemonic comparison), and keeps what the earlier sections left when it has no
                         or several NULL items; `C06_file_null_none`: no ~W header section — no NULL.
* tightness / counter-examples (by evaluation): `C06_file_two_null_items`, `C06_file_text_null`, `C06_file_example` (three
  spellings of NULL in curve 1 nulled, the same value in the index curve kept; policy `none`: nothing changed).
-/
namespace Lasio.Tf
open Lasio Lasio.Dt

/-! ## 1. the curves of every data record -/

/-- **C06, whole file**: the curves of a successful data record are the raw columns of the recorded engine with NULL applied under
the policy, assigned to the declared curves -/
theorem C06_file (o : Opts) (nullOf : Option Str → Option Str) (ft : FloatTable) (doc : Doc) (r : FullRead)
    (h : readFull o nullOf ft doc = .ok r) :
    ∀ x ∈ r.data, ∀ e curves, x.res = .ok (e, curves) →
      ∃ raw : List Column, (∃ L, ∀ col ∈ raw, col.length = L) ∧
        (e = .numpy → numpyEngine ft doc x.first x.last = some raw) ∧
        (e = .normal → ∃ sb n, normalEngine ft sb (dtSteer nullOf r.steer).delimiter n doc x.first x.last = .ok raw) ∧
        curves = assignCurves (declaredCount r.sections) (applyNull (o.dat.nullPolicy == .strict) (nullOf r.steer.null) raw) := by
  intro x hx e curves hres
  rw [readFull_record h hx] at hres
  obtain ⟨raw, hrect, hc, hnp, hno⟩ := readData_ok_cols o.dat doc x.first x.last _ _ ft e curves hres
  refine ⟨raw, hrect, hnp, ?_, hc⟩
  intro he
  obtain ⟨sb, n, _, _, hne⟩ := hno he
  exact ⟨sb, n, hne⟩

/-- **C06, cell by cell** (curves that have a column: `j < |raw|`) -/
theorem C06_file_cells (d : Nat) (u : Bool) (null : Option Str) (raw : List Column) (j i : Nat) (hj : j < raw.length) :
    -- strict policy: NaN afterwards iff NaN in the data, or non-index float curve and numerically equal to the numeric NULL
    (u = true → (curveCell (assignCurves d (applyNull u null raw)) j i = some nanTxt ↔
      floatCell raw j i = some nanTxt ∨ (j ≠ 0 ∧ ∃ nv v, null = some nv ∧ floatCell raw j i = some v ∧ feq v nv = true))) ∧
    -- every other cell keeps its value
    (∀ v, curveCell (assignCurves d (applyNull u null raw)) j i = some v → v ≠ nanTxt → floatCell raw j i = some v) ∧
    -- index samples are kept: curve 0 is the raw column 0
    (j = 0 → ((assignCurves d (applyNull u null raw)).map Prod.snd)[0]? = raw[0]?) ∧
    -- text columns are untouched
    (∀ cells, raw[j]? = some (.text cells) → ((assignCurves d (applyNull u null raw)).map Prod.snd)[j]? = some (.text cells)) := by
  have hl : j < (applyNull u null raw).length := by rw [applyNull_length]; exact hj
  refine ⟨?_, ?_, ?_, ?_⟩
  · intro hu
    subst hu
    rw [curveCell_assign d _ j i hl]
    exact C06_iff_strict null raw j i
  · intro v hv hne
    rw [curveCell_assign d _ j i hl] at hv
    exact C06_other_cells u null raw j i v hv hne
  · intro h0
    subst h0
    rw [assignCurves_snd_getElem? d _ 0 hl]
    exact C06_index_kept u null raw
  · intro cells hc
    rw [assignCurves_snd_getElem? d _ j hl]
    exact C06_text_untouched u null raw j cells hc

/-- **C06, nothing changes**: with `null_policy='none'`, or when the header has no numeric NULL (`nullOf r.steer.null = none`: no
NULL item in ~Well, several of them, or a NULL `num()` leaves a text), the curves are the raw columns, unchanged -/
theorem C06_file_unchanged (o : Opts) (nullOf : Option Str → Option Str) (ft : FloatTable) (doc : Doc) (r : FullRead)
    (h : readFull o nullOf ft doc = .ok r) (hcase : o.dat.nullPolicy = .none ∨ nullOf r.steer.null = none) :
    ∀ x ∈ r.data, ∀ e curves, x.res = .ok (e, curves) →
      ∃ raw : List Column, (e = .numpy → numpyEngine ft doc x.first x.last = some raw) ∧
        (e = .normal → ∃ sb n, normalEngine ft sb (dtSteer nullOf r.steer).delimiter n doc x.first x.last = .ok raw) ∧
        curves = assignCurves (declaredCount r.sections) raw := by
  intro x hx e curves hres
  obtain ⟨raw, _, h1, h2, h3⟩ := C06_file o nullOf ft doc r h x hx e curves hres
  refine ⟨raw, h1, h2, ?_⟩
  rw [h3]
  rcases hcase with hp | hn
  · rw [hp]
    have : (NullPolicy.none == NullPolicy.strict) = false := by decide
    rw [this, C06_none]
  · rw [hn, C06_nonnumeric_null]

/-! ## 2. where the NULL comes from -/

/-- sections that are not ~W header sections — ~V, ~P, ~C, custom, ~O, data sections, whatever items they hold (a `NULL` item among
them included) — leave `steer.null` alone -/
theorem C06_file_null_other_sections (o : Rd.ReadOpts) (secs : List (Str × List Str)) (n : Nat) (st r : Rd.RState)
    (hw : ∀ tb ∈ secs, Rd.isW tb = false) (h : Rd.docSections o secs n st = .ok r) : r.steer.null = st.steer.null :=
  docSections_null_nonW o secs n st r hw h

/-- **THE SOURCE OF NULL.** `(tW, bW)` is the last ~W header section of the document.  With `p` the parser in force for it and
`items` the items of its body: the header's NULL text is the value of the single item among `items` whose (useful) mnemonic
compares equal to `NULL` (`mnemonic_case` rules) — when there is none, or more than one, it is what the sections before left
(`sA.steer.null`: by the same law, the last earlier ~W section with exactly one NULL item; `none` when there is no such section). -/
theorem C06_file_null_source (o : Rd.ReadOpts) (pre : List Str) (A B : List (Str × List Str)) (tW : Str) (bW : List Str)
    (hpre : ∀ x ∈ pre, Rd.isTitle x = false) (hw : Rd.WellFormed (A ++ (tW, bW) :: B))
    (hW : Rd.isW (tW, bW) = true) (hB : ∀ tb ∈ B, Rd.isW tb = false) (h : Rd.RHeader)
    (hr : Rd.readLines o (pre ++ Rd.flat (A ++ (tW, bW) :: B)) = .ok h) :
    ∃ sA ver p, Rd.docSections o A pre.length Rd.RState.init = .ok sA ∧ Rd.mkParser (Rd.lineStrip tW) ver = .ok p ∧
      h.steer.null =
        Rd.orKeep ((Rd.uniq ((Rd.bodyItems o p bW).filter fun it => Rd.mcmp (trOf o) (Rd.U it) "NULL".toList)).map (·.value))
          sA.steer.null ∧
      ((∀ tb ∈ A, Rd.isW tb = false) → sA.steer.null = none) := by
  obtain ⟨sA, ver, p, hA, hp, hn⟩ := readLines_null_last o pre A B tW bW hpre hw hW hB h hr
  refine ⟨sA, ver, p, hA, hp, ?_, ?_⟩
  · rw [hn, nullOfItems_eq]
  · intro hAw
    rw [docSections_null_nonW o A _ _ sA hAw hA]
    rfl

/-- no ~W header section at all: the header has no NULL -/
theorem C06_file_null_none (o : Rd.ReadOpts) (pre : List Str) (secs : List (Str × List Str))
    (hpre : ∀ x ∈ pre, Rd.isTitle x = false) (hw : Rd.WellFormed secs) (hnoW : ∀ tb ∈ secs, Rd.isW tb = false) (h : Rd.RHeader)
    (hr : Rd.readLines o (pre ++ Rd.flat secs) = .ok h) : h.steer.null = none := by
  obtain ⟨_, st, hd, _, _, rfl⟩ := (readLines_ok_doc hpre hw).mp hr
  dsimp only
  rw [docSections_null_nonW o secs _ _ st hnoW hd]
  rfl

/-! ## 3. tightness and non-vacuity -/

def c06f (x : String) : Str := x.toList

/-- three spellings of −999.25 with one float text -/
def nfFt : FloatTable := [(c06f "-999.25", c06f "neg"), (c06f "-999.2500", c06f "neg"), (c06f "-9.9925E2", c06f "neg"),
  (c06f "2", c06f "a2"), (c06f "3", c06f "a3"), (c06f "4", c06f "a4"), (c06f "5", c06f "a5")]
def nfNull : Option Str → Option Str := fun o => o.bind fun t => nfFt.lookup t
def nfOpts (e : Engine) (p : NullPolicy) : Opts := ⟨⟨false, .preserve⟩, ⟨e, p⟩⟩

/-- ~V, ~W with the given item lines, two curves, four data rows: column 0 holds −999.25 once, column 1 in three spellings -/
def nfDoc (w : List Str) : Doc :=
  [c06f "~V\n", c06f "VERS. 2.0 : v\n", c06f "WRAP. NO : w\n", c06f "~W\n"] ++ w ++
    [c06f "~C\n", c06f "A.M : a\n", c06f "B.M : b\n", c06f "~A\n", c06f "-999.25 -999.25\n", c06f "2 -999.2500\n",
     c06f "3 -9.9925E2\n", c06f "4 5\n"]

def nfShow (o : Opts) (d : Doc) : Option Str × List (Except DErr (Engine × List (Slot × Column))) :=
  match readFull o nfNull nfFt d with
  | .ok r => (r.steer.null, r.data.map DataRead.res)
  | .error _ => (none, [])

/-- NON-VACUITY / the property on a file: default policy — the three spellings in curve 1 become NaN, the same value in the index
curve is kept (both engines); policy `none` — nothing changes -/
theorem C06_file_example :
    nfShow (nfOpts .normal .strict) (nfDoc [c06f "NULL. -999.25 : n\n"]) =
      (some (c06f "-999.25"), [.ok (.normal, [(.declared 0, .floats [c06f "neg", c06f "a2", c06f "a3", c06f "a4"]),
        (.declared 1, .floats [nanTxt, nanTxt, nanTxt, c06f "a5"])])]) ∧
    nfShow (nfOpts .numpy .strict) (nfDoc [c06f "NULL. -999.25 : n\n"]) =
      (some (c06f "-999.25"), [.ok (.numpy, [(.declared 0, .floats [c06f "neg", c06f "a2", c06f "a3", c06f "a4"]),
        (.declared 1, .floats [nanTxt, nanTxt, nanTxt, c06f "a5"])])]) ∧
    nfShow (nfOpts .numpy .none) (nfDoc [c06f "NULL. -999.25 : n\n"]) =
      (some (c06f "-999.25"), [.ok (.normal, [(.declared 0, .floats [c06f "neg", c06f "a2", c06f "a3", c06f "a4"]),
        (.declared 1, .floats [c06f "neg", c06f "neg", c06f "neg", c06f "a5"])])]) := by decide +kernel

/-- TWO NULL items in ~Well: `"NULL" in section` is false (the session mnemonics are `NULL:1`, `NULL:2`), there is no NULL, and
nothing is nulled -/
theorem C06_file_two_null_items :
    nfShow (nfOpts .normal .strict) (nfDoc [c06f "NULL. -999.25 : n\n", c06f "NULL. -999.25 : m\n"]) =
      (none, [.ok (.normal, [(.declared 0, .floats [c06f "neg", c06f "a2", c06f "a3", c06f "a4"]),
        (.declared 1, .floats [c06f "neg", c06f "neg", c06f "neg", c06f "a5"])])]) := by decide +kernel

/-- a NULL that is not a number: the text is kept in `steer.null`, `nullOf` gives nothing, nothing is nulled -/
theorem C06_file_text_null :
    nfNull (some (c06f "abc")) = none ∧
    nfShow (nfOpts .normal .strict) (nfDoc [c06f "NULL. abc : n\n"]) =
      (some (c06f "abc"), [.ok (.normal, [(.declared 0, .floats [c06f "neg", c06f "a2", c06f "a3", c06f "a4"]),
        (.declared 1, .floats [c06f "neg", c06f "neg", c06f "neg", c06f "a5"])])]) := by decide +kernel

/-- the general theorems instantiated on the example (hypotheses by evaluation): curve 1, row 2 (spelled `-9.9925E2`) is NaN
because the raw cell is `feq` the NULL; curve 0, row 0 holds the NULL value and is kept -/
example (r : FullRead) (h : readFull (nfOpts .normal .strict) nfNull nfFt (nfDoc [c06f "NULL. -999.25 : n\n"]) = .ok r) :
    ∀ x ∈ r.data, ∀ e curves, x.res = .ok (e, curves) →
      ∃ raw : List Column, curves = assignCurves (declaredCount r.sections) (applyNull true (nfNull r.steer.null) raw) := by
  intro x hx e curves hres
  obtain ⟨raw, _, _, _, hc⟩ := C06_file _ _ _ _ r h x hx e curves hres
  exact ⟨raw, hc⟩

example : let raw : List Column := [.floats [c06f "neg", c06f "a2"], .floats [c06f "neg", c06f "a5"], .text [c06f "x", c06f "y"]]
    curveCell (assignCurves 2 (applyNull true (some (c06f "neg")) raw)) 1 0 = some nanTxt ∧
    curveCell (assignCurves 2 (applyNull true (some (c06f "neg")) raw)) 0 0 = some (c06f "neg") ∧
    ((assignCurves 2 (applyNull true (some (c06f "neg")) raw)).map Prod.snd)[2]? = some (.text [c06f "x", c06f "y"]) := by
  decide +kernel

end Lasio.Tf

#print axioms Lasio.Tf.C06_file
#print axioms Lasio.Tf.C06_file_cells
#print axioms Lasio.Tf.C06_file_unchanged
#print axioms Lasio.Tf.C06_file_null_other_sections
#print axioms Lasio.Tf.C06_file_null_source
#print axioms Lasio.Tf.C06_file_null_none
#print axioms Lasio.Tf.C06_file_example
#print axioms Lasio.Tf.C06_file_two_null_items
#print axioms Lasio.Tf.C06_file_text_null
