import LasioModel.Data
import LasioProofs.Lemmas.DataTabLemmas
/-
C02 for files that declare `DLM TAB` (`st.delimiter = .tab`) — the numpy engine and the normal engine give the same curves.

Domain (`TabPlainData`, Lemmas/DataTabLemmas.lean): as `PlainData` of Props/C02.lean, but the `c ≥ 1` quiet tokens of a data line
are separated by non-empty runs of TAB characters only (`TabCore`); the padding before the first and after the last token of the
physical line may be any Python whitespace (`cleanLine` strips it).  `TabPlainData … → PlainData …`
(`TabPlainData.toPlain`), so the facts about the numpy engine — which never looks at the delimiter — are those of Props/C02.lean.
`readSubs .tab = Subs.default` (`readSubs_tab`): a `DLM TAB` file starts the sniffer with the same substitutions as the default
delimiter.

The theorems are the instances for `DLM TAB` of `readData_plain_normal`, `_agree`, `_numpy`, `_fallback`
(Lemmas/DataLemmas.lean); `C02_tab_separators_needed` shows that the separators must be TABs.
-/
namespace Lasio.Dt

/-! ### `readData` -/

/-- what the normal engine returns on TAB-separated plain data (WRAP ≠ YES) -/
theorem C02_normal_value_tab (ft : FloatTable) (e : Engine) (p : NullPolicy) (st : Steer) (d : Nat) (pre : List Str) (title : Str)
    {body after : List Str} {c : Nat} {rows : List (List Str)} (h : TabPlainData ft body after c rows)
    (hdlm : st.delimiter = .tab) (hw : st.wrapped ≠ yesTxt)
    (heng : effectiveEngine ⟨e, p⟩ st = .normal) :
    readData ⟨e, p⟩ (pre ++ title :: (body ++ after)) pre.length (pre.length + body.length) st d ft =
      .ok (.normal, plainResult ft p st d c rows) :=
  readData_plain_normal ft e p st d pre title after (by rw [hdlm]; exact h.body.lineRows) h.cpos h.rne hw heng

/-- **Engines agree** on TAB-separated plain data of a `DLM TAB` file (ANY quiet tokens, numeric or not, any NULL, any number of
declared curves, both null policies, any WRAP value). -/
theorem C02_engines_agree_tab (ft : FloatTable) (p : NullPolicy) (st : Steer) (d : Nat) (pre : List Str) (title : Str)
    {body after : List Str} {c : Nat} {rows : List (List Str)} (h : TabPlainData ft body after c rows)
    (hdlm : st.delimiter = .tab) :
    (readData ⟨.numpy, p⟩ (pre ++ title :: (body ++ after)) pre.length (pre.length + body.length) st d ft).map Prod.snd =
    (readData ⟨.normal, p⟩ (pre ++ title :: (body ++ after)) pre.length (pre.length + body.length) st d ft).map Prod.snd :=
  readData_plain_agree ft p st d pre title h.toPlain (by rw [hdlm]; exact h.body.lineRows)

/-- **No silent fallback**: numeric TAB-separated plain data, WRAP ≠ YES, strict policy, and no blank/comment line in the body or
nothing after the window ⇒ the numpy engine itself produced the curves. -/
theorem C02_numpy_path_tab (ft : FloatTable) (st : Steer) (d : Nat) (pre : List Str) (title : Str)
    {body after : List Str} {c : Nat} {rows : List (List Str)} (h : TabPlainData ft body after c rows) (hnum : Numeric ft rows)
    (hdlm : st.delimiter = .tab) (hw : st.wrapped ≠ yesTxt)
    (hpath : body.length = rows.length ∨ after = []) :
    readData ⟨.numpy, .strict⟩ (pre ++ title :: (body ++ after)) pre.length (pre.length + body.length) st d ft =
      .ok (.numpy, plainResult ft .strict st d c rows) :=
  readData_plain_numpy ft st d pre title h.toPlain hnum hw hpath

/-- **Fallback**: a blank/comment line inside the body and a following section ⇒ genfromtxt runs into the next title line and
raises; the normal engine (splitting at TABs) produces the (same) curves. -/
theorem C02_fallback_tab (ft : FloatTable) (st : Steer) (d : Nat) (pre : List Str) (title : Str)
    {body after : List Str} {c : Nat} {rows : List (List Str)} (h : TabPlainData ft body after c rows)
    (hdlm : st.delimiter = .tab) (hw : st.wrapped ≠ yesTxt)
    (hskip : rows.length < body.length) (hafter : after ≠ []) :
    numpyEngine ft (pre ++ title :: (body ++ after)) pre.length (pre.length + body.length) = none ∧
    readData ⟨.numpy, .strict⟩ (pre ++ title :: (body ++ after)) pre.length (pre.length + body.length) st d ft =
      .ok (.normal, plainResult ft .strict st d c rows) :=
  readData_plain_fallback ft st d pre title h.toPlain (by rw [hdlm]; exact h.body.lineRows) hw hskip hafter

/-! ### non-vacuity and necessity of the TAB separators -/

def c02t (s : String) : Str := s.toList

def ftTab : FloatTable := [(c02t "1", c02t "a1"), (c02t "2", c02t "a2"), (c02t "3", c02t "a3"), (c02t "4", c02t "a4")]

/-- WRAP NO declared, no numeric NULL, `DLM TAB` -/
def stTab : Steer := ⟨true, c02t "NO", none, .tab⟩

/-- `"1\t2\n"`, a blank line, `" 3\t\t4 \r\n"` (two TABs between the tokens, blank padding, CRLF): a TAB body with rows [1,2],[3,4] -/
theorem C02_tab_example_body :
    TabBody 2 [c02t "1\t2\n", c02t "\n", c02t " 3\t\t4 \r\n"] [[c02t "1", c02t "2"], [c02t "3", c02t "4"]] := by
  apply TabBody.row (toks := [c02t "1", c02t "2"])
  · exact ⟨[], c02t "1" ++ (c02t "\t" ++ c02t "2"), c02t "\n", allWs_dec _ (by decide +kernel), allWs_dec _ (by decide +kernel),
      TabCore.cons (quiet_digit "1" (by decide +kernel)) (by decide +kernel) (by decide +kernel)
        (TabCore.one (quiet_digit "2" (by decide +kernel))), by decide +kernel⟩
  · rfl
  apply TabBody.skip
  · exact Or.inl (allWs_dec _ (by decide +kernel))
  apply TabBody.row (toks := [c02t "3", c02t "4"])
  · exact ⟨c02t " ", c02t "3" ++ (c02t "\t\t" ++ c02t "4"), c02t " \r\n", allWs_dec _ (by decide +kernel), allWs_dec _ (by decide +kernel),
      TabCore.cons (quiet_digit "3" (by decide +kernel)) (by decide +kernel) (by decide +kernel)
        (TabCore.one (quiet_digit "4" (by decide +kernel))), by decide +kernel⟩
  · rfl
  exact TabBody.nil

/-- the domain is inhabited: the body above as the last section of the file … -/
theorem C02_tab_example_last :
    TabPlainData ftTab [c02t "1\t2\n", c02t "\n", c02t " 3\t\t4 \r\n"] [] 2 [[c02t "1", c02t "2"], [c02t "3", c02t "4"]] :=
  ⟨C02_tab_example_body, by decide +kernel, by decide +kernel, Or.inl rfl⟩

/-- … and followed by a ~P section -/
theorem C02_tab_example_inner :
    TabPlainData ftTab [c02t "1\t2\n", c02t "\n", c02t " 3\t\t4 \r\n"] [c02t "~P\n", c02t "X. 5 : d\n"] 2
      [[c02t "1", c02t "2"], [c02t "3", c02t "4"]] :=
  ⟨C02_tab_example_body, by decide +kernel, by decide +kernel, Or.inr ⟨c02t "~P\n", [c02t "X. 5 : d\n"], c02t "~P", [], rfl, by decide +kernel, by decide +kernel⟩⟩

/-- last section with a blank line: the numpy engine itself answers (instance of `C02_numpy_path_tab`), and the conclusion
computes to the expected curves -/
theorem C02_tab_example_numpy :
    readData ⟨.numpy, .strict⟩ ([c02t "~V\n"] ++ c02t "~A\n" :: ([c02t "1\t2\n", c02t "\n", c02t " 3\t\t4 \r\n"] ++ [])) 1 (1 + 3)
      stTab 2 ftTab =
    .ok (.numpy, [(.declared 0, .floats [c02t "a1", c02t "a3"]), (.declared 1, .floats [c02t "a2", c02t "a4"])]) :=
  C02_numpy_path_tab ftTab stTab 2 [c02t "~V\n"] (c02t "~A\n") C02_tab_example_last (by unfold Numeric; decide +kernel) rfl (by decide +kernel)
    (Or.inr rfl)

/-- the normal engine on the same document (instance of `C02_normal_value_tab`): the same curves -/
theorem C02_tab_example_normal :
    readData ⟨.normal, .strict⟩ ([c02t "~V\n"] ++ c02t "~A\n" :: ([c02t "1\t2\n", c02t "\n", c02t " 3\t\t4 \r\n"] ++ [])) 1 (1 + 3)
      stTab 2 ftTab =
    .ok (.normal, [(.declared 0, .floats [c02t "a1", c02t "a3"]), (.declared 1, .floats [c02t "a2", c02t "a4"])]) :=
  C02_normal_value_tab ftTab .normal .strict stTab 2 [c02t "~V\n"] (c02t "~A\n") C02_tab_example_last rfl (by decide +kernel) rfl

/-- the same body followed by ~P: genfromtxt raises, the normal engine answers (instance of `C02_fallback_tab`) -/
theorem C02_tab_example_fallback :
    readData ⟨.numpy, .strict⟩
      ([c02t "~V\n"] ++ c02t "~A\n" :: ([c02t "1\t2\n", c02t "\n", c02t " 3\t\t4 \r\n"] ++ [c02t "~P\n", c02t "X. 5 : d\n"]))
      1 (1 + 3) stTab 2 ftTab =
    .ok (.normal, [(.declared 0, .floats [c02t "a1", c02t "a3"]), (.declared 1, .floats [c02t "a2", c02t "a4"])]) :=
  (C02_fallback_tab ftTab stTab 2 [c02t "~V\n"] (c02t "~A\n") C02_tab_example_inner rfl (by decide +kernel) (by decide +kernel) (by decide +kernel)).2

/-- **The separators must be TABs.**  With `DLM TAB` the line `"1 2\n"` (a blank between the numbers: a `RowLine`, not a
`TabRowLine`) is ONE text cell `"1 2"` under the normal engine — `sot_regex` does not split at a blank, the sniffer counts one
column, the second declared curve is filled with NaN — and two float columns under the numpy engine (`genfromtxt` splits at any
whitespace and never sees the delimiter): the engines differ.  (`float("1 2")` raises, so `"1 2"` is absent from the table.) -/
theorem C02_tab_separators_needed :
    readData ⟨.numpy, .strict⟩ [c02t "~A\n", c02t "1 2\n"] 0 1 stTab 2 ftTab =
      .ok (.numpy, [(.declared 0, .floats [c02t "a1"]), (.declared 1, .floats [c02t "a2"])]) ∧
    readData ⟨.normal, .strict⟩ [c02t "~A\n", c02t "1 2\n"] 0 1 stTab 2 ftTab =
      .ok (.normal, [(.declared 0, .text [c02t "1 2"]), (.declared 1, .floats [nanTxt])]) ∧
    (readData ⟨.numpy, .strict⟩ [c02t "~A\n", c02t "1 2\n"] 0 1 stTab 2 ftTab).map Prod.snd ≠
      (readData ⟨.normal, .strict⟩ [c02t "~A\n", c02t "1 2\n"] 0 1 stTab 2 ftTab).map Prod.snd := by
  decide +kernel

/-- the same line is in the default-delimiter domain (`RowLine`) but its cleaned form is not split by `splitTab` -/
theorem C02_tab_blank_is_no_separator :
    splitTab (c02t "1 2") = [c02t "1 2"] ∧ splitWs (c02t "1 2") = [c02t "1", c02t "2"] ∧
    splitTab (c02t "1\t2") = [c02t "1", c02t "2"] := by decide +kernel

end Lasio.Dt

#print axioms Lasio.Dt.TabCore.toCore
#print axioms Lasio.Dt.TabBody.toBody
#print axioms Lasio.Dt.TabPlainData.toPlain
#print axioms Lasio.Dt.splitTab_tabCore
#print axioms Lasio.Dt.TabRowLine.lineToks
#print axioms Lasio.Dt.TabBody.lineRows
#print axioms Lasio.Dt.C02_normal_value_tab
#print axioms Lasio.Dt.C02_engines_agree_tab
#print axioms Lasio.Dt.C02_numpy_path_tab
#print axioms Lasio.Dt.C02_fallback_tab
#print axioms Lasio.Dt.C02_tab_example_body
#print axioms Lasio.Dt.C02_tab_example_last
#print axioms Lasio.Dt.C02_tab_example_inner
#print axioms Lasio.Dt.C02_tab_example_numpy
#print axioms Lasio.Dt.C02_tab_example_normal
#print axioms Lasio.Dt.C02_tab_example_fallback
#print axioms Lasio.Dt.C02_tab_separators_needed
#print axioms Lasio.Dt.C02_tab_blank_is_no_separator
