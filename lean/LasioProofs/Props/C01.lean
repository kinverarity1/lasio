import LasioProofs.Lemmas.DataWriteLemmas
import LasioProofs.Lemmas.RoundTripData
/-
C01 — Numeric curve data survives write->read within the printed precision (WRITER half, token level).

The model (`LasioModel/DataWrite.lean`) carries a binary64 sample exactly as `(-1)^neg · m · 2^e`, prints it with the exact
round-half-even `%.Nf`, lays rows out as `format_data_section_line` does and wraps them with the TextWrapper chunk model.
Theorems (all over EVERY value / configuration of the stated shape, no bounds):
* `C01_value`       the printed decimal has exactly N fraction digits and is within half a unit of the last digit of the sample;
* `C01_plain_token` a printed finite sample is one plain numeric token;  `C01_cell_token`, `C01_row_tokens` (+ the exact
                    separation condition `C01_row_tokens_sep`, and the counter-example with an empty spacer and width -1);
* `C01_wrap_preserves_tokens`, `C01_wrap_line_length`, `C01_wrap_nonempty_lines`: wrapping only moves line breaks between tokens;
* `C01_nan_marker`, `C01_fmt_idem`, `C01_fmt_stable`; `C01_lines_tokens` puts the pieces together for a whole data section.
The reader half (tokens -> columns, column inference, both engines) is the `C01_roundtrip_*` family at the end of this file, proved in
Lemmas/RoundTripData.lean; NULL -> NaN is `C06_roundtrip_mask` (Props/C06.lean). `float()` itself stays a parameter (`Dt.FloatTable`)
there (the token -> float table Python computes): the oracle of harness/props/c01.py re-reads the written text with lasio itself.
-/
namespace Lasio.Dw
open Lasio

/-- (`sgn neg = if neg then -1 else 1`.)  **Recovered to within half a unit of the last printed digit** (at the level of the printed decimal).
For the finite sample `x = sgn · m · 2^e`, `'%.Nf' % x` is a plain decimal token with exactly `N` fraction digits whose exact
value `a / 10^N` satisfies `|a/10^N − x| ≤ 1/(2·10^N)`; written without division, with `D = 2^max(-e,0)`:
`2 · |a · D − sgn · m · 2^max(e,0) · 10^N| ≤ D`. -/
theorem C01_value (N : Nat) (neg : Bool) (m : Nat) (e : Int) :
    ∃ a : Int, decOfTok (fmtFixed N (.finite neg m e)) = some (a, N) ∧
      2 * (a * 2 ^ (-e).toNat - sgn neg * m * 2 ^ e.toNat * 10 ^ N).natAbs ≤ 2 ^ (-e).toNat := by
  refine ⟨sgn neg * fixedUnits N m e, ?_, ?_⟩
  · unfold decOfTok
    rw [decOfTokS_fmtFixed]
    cases neg <;> simp [sgn]
  · have hb := divRoundHalfEven_bound (m * 2 ^ e.toNat * 10 ^ N) (2 ^ (-e).toNat) (Nat.pow_pos (by decide))
    unfold fixedUnits
    generalize divRoundHalfEven (m * 2 ^ e.toNat * 10 ^ N) (2 ^ (-e).toNat) = q at *
    push_cast at hb
    cases neg with
    | false =>
      simp only [sgn, Bool.false_eq_true, if_false, Int.one_mul]
      exact hb
    | true =>
      simp only [sgn, if_true]
      have : (-1 * (q : Int) * 2 ^ (-e).toNat - -1 * (m : Int) * 2 ^ e.toNat * 10 ^ N)
          = -((q : Int) * 2 ^ (-e).toNat - (m : Int) * 2 ^ e.toNat * 10 ^ N) := by
        simp only [Int.neg_mul, Int.one_mul]; omega
      rw [this, Int.natAbs_neg]
      exact hb

/-- the sign of the sample is the sign of the token (`-0.00000` keeps its sign) and the magnitude is the rounded number of units -/
theorem C01_value_signed (N : Nat) (neg : Bool) (m : Nat) (e : Int) :
    decOfTokS (fmtFixed N (.finite neg m e)) = some (neg, fixedUnits N m e, N) :=
  decOfTokS_fmtFixed N neg m e

/-- for `e ≥ 0` (integers) the printed decimal is exact -/
theorem C01_value_exact_of_int (N : Nat) (neg : Bool) (m k : Nat) :
    decOfTok (fmtFixed N (.finite neg m (k : Int))) = some (sgn neg * (m * 2 ^ k * 10 ^ N : Nat), N) := by
  unfold decOfTok
  rw [decOfTokS_fmtFixed]
  have : fixedUnits N m (k : Int) = m * 2 ^ k * 10 ^ N := by
    unfold fixedUnits
    have h1 : (-(k : Int)).toNat = 0 := by omega
    have h2 : (k : Int).toNat = k := by omega
    rw [h1, h2, Nat.pow_zero]
    simpa using divRoundHalfEven_exact (m * 2 ^ k * 10 ^ N) 1 (by decide)
  rw [this]
  cases neg <;> simp [sgn]

/-- **A printed finite sample is a plain numeric token**: non-empty; only `-`, digits and `.`; hence no whitespace, quote,
`#` or `,`; whitespace tokenisation leaves it untouched. -/
theorem C01_plain_token (N : Nat) (neg : Bool) (m : Nat) (e : Int) :
    let t := fmtFixed N (.finite neg m e)
    t ≠ [] ∧ (∀ c ∈ t, isPlainChar c = true) ∧
    (∀ c ∈ t, isPySpace c = false ∧ c ≠ '"' ∧ c ≠ '\'' ∧ c ≠ '#' ∧ c ≠ ',') ∧
    tokensWs t = [t] :=
  ⟨(fmtFixed_isTok N _).1, fmtFixed_plain N neg m e,
   fun c hc => plainChar_facts c (fmtFixed_plain N neg m e c hc),
   tokensWs_tok _ (fmtFixed_isTok N _)⟩

/-- **A formatted cell** is the spacing characters, blank padding, then the cell's token; when the spacing characters are
whitespace and the NULL text is a token, its whitespace tokenisation is exactly `[token]`. -/
theorem C01_cell_token (null : Str) (f : Fmt) (l : Int) (sp : Str) (x : F64)
    (hsp : ∀ c ∈ sp, isPySpace c = true) (hnull : IsTok null) :
    (∃ pad, Blank pad ∧ formatCell null f l sp x = sp ++ pad ++ cellToken null f x) ∧
    tokensWs (formatCell null f l sp x) = [cellToken null f x] := by
  obtain ⟨pad, hpad, hshape⟩ := formatCell_shape null f l sp x
  refine ⟨⟨pad, hpad, hshape⟩, ?_⟩
  rw [hshape]
  apply tokensWs_cell_end _ _ _ (cellToken_isTok null hnull f x)
  intro c hc
  rcases List.mem_append.mp hc with h | h
  · exact hsp c h
  · exact hpad.ws c h

/-- **Whitespace tokenisation of a data row returns exactly the cell tokens**, under `CfgOK` (non-empty whitespace spacer,
whitespace left-hand spacer, NULL text a single token); any F64 cells, any formats, any field width. -/
theorem C01_row_tokens (c : RowCfg) (null : Str) (hok : CfgOK c null) (cells : List F64) :
    tokensWs (dataRow c null cells) = rowTokens c null cells :=
  tokensWs_dataRowFrom hok 0 cells

/-- the number of tokens of a row is its number of cells -/
theorem C01_row_token_count (c : RowCfg) (null : Str) (hok : CfgOK c null) (cells : List F64) :
    (tokensWs (dataRow c null cells)).length = cells.length := by
  rw [C01_row_tokens c null hok]; exact rowTokensFrom_length c null 0 cells

/-- The exact separation condition: it is enough (and, by the counter-example below, needed) that every cell after the first
BEGINS with a whitespace character — through a non-empty spacer (`CfgOK.rowSep`) or through right-justification in a field
wider than the value (`justified_sepAt`). -/
theorem C01_row_tokens_sep (c : RowCfg) (null : Str) (h : SpacersWs c null) (x : F64) (xs : List F64)
    (hsep : RowSep c null 1 xs) : tokensWs (dataRow c null (x :: xs)) = rowTokens c null (x :: xs) :=
  tokensWs_dataRowFrom_sep h 0 x xs hsep

/-- a cell narrower than a (non -1) `len_numeric_field` begins with whitespace even when the spacer is empty -/
theorem C01_justified_sep (c : RowCfg) (null : Str) (j : Nat) (y : F64)
    (hl : c.lenNumericField ≠ -1) (hlen : (cellValue null (c.colFmt j) y).length < c.lenNumericField.toNat)
    (hws : ∀ ch ∈ c.leftSpacing j, isPySpace ch = true) : SepAt c null j y :=
  justified_sepAt c null j y hl hlen hws

def one : F64 := .finite false 1 0
def two : F64 := .finite false 1 1
def nullTxt : Str := "-999.25".toList

/-- COUNTER-EXAMPLE (hypothesis `spacer ≠ ""` of `CfgOK` is needed): with `spacer=""` and `len_numeric_field=-1` the cells
1.0 and 2.0 printed with `%.1f` merge into the single token `1.02.0`. -/
theorem C01_row_tokens_needs_spacer :
    tokensWs (dataRow ⟨⟨none, 1⟩, [], -1, [' '], []⟩ nullTxt [one, two]) = ["1.02.0".toList] := by decide +kernel

/-- **Wrapping only moves line breaks between tokens** -/
theorem C01_wrap_preserves_tokens (w : Nat) (s : Str) (ls : List Str) (h : textWrap w s = some ls) :
    ls.flatMap tokensWs = tokensWs s :=
  textWrap_tokens h

/-- every wrapped line fits in the width, except a line that holds a single value which is itself longer than the width: that
value stands alone and unbroken (a maximal run of non-blank characters of the row, no blank in it) -/
theorem C01_wrap_line_length (w : Nat) (s : Str) (ls : List Str) (h : textWrap w s = some ls) :
    ∀ l ∈ ls, l.length ≤ w ∨ (l ∈ wrapChunks (wrapMunge s) ∧ ' ' ∉ l) :=
  textWrap_length_or h

/-- when every value (and every run of blanks) of the row fits in the width, every line does -/
theorem C01_wrap_line_length_fits (w : Nat) (s : Str) (ls : List Str) (h : textWrap w s = some ls)
    (hc : ∀ c ∈ wrapChunks (wrapMunge s), c.length ≤ w) : ∀ l ∈ ls, l.length ≤ w := by
  obtain ⟨_, rfl⟩ := textWrap_eq h
  exact wrapLines_length w _ false [] 0 rfl (Nat.zero_le _) hc

/-- **No output line is blank**: no line is empty, and when the only whitespace characters of the row are TextWrapper's
(blank, TAB, LF, VT, FF, CR — always the case for a data row written under `CfgOK`) every line carries a token. -/
theorem C01_wrap_nonempty_lines (w : Nat) (s : Str) (ls : List Str) (h : textWrap w s = some ls) :
    (∀ l ∈ ls, l ≠ []) ∧
    ((∀ c ∈ s, isPySpace c = true → isWrapSpace c = true) → ∀ l ∈ ls, tokensWs l ≠ []) := by
  refine ⟨textWrap_ne_nil h, fun hs => ?_⟩
  obtain ⟨_, _, rfl⟩ := textWrap_eq h
  exact wrapLines_nonblank w _ false [] 0 (by simpa using wrapChunks_ok (wrapMunge s)) (by simp)
    (chunk_noExotic (wrapMunge_noExotic s hs))

/-- COUNTER-EXAMPLE (the whitespace hypothesis of the second clause is needed): U+00A0 is whitespace for `str.split` but
not for TextWrapper; `wrap("  b", 2)` emits the line `" "`, which holds no token. -/
theorem C01_wrap_blank_line_exotic :
    textWrap 2 [Char.ofNat 0xA0, ' ', 'b'] = some [[Char.ofNat 0xA0], ['b']] ∧ tokensWs [Char.ofNat 0xA0] = [] := by
  decide +kernel

/-- a value longer than the width gets a line of its own and is not cut (repair "wrapped data lines cut a value longer than
data_width in two"); before the repair TextWrapper broke it (`12345.5` at width 3 → `123`, `45.`, `5`), which the model of the
old call did not follow (`textWrapOld … = none`) and which the reader took for three values -/
theorem C01_wrap_long_value_own_line :
    textWrap 3 "12345.5 1".toList = some ["12345.5".toList, "1".toList] ∧
    textWrap 3 " 1 12345.5 2 3".toList = some [" 1".toList, "12345.5".toList, "2 3".toList] ∧
    textWrapOld 3 "12345.5 1".toList = none := by decide +kernel

/-- **A NaN cell is written as the NULL text** (whatever the format), and under `CfgOK` it tokenises to `[NULL]` -/
theorem C01_nan_marker (null : Str) (f : Fmt) (l : Int) (sp : Str) :
    cellValue null f .nan = null ∧ cellToken null f .nan = null ∧
    formatCell null f l sp .nan = sp ++ (if l == -1 then null else rjust l.toNat null) ∧
    ((∀ c ∈ sp, isPySpace c = true) → IsTok null → tokensWs (formatCell null f l sp .nan) = [null]) :=
  ⟨rfl, rfl, rfl, fun hsp hn => (C01_cell_token null f l sp .nan hsp hn).2⟩

/-- a finite cell is never written as the NULL text by the NaN branch: its text is `fmt % x` -/
theorem C01_finite_cell (null : Str) (f : Fmt) (neg : Bool) (m : Nat) (e : Int) :
    cellValue null f (.finite neg m e) = fmtApply f (.finite neg m e) := rfl

/-- **Re-printing the printed decimal reproduces the digits**: the exact decimal value of a printed token, formatted again with
`%.Nf`, gives the same token (no accumulating loss). -/
theorem C01_fmt_idem (N : Nat) (neg : Bool) (m : Nat) (e : Int) :
    ∃ a, decOfTokS (fmtFixed N (.finite neg m e)) = some (neg, a, N) ∧
      fmtFixedDec N neg a N = fmtFixed N (.finite neg m e) := by
  refine ⟨fixedUnits N m e, decOfTokS_fmtFixed N neg m e, ?_⟩
  unfold fmtFixedDec fmtFixed
  rw [divRoundHalfEven_exact _ _ (Nat.pow_pos (by decide))]

/-- **Stability**: ANY binary64 value `y = sgn · m' · 2^e'` lying strictly within half a unit of the last digit of the decimal
`q / 10^N` prints as that decimal — in particular the double nearest to a printed token re-prints to the same token. -/
theorem C01_fmt_stable (N : Nat) (neg : Bool) (m' : Nat) (e' : Int) (q : Nat)
    (h : 2 * ((q : Int) * 2 ^ (-e').toNat - m' * 2 ^ e'.toNat * 10 ^ N).natAbs < 2 ^ (-e').toNat) :
    fmtFixed N (.finite neg m' e') = (if neg then ['-'] else []) ++ fixedDigits N q := by
  show (if neg then ['-'] else []) ++ fixedDigits N (fixedUnits N m' e') = _
  unfold fixedUnits
  rw [divRoundHalfEven_unique _ _ q (Nat.pow_pos (by decide)) (by push_cast; exact h)]

/-- **The whole data section**: when `dataLines` emits `header :: body` under `CfgOK`, the whitespace tokens of the body lines,
in order, are exactly the cell tokens of the rows in row-major order (so `rows × columns` tokens, each row contiguous);
when wrapping, a body line is longer than `data_width` only if it is one unbroken value, and none is empty. -/
theorem C01_lines_tokens (cfg : DataCfg) (null : Str) (mn : List Str) (rows : List (List F64)) (c : RowCfg)
    (hc : cfg.rowCfg = some c) (hok : CfgOK c null) (ls : List Str) (h : dataLines cfg null mn rows = some ls) :
    ∃ header body, ls = header :: body ∧
      body.flatMap tokensWs = rows.flatMap (rowTokens c null) ∧
      (cfg.wrap = true → ∀ l ∈ body, (l.length ≤ cfg.dataWidth ∨ ' ' ∉ l) ∧ l ≠ []) := by
  unfold dataLines at h
  rw [hc] at h
  simp only at h
  split at h
  · rename_i hd b hh hb
    injection h with h; subst h
    refine ⟨hd, b, rfl, dwBodyLines_tokens hok _ _ rows b hb, ?_⟩
    intro hw
    rw [hw] at hb
    exact dwBodyLines_length _ rows b hb
  · cases h

/-! ### non-vacuity: the model computes the expected texts -/

example : fmtFixed 5 F64.pi = "3.14159".toList := by decide +kernel
example : fmtFixed 0 (.finite false 1 (-1)) = "0".toList ∧ fmtFixed 0 (.finite false 3 (-1)) = "2".toList ∧
    fmtFixed 0 (.finite false 5 (-1)) = "2".toList ∧ fmtFixed 1 (.finite true 1 (-2)) = "-0.2".toList ∧
    fmtFixed 5 (.finite true 0 0) = "-0.00000".toList := by decide +kernel
example : parseFmt "%10.3f".toList = some ⟨some 10, 3⟩ ∧ parseFmt "%.5f".toList = some ⟨none, 5⟩ ∧
    parseFmt "%.3e".toList = none ∧ parseFmt "%010.3f".toList = none := by decide +kernel
example : lenNumericFieldDefault ⟨none, 5⟩ = 10 ∧ lenNumericFieldDefault ⟨none, 12⟩ = 15 := by decide +kernel
example : CfgOK ⟨⟨none, 5⟩, [], 10, [' '], [' ']⟩ nullTxt :=
  ⟨by decide +kernel, by decide +kernel, by decide +kernel, ⟨by decide +kernel, by decide +kernel⟩⟩
example : dataRow ⟨⟨none, 1⟩, [], 5, [' '], [' ']⟩ nullTxt [one, .nan, two]
    = "   1.0 -999.25   2.0".toList := by decide +kernel
example : textWrap 8 "  1.0  2.5\t3.25".toList = some ["  1.0".toList, "2.5".toList, "3.25".toList] := by decide +kernel
theorem C01_example_lines : dataLines ⟨true, "%.1f".toList, [], none, [' '], [' '], 12, 20, "~A".toList, false⟩ nullTxt
      ["DEPT".toList, "A".toList] [[one, .nan], [two, one]]
    = some ["~A -----------------".toList, "        1.0".toList, "-999.25".toList, "        2.0".toList, "1.0".toList] := by
  decide +kernel

example : dataLines ⟨true, "%.1f".toList, [], none, [' '], [' '], 12, 20, "~A".toList, false⟩ nullTxt
      ["DEPT".toList, "A".toList] [[one, .nan], [two, one]]
    = some ["~A -----------------".toList, "        1.0".toList, "-999.25".toList, "        2.0".toList, "1.0".toList] :=
  C01_example_lines

/-! ### write -> read: the reader model (`LasioModel/Data.lean`, namespace `Dt`) inverts the writer model

Bridge lemmas in `Lemmas/RoundTripData.lean` (namespace `Rt`).  `Rt.tokenRows c null rows` is the r × n matrix of written
tokens (`C01_token_matrix`); `Rt.Written cfg null mn rows c n hdr body` bundles the hypotheses of the round trip
(`C01_written` builds it from them); `eol` is any whitespace line end (`""`, `"\n"`, `"\r\n"`) appended to the written lines. -/

/-- **The two models tokenise alike and the read substitutions are silent on written text.**
1. `str.split()` is modelled twice (`Dt.pySplit` in the genfromtxt specification, `tokensWs` here): equal on every string.
2. The reader's whitespace splitter (`sow_regex.findall`, groups joined) is `str.split()` on every line without `"` and `'`.
3. A printed finite sample is in the plain decimal grammar, is a quiet token, and every subset of the read substitutions is
   the identity on it.
4. On ANY line whose `str.split()` tokens are quiet tokens (tokens separated by at least one whitespace character, which is
   what the non-empty spacer of `CfgOK` gives, `C01_row_tokens`): every subset of the read substitutions leaves the WHOLE line
   unchanged — the comma pattern needs a `,`, the run-on-dot pattern two dots in one token, and the run-on-hyphen pattern
   `(\d)-(\d)` a digit immediately followed by `-`, which does not occur: a `-` only stands first in a token and the character
   before a token is whitespace — and the normal engine's items, the raw splitter and genfromtxt's tokens are the
   `str.split()` tokens.  Since this holds with and without the hyphen substitution, the sniffer's hyphen recommendation
   (which only removes that substitution) is harmless. -/
theorem C01_tokens_bridge :
    (∀ l : Str, Dt.pySplit l = tokensWs l) ∧
    (∀ l : Str, (∀ x ∈ l, x ≠ '"' ∧ x ≠ '\'') → Dt.splitWs l = tokensWs l) ∧
    (∀ N neg m e, Dt.isPlainDecimal (fmtFixed N (.finite neg m e)) = true ∧ Dt.QuietTok (fmtFixed N (.finite neg m e)) ∧
      ∀ sb, Dt.applySubs sb (fmtFixed N (.finite neg m e)) = fmtFixed N (.finite neg m e)) ∧
    (∀ l : Str, (∀ t ∈ tokensWs l, Dt.QuietTok t) → ∀ sb,
      Dt.applySubs sb l = l ∧ Dt.splitWs l = tokensWs l ∧ Dt.lineTokens sb .space l = tokensWs l ∧
      Dt.npTokens l = tokensWs l) :=
  ⟨Rt.pySplit_eq_tokensWs, Rt.splitWs_eq_tokensWs_noquote,
   fun N neg m e => ⟨Rt.fmtFixed_isPlainDecimal N neg m e, Rt.quiet_fmtFixed_finite N neg m e,
     fun sb => Dt.applySubs_core sb (Dt.Core.one (Rt.quiet_fmtFixed_finite N neg m e))⟩,
   fun l hq sb => ⟨Rt.applySubs_line sb l hq, Rt.splitWs_eq_tokensWs l hq, Rt.lineTokens_eq_tokensWs sb l hq,
     Rt.npTokens_eq_tokensWs l hq⟩⟩

/-- every cell token (NULL text, `%.Nf` of a finite value, `inf`, `-inf`) is quiet when the NULL text is; a NULL text in the
plain decimal grammar (`-999.25`, `-9999`, …) is -/
theorem C01_cell_token_quiet (null : Str) (f : Fmt) (x : F64) :
    (Dt.isPlainDecimal null = true → Dt.QuietTok null) ∧ (Dt.QuietTok null → Dt.QuietTok (cellToken null f x)) :=
  ⟨fun h => Dt.quietTok_of_simple null (Dt.simplePlain_of_grammar null h), fun h => Rt.quiet_cellToken null h f x⟩

/-- the matrix of written tokens: entry (i, j) is the NULL text when cell (i, j) is NaN, else `'%.Nf' % cell` with the
precision of column j -/
theorem C01_token_matrix (c : RowCfg) (null : Str) (rows : List (List F64)) :
    Rt.tokenRows c null rows = rows.map (fun row => row.mapIdx (fun j x => cellToken null (c.colFmt j) x)) ∧
    ∀ f x, cellToken null f x = if x.isNaN then null else fmtFixed f.prec x := by
  refine ⟨?_, fun _ _ => rfl⟩
  unfold Rt.tokenRows
  apply List.map_congr_left
  intro r _
  exact Rt.rowTokens_eq_mapIdx c null r

/-- the hypotheses of the round trip: a supported configuration (`CfgOK`), a quiet NULL text, `dataLines` succeeded with
`hdr :: body`, the cells form a non-empty r × n matrix (n ≥ 1) -/
theorem C01_written (cfg : DataCfg) (null : Str) (mn : List Str) (rows : List (List F64)) (c : RowCfg) (n : Nat)
    (hdr : Str) (body : List Str) (hc : cfg.rowCfg = some c) (hok : CfgOK c null) (hq : Dt.QuietTok null)
    (h : dataLines cfg null mn rows = some (hdr :: body)) (hr : rows ≠ []) (hn : 0 < n) (hrect : ∀ r ∈ rows, r.length = n) :
    Rt.Written cfg null mn rows c n hdr body := ⟨hc, hok, hq, h, hr, hn, hrect⟩

/-- every written body line satisfies the condition of `C01_tokens_bridge` (4) -/
theorem C01_written_lines_quiet {cfg : DataCfg} {null : Str} {mn : List Str} {rows : List (List F64)} {c : RowCfg} {n : Nat}
    {hdr : Str} {body : List Str} (w : Rt.Written cfg null mn rows c n hdr body) :
    ∀ l ∈ body, ∀ t ∈ tokensWs l, Dt.QuietTok t :=
  Rt.body_tokens_quiet w.ok w.nullQuiet _ _ rows body w.body_eq

/-- **write -> read, normal engine** (any F64 cells, any supported formats, wrapped or not, any active substitutions):
reading the written body with `n_columns = n` returns exactly the matrix of written tokens, column by column (a column is
`floats` when all its tokens convert, `text` otherwise). -/
theorem C01_roundtrip_normal (cfg : DataCfg) (null : Str) (mn : List Str) (rows : List (List F64)) (c : RowCfg) (n : Nat)
    (hdr : Str) (body : List Str) (hc : cfg.rowCfg = some c) (hok : CfgOK c null) (hq : Dt.QuietTok null)
    (h : dataLines cfg null mn rows = some (hdr :: body)) (hr : rows ≠ []) (hn : 0 < n) (hrect : ∀ r ∈ rows, r.length = n)
    (ft : Dt.FloatTable) (sb : Dt.Subs) (eol : Str) (heol : Dt.AllWs eol) :
    Dt.normalEngineLines ft sb .space n (body.map (· ++ eol)) =
      .ok (Dt.matrixColumns ft n (rows.map (fun row => row.mapIdx (fun j x => cellToken null (c.colFmt j) x)))) := by
  rw [← (C01_token_matrix c null rows).1]
  exact Rt.roundtrip_normal (C01_written cfg null mn rows c n hdr body hc hok hq h hr hn hrect) ft sb eol heol

/-- the flat item list of the normal engine is the row-major flattening of the token matrix (wrapped or not) -/
theorem C01_roundtrip_items {cfg : DataCfg} {null : Str} {mn : List Str} {rows : List (List F64)} {c : RowCfg} {n : Nat}
    {hdr : Str} {body : List Str} (w : Rt.Written cfg null mn rows c n hdr body) (sb : Dt.Subs) (eol : Str)
    (heol : Dt.AllWs eol) :
    Dt.normalTokens sb .space (body.map (· ++ eol)) = (Rt.tokenRows c null rows).flatten :=
  Rt.normalTokens_written w sb eol heol

/-- **unwrapped output**: one data line of `n` quiet tokens per row (a plain data section in the sense of C02), and the
sniffer (`inspect_data_section`) counts `n` columns whichever substitutions are active -/
theorem C01_roundtrip_sniff {cfg : DataCfg} {null : Str} {mn : List Str} {rows : List (List F64)} {c : RowCfg} {n : Nat}
    {hdr : Str} {body : List Str} (w : Rt.Written cfg null mn rows c n hdr body) (hwrap : cfg.wrap = false)
    (sb : Dt.Subs) (eol : Str) (heol : Dt.AllWs eol) (pre : List Str) (title : Str) (after : List Str) :
    Dt.Body n (body.map (· ++ eol)) (Rt.tokenRows c null rows) ∧ (body.map (· ++ eol)).length = rows.length ∧
    (Dt.sniffColumns sb .space (pre ++ title :: (body.map (· ++ eol) ++ after)) pre.length
      (pre.length + (body.map (· ++ eol)).length)).count = some n :=
  ⟨(w.body_plain hwrap eol heol).1, (w.body_plain hwrap eol heol).2,
    by rw [Tf.sniffColumns_body, Tf.bodyLines_at]
       exact Dt.sniffB_lineRows sb (w.body_plain hwrap eol heol).1.lineRows (Rt.tokenRows_ne c null rows w.rne)⟩

/-- **write -> read, genfromtxt specification** (unwrapped output; every written token a number for `float()`; after the
section nothing, or a line whose first token is not a number): the same columns as the normal engine -/
theorem C01_roundtrip_numpy {cfg : DataCfg} {null : Str} {mn : List Str} {rows : List (List F64)} {c : RowCfg} {n : Nat}
    {hdr : Str} {body : List Str} (w : Rt.Written cfg null mn rows c n hdr body) (hwrap : cfg.wrap = false)
    (ft : Dt.FloatTable) (hnum : Dt.Numeric ft (Rt.tokenRows c null rows)) (eol : Str) (heol : Dt.AllWs eol)
    (after : List Str)
    (hnext : after = [] ∨ ∃ ln rest t ts, after = ln :: rest ∧ Dt.npTokens ln = t :: ts ∧ Dt.toFloat ft t = none) :
    Dt.numpyEngineLines ft (body.map (· ++ eol)).length (body.map (· ++ eol) ++ after) =
      some (Dt.matrixColumns ft n (Rt.tokenRows c null rows)) := by
  obtain ⟨hb, hl⟩ := w.body_plain hwrap eol heol
  exact Dt.numpy_plain_ok ⟨hb, w.npos, Rt.tokenRows_ne c null rows w.rne, hnext⟩ hnum
    (Or.inl (by rw [hl]; simp [Rt.tokenRows]))

/-- **through `readData`, WRAP = YES declared** (file written with any `wrap`), `n` declared curves: the normal engine runs
with `n_columns = n` and the curves are those of the written matrix (`Dt.plainResult` = `assignCurves` of `applyNull` of it) -/
theorem C01_roundtrip_read_wrapYes {cfg : DataCfg} {null : Str} {mn : List Str} {rows : List (List F64)} {c : RowCfg} {n : Nat}
    {hdr : Str} {body : List Str} (w : Rt.Written cfg null mn rows c n hdr body) (e : Dt.Engine) (p : Dt.NullPolicy)
    (st : Dt.Steer) (ft : Dt.FloatTable) (eol : Str) (heol : Dt.AllWs eol) (pre : List Str) (title : Str) (after : List Str)
    (hdlm : st.delimiter = .space) (hwd : st.wrapDeclared = true) (hwy : st.wrapped = Dt.yesTxt) :
    Dt.readData ⟨e, p⟩ (pre ++ title :: (body.map (· ++ eol) ++ after)) pre.length
        (pre.length + (body.map (· ++ eol)).length) st n ft =
      .ok (.normal, Dt.assignCurves n (Dt.applyNull (p == .strict) st.nullValue
        (Dt.matrixColumns ft n (Rt.tokenRows c null rows)))) :=
  Rt.readData_wrapYes w e p st ft eol heol pre title after hdlm hwd hwy

/-- **through `readData`, file written with `wrap=False`, WRAP ≠ YES**, any engine, any null policy, any number `d` of declared
curves: the sniffer finds `n`, and the curves are those of the written matrix (fast engine and fallback agree) -/
theorem C01_roundtrip_read_unwrapped {cfg : DataCfg} {null : Str} {mn : List Str} {rows : List (List F64)} {c : RowCfg}
    {n : Nat} {hdr : Str} {body : List Str} (w : Rt.Written cfg null mn rows c n hdr body) (hwrap : cfg.wrap = false)
    (e : Dt.Engine) (p : Dt.NullPolicy) (st : Dt.Steer) (d : Nat) (ft : Dt.FloatTable) (eol : Str) (heol : Dt.AllWs eol)
    (pre : List Str) (title : Str) (after : List Str)
    (hdlm : st.delimiter = .space) (hw : st.wrapped ≠ Dt.yesTxt)
    (hnext : after = [] ∨ ∃ ln rest t ts, after = ln :: rest ∧ Dt.npTokens ln = t :: ts ∧ Dt.toFloat ft t = none) :
    (Dt.readData ⟨e, p⟩ (pre ++ title :: (body.map (· ++ eol) ++ after)) pre.length
        (pre.length + (body.map (· ++ eol)).length) st d ft).map Prod.snd =
      .ok (Dt.assignCurves d (Dt.applyNull (p == .strict) st.nullValue
        (Dt.matrixColumns ft n (Rt.tokenRows c null rows)))) :=
  Rt.readData_unwrapped w hwrap e p st d ft eol heol pre title after hdlm hw hnext

/-- COUNTER-EXAMPLE (the NULL text must be a quiet token; `CfgOK` only asks for a whitespace-free one): with `NULL = -999,25`
the written line `1.0 -999,25` tokenises to the NULL text, but the reader's comma-decimal substitution turns it into `-999.25` -/
theorem C01_roundtrip_needs_quiet_null :
    tokensWs "1.0 -999,25".toList = ["1.0".toList, "-999,25".toList] ∧
    Dt.lineTokens Dt.Subs.default .space "1.0 -999,25".toList = ["1.0".toList, "-999.25".toList] := by decide +kernel

/-- COUNTER-EXAMPLE (`rows ≠ []` is needed): without data rows the body is empty and the normal engine returns no column at
all, not `n` empty columns -/
theorem C01_roundtrip_needs_rows (ft : Dt.FloatTable) (sb : Dt.Subs) :
    Dt.normalEngineLines ft sb .space 1 [] = .ok [] ∧ Dt.matrixColumns ft 1 [] = [.floats []] := ⟨rfl, rfl⟩

/-- non-vacuity of the round trip: the wrapped example below satisfies `Rt.Written`, and reading its body back gives the
two columns of tokens -/
theorem C01_roundtrip_example :
    Rt.Written ⟨true, "%.1f".toList, [], none, [' '], [' '], 12, 20, "~A".toList, false⟩ nullTxt
      ["DEPT".toList, "A".toList] [[one, .nan], [two, one]] ⟨⟨none, 1⟩, [], 10, [' '], [' ']⟩ 2
      "~A -----------------".toList ["        1.0".toList, "-999.25".toList, "        2.0".toList, "1.0".toList] ∧
    Dt.normalEngineLines [] Dt.Subs.default .space 2
        (["        1.0".toList, "-999.25".toList, "        2.0".toList, "1.0".toList].map (· ++ ['\n'])) =
      .ok [.text ["1.0".toList, "2.0".toList], .text ["-999.25".toList, "1.0".toList]] := by
  refine ⟨⟨by rfl, ⟨by decide +kernel, by decide +kernel, by decide +kernel, ⟨by decide +kernel, by decide +kernel⟩⟩,
    Rt.quietTok_of_check _ (by decide +kernel), C01_example_lines, by decide, by decide, by decide +kernel⟩, by decide +kernel⟩

#print axioms C01_value
#print axioms C01_plain_token
#print axioms C01_row_tokens
#print axioms C01_wrap_preserves_tokens
#print axioms C01_wrap_line_length
#print axioms C01_wrap_line_length_fits
#print axioms C01_wrap_long_value_own_line
#print axioms C01_wrap_nonempty_lines
#print axioms C01_fmt_stable
#print axioms C01_lines_tokens
#print axioms C01_tokens_bridge
#print axioms C01_cell_token_quiet
#print axioms C01_token_matrix
#print axioms C01_written
#print axioms C01_written_lines_quiet
#print axioms C01_roundtrip_normal
#print axioms C01_roundtrip_items
#print axioms C01_roundtrip_sniff
#print axioms C01_roundtrip_numpy
#print axioms C01_roundtrip_read_wrapYes
#print axioms C01_roundtrip_read_unwrapped
#print axioms C01_roundtrip_needs_quiet_null
#print axioms C01_roundtrip_needs_rows
#print axioms C01_roundtrip_example

end Lasio.Dw
