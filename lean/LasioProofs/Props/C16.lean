import LasioModel.WriteObj
import LasioProofs.Lemmas.WriteObjLemmas
/-
C16 — `write()` is deterministic, leaves the data alone and states STRT/STOP/STEP truthfully.

Model: `Lasio.Wo.writeObj cfg stepDiff o = .ok (lines, o')` — one call of `las.write(f, **cfg)` (STRT/STOP/STEP left to
lasio) on the object `o`: the lines written and the object afterwards.  `stepDiff` is Python's `index[1] - index[0]`.

* `C16_closed_form`    the object afterwards, in closed form
* `C16_frame`          field-by-field frame condition (`WriteFrame`)
* `C16_frame_version`  with a unique WRAP item only that item of ~Version changes
* `C16_version_independent`, `C16_vers_untouched`   `version=` never reaches the object; the VERS item stays
* `C16_idempotent`     a second write with the same options: same lines, same object
* `C16_refresh_iff`    exactly when STRT/STOP/STEP are recomputed
* `C16_truth`, `C16_units`, `C16_no_refresh`   what the three items hold afterwards
-/
namespace Lasio.Wo
open Lasio

/-! ## closed form of the object afterwards -/

/-- the ~Version section after the call -/
def versionAfter (cfg : WriteCfg) (o : WObj) : List OItem :=
  match cfg.wrap with
  | none => o.version
  | some w => oSetItem o.versionTr sWRAP (wrapOItem w) o.version

/-- `setWrap` succeeds with `versionAfter`; without `wrap=` only when `las.version["WRAP"]` exists -/
theorem setWrap_ok {cfg : WriteCfg} {o : WObj} {vsec : List OItem} :
    setWrap cfg o = .ok vsec ↔
      versionAfter cfg o = vsec ∧ (cfg.wrap = none → (keyIdx o.versionTr sWRAP o.version).isSome = true) := by
  unfold setWrap versionAfter
  cases cfg.wrap with
  | none => cases keyIdx o.versionTr sWRAP o.version <;> simp
  | some w => simp

/-- **Closed form.**  A successful `write` leaves: ~Version with the WRAP item (re)placed when `wrap=` was given; ~Well
transformed position by position by `wellItem` (`wellT`: the three values when the refresh was decided, the three units,
then `standardize_value` on every item); the first curve's unit; standardised ~Parameter values; everything else as it
was.  `d` is the refresh decision, `a b c` the positions of STRT / STOP / STEP, `u` the unit spread. -/
theorem C16_closed_form {cfg : WriteCfg} {sd : Option F64} {o : WObj} {t : List Str} {o' : WObj}
    (h : writeObj cfg sd o = .ok (t, o')) :
    ∃ d a b c s e p u, refreshDecision o = .ok d ∧
      keyIdx o.wellTr sSTRT o.well = some a ∧ keyIdx o.wellTr sSTOP o.well = some b ∧ keyIdx o.wellTr sSTEP o.well = some c ∧
      (d = true → sssValues sd o.index = some (s, e, p)) ∧ chosenUnit o = some u ∧
      o' = { o with version := versionAfter cfg o, well := wellT d s e p u a b c o.well,
                    curves := setFirstUnit u o.curves, params := o.params.map stdItem } := by
  obtain ⟨_, vsec, v, o2, hl, null, dl, _, _, h3, _, h5, _, _, _⟩ := writeObj_steps h
  obtain ⟨d, a, b, c, s, e, p, u, hd, ha, hb, hc, hv, hu, rfl⟩ := prepare_shape h3
  refine ⟨d, a, b, c, s, e, p, u, hd, ha, hb, hc, hv, hu, ?_⟩
  rw [h5]
  rfl

/-! ## the frame -/

/-- the item is one of STRT / STOP / STEP under the section's own comparison -/
def isSSS (tr : Bool) (x : OItem) : Bool :=
  cmpStr tr x.session sSTRT || cmpStr tr x.session sSTOP || cmpStr tr x.session sSTEP

/-- everything `write` may NOT touch, field by field -/
structure WriteFrame (cfg : WriteCfg) (o o' : WObj) : Prop where
  data : o'.data = o.data
  indexInitial : o'.indexInitial = o.indexInitial
  other : o'.other = o.other
  versionTr : o'.versionTr = o.versionTr
  wellTr : o'.wellTr = o.wellTr
  /-- without `wrap=` ~Version is untouched -/
  version_nowrap : cfg.wrap = none → o'.version = o.version
  /-- with `wrap=` ~Version is the result of `las.version["WRAP"] = HeaderItem(...)` and nothing else -/
  version_wrap : ∀ w, cfg.wrap = some w → o'.version = oSetItem o.versionTr sWRAP (wrapOItem w) o.version
  /-- curve order, mnemonics, values, descriptions: only the first curve's unit may change -/
  curves : ∃ u, o'.curves = setFirstUnit u o.curves
  /-- ~Parameter: only the normalisation of the values -/
  params : o'.params = o.params.map stdItem
  /-- ~Well: same items in the same order with the same original and session mnemonics and descriptions -/
  well_orig : o'.well.map (·.orig) = o.well.map (·.orig)
  well_session : o'.well.map (·.session) = o.well.map (·.session)
  well_descr : o'.well.map (·.descr) = o.well.map (·.descr)
  /-- ~Well items other than STRT / STOP / STEP: only the normalisation of the value -/
  well_other : ∀ (j : Nat) (x : OItem), o.well[j]? = some x → isSSS o.wellTr x = false → o'.well[j]? = some (stdItem x)

theorem setFirstUnit_fields (u : Str) (l : List OItem) :
    (setFirstUnit u l).map (·.orig) = l.map (·.orig) ∧ (setFirstUnit u l).map (·.session) = l.map (·.session) ∧
    (setFirstUnit u l).map (·.value) = l.map (·.value) ∧ (setFirstUnit u l).map (·.descr) = l.map (·.descr) ∧
    (setFirstUnit u l).tail = l.tail ∧ (setFirstUnit u l).length = l.length := by
  cases l <;> simp [setFirstUnit, setUnit]

theorem wellT_map_field {β} (f : OItem → β) (hf : ∀ d s e p u a b c j x, f (wellItem d s e p u a b c j x) = f x)
    (d : Bool) (s e p : PVal) (u : Str) (a b c : Nat) (l : List OItem) :
    (wellT d s e p u a b c l).map f = l.map f := by
  apply List.ext_getElem?
  intro j
  unfold wellT
  rw [List.getElem?_map, wellT_getElem?, List.getElem?_map]
  cases l[j]? with
  | none => rfl
  | some x => simp [hf]

/-- **Frame.**  After a successful `write` the object equals the object before except at: STRT/STOP/STEP value and unit,
`curves[0].unit`, the WRAP item when `wrap=` is given, and the standardised ~Well / ~Parameter values.  In particular the
curve data, `index_initial`, the curve order, every original and session mnemonic of ~Well, ~Curves, ~Parameter and every
description are untouched. -/
theorem C16_frame {cfg : WriteCfg} {sd : Option F64} {o : WObj} {t : List Str} {o' : WObj}
    (h : writeObj cfg sd o = .ok (t, o')) : WriteFrame cfg o o' := by
  obtain ⟨d, a, b, c, s, e, p, u, hd, ha, hb, hc, hv, hu, rfl⟩ := C16_closed_form h
  refine ⟨rfl, rfl, rfl, rfl, rfl, ?_, ?_, ⟨u, rfl⟩, rfl, ?_, ?_, ?_, ?_⟩
  · intro hw; simp [versionAfter, hw]
  · intro w hw; simp [versionAfter, hw]
  · exact wellT_map_field (·.orig) (fun d s e p u a b c j x => (wellItem_session d s e p u a b c j x).2.1) ..
  · exact wellT_sessions ..
  · exact wellT_map_field (·.descr) (fun d s e p u a b c j x => (wellItem_session d s e p u a b c j x).2.2) ..
  · intro j x hx hs
    simp only [wellT]
    rw [wellT_getElem?, hx]
    simp only [Option.map_some, Option.some.injEq]
    -- positions a, b, c hold items that ARE STRT / STOP / STEP
    have ne : ∀ {k i}, keyIdx o.wellTr k o.well = some i → cmpStr o.wellTr x.session k = false → i ≠ j := by
      rintro k i hk hxk rfl
      obtain ⟨y, hy, hpy, _⟩ := findFirst_some hk
      rw [hx] at hy; cases hy
      rw [hxk] at hpy; cases hpy
    simp only [isSSS, Bool.or_eq_false_iff] at hs
    have na := ne ha hs.1.1
    have nb := ne hb hs.1.2
    have nc := ne hc hs.2
    simp [wellItem, na, nb, nc]

/-- **With a unique WRAP item, `wrap=` changes that item only**: every other item of ~Version stays at its position with
all its fields, session mnemonic included (no re-suffixing). -/
theorem C16_frame_version {cfg : WriteCfg} {sd : Option F64} {o : WObj} {t : List Str} {o' : WObj}
    (h : writeObj cfg sd o = .ok (t, o')) (hw : WrapOK o.versionTr o.version)
    (j : Nat) (x : OItem) (hx : o.version[j]? = some x) (hn : cmpStr o.versionTr sWRAP x.session = false) :
    o'.version[j]? = some x := by
  have fr := C16_frame h
  cases hcw : cfg.wrap with
  | none => rw [fr.version_nowrap hcw]; exact hx
  | some w =>
    rw [fr.version_wrap w hcw, oSetItem_wrap w hw]
    cases hf : findFirst (fun x => cmpStr o.versionTr sWRAP x.session) o.version with
    | none =>
      simp only []
      rw [List.getElem?_append_left (List.getElem?_eq_some_iff.mp hx).1]
      exact hx
    | some i =>
      simp only []
      obtain ⟨y, hy, hpy, _⟩ := findFirst_some hf
      have : i ≠ j := by
        rintro rfl
        rw [hx] at hy; cases hy
        rw [hn] at hpy; cases hpy
      rw [List.getElem?_set]
      simp [this, hx]

/-- the re-suffixing the hypothesis excludes: two WRAP items, `wrap=True`: the first keeps growing a list of WRAP items
(`['WRAP:1', 'WRAP:2']` -> `['WRAP:1', 'WRAP:2', 'WRAP:3']` -> ...) -/
theorem C16_counterexample_dup_wrap :
    let l : List OItem := [⟨sWRAP, "WRAP:1".toList, [], .str "NO".toList, []⟩, ⟨sWRAP, "WRAP:2".toList, [], .str "NO".toList, []⟩]
    (oSetItem false sWRAP (wrapOItem true) l).length = 3 ∧
    (oSetItem false sWRAP (wrapOItem true) (oSetItem false sWRAP (wrapOItem true) l)).length = 4 := by
  decide +kernel

/-! ## `version=` -/

theorem wellT_false (s e p s' e' p' : PVal) (u : Str) (a b c : Nat) (l : List OItem) :
    wellT false s e p u a b c l = wellT false s' e' p' u a b c l := by
  simp [wellT, wellVals]

/-- **`version=` never reaches the object**: two successful writes of the same object that differ in every option except
`wrap` leave the same object behind. -/
theorem C16_version_independent {c1 c2 : WriteCfg} {sd : Option F64} {o : WObj} {t1 t2 : List Str} {o1 o2 : WObj}
    (hw : c1.wrap = c2.wrap) (h1 : writeObj c1 sd o = .ok (t1, o1)) (h2 : writeObj c2 sd o = .ok (t2, o2)) : o1 = o2 := by
  obtain ⟨d, a, b, c, s, e, p, u, hd, ha, hb, hc, hv, hu, rfl⟩ := C16_closed_form h1
  obtain ⟨d', a', b', c', s', e', p', u', hd', ha', hb', hc', hv', hu', rfl⟩ := C16_closed_form h2
  rw [hd] at hd'; cases hd'
  rw [ha] at ha'; cases ha'
  rw [hb] at hb'; cases hb'
  rw [hc] at hc'; cases hc'
  rw [hu] at hu'; cases hu'
  have hver : versionAfter c1 o = versionAfter c2 o := by simp [versionAfter, hw]
  rw [hver]
  cases d with
  | false => rw [wellT_false s e p s' e' p']
  | true =>
    have := hv rfl
    rw [hv' rfl] at this
    cases this
    rfl

theorem cmpStr_symm (tr : Bool) (a b : Str) : cmpStr tr a b = cmpStr tr b a := cmpStr_comm tr a b

theorem wrap_not_vers (tr : Bool) (s : Str) (h : cmpStr tr sWRAP s = true) : cmpStr tr s sVERS = false :=
  wrap_ne_vers tr s h

theorem find_set_irrelevant {α} (p : α → Bool) (l : List α) (i : Nat) (a x : α) (hx : l[i]? = some x) (hpx : p x = false)
    (hpa : p a = false) : (l.set i a).find? p = l.find? p := by
  induction l generalizing i with
  | nil => simp at hx
  | cons b l ih =>
    cases i with
    | zero =>
      simp at hx
      subst hx
      simp [hpx, hpa]
    | succ i =>
      simp at hx
      simp only [List.set_cons_succ, List.find?_cons]
      rw [ih i hx]

/-- **The in-memory VERS is untouched**: the item `las.version["VERS"]` is the same item with the same value before and
after the call, whatever `version=` is (for `wrap=` under the hypothesis that WRAP is unique and plainly named). -/
theorem C16_vers_untouched {cfg : WriteCfg} {sd : Option F64} {o : WObj} {t : List Str} {o' : WObj}
    (h : writeObj cfg sd o = .ok (t, o')) (hw : cfg.wrap = none ∨ WrapOK o.versionTr o.version) :
    lookup o'.versionTr sVERS o'.version = lookup o.versionTr sVERS o.version := by
  have fr := C16_frame h
  rw [fr.versionTr]
  cases hcw : cfg.wrap with
  | none => rw [fr.version_nowrap hcw]
  | some w =>
    rcases hw with hw | hw
    · rw [hcw] at hw; cases hw
    · rw [fr.version_wrap w hcw, oSetItem_wrap w hw]
      obtain ⟨_, hs, _⟩ := wrapOItem_fields w
      have hpa : cmpStr o.versionTr (wrapOItem w).session sVERS = false := by
        rw [hs]; exact wrap_not_vers _ _ (cmpStr_refl _ _)
      unfold lookup
      cases hf : findFirst (fun x => cmpStr o.versionTr sWRAP x.session) o.version with
      | none =>
        simp only []
        rw [List.find?_append]
        simp [hpa]
      | some i =>
        simp only []
        obtain ⟨y, hy, hpy, _⟩ := findFirst_some hf
        exact find_set_irrelevant _ _ i _ y hy (wrap_not_vers _ _ hpy) hpa

/-! ## when the refresh happens -/

/-- a successful `refreshDecision`: no `index_initial`, or the four things it looks at and the test on them -/
theorem refreshDecision_ok {o : WObj} {d : Bool} (h : refreshDecision o = .ok d) :
    (o.indexInitial = none ∧ d = true) ∨
    ∃ ii idx last stop, o.indexInitial = some ii ∧ o.index = some idx ∧ ii.getLast? = some last ∧
      lookup o.wellTr sSTOP o.well = some stop ∧ d = (!arrayEqual ii idx || pyNe last stop.value) := by
  unfold refreshDecision at h
  split at h
  · exact Or.inl ⟨‹_›, (Except.ok.inj h).symm⟩
  · split at h
    · cases h
    · split at h
      · cases h
      · split at h
        · cases h
        · exact Or.inr ⟨_, _, _, _, ‹_›, ‹_›, ‹_›, ‹_›, (Except.ok.inj h).symm⟩

/-- **Exactly when STRT/STOP/STEP are recomputed**: `index_initial` is absent (the object was not read from a file), or it
differs from the index (`np.array_equal`), or its last element `!=` the STOP value under Python's cross-type comparison
(`pyNe`: numeric against a number, always true against a `str` — e.g. the string a previous refresh stored — or `None`). -/
theorem C16_refresh_iff (o : WObj) (d : Bool) (h : refreshDecision o = .ok d) :
    d = true ↔
      (o.indexInitial = none ∨
       ∃ ii idx last stop, o.indexInitial = some ii ∧ o.index = some idx ∧ ii.getLast? = some last ∧
         lookup o.wellTr sSTOP o.well = some stop ∧ (arrayEqual ii idx = false ∨ pyNe last stop.value = true)) := by
  rcases refreshDecision_ok h with ⟨hii, rfl⟩ | ⟨ii, idx, last, stop, hii, hidx, hl, hs, rfl⟩
  · simp [hii]
  · simp [hii, hidx, hl, hs]

/-! ## idempotence -/

theorem setFirstUnit_idem (u : Str) (l : List OItem) : setFirstUnit u (setFirstUnit u l) = setFirstUnit u l := by
  cases l <;> simp [setFirstUnit, setUnit]

theorem sssValues_stop {sd : Option F64} {x : F64} {xs : List F64} {s e p : PVal}
    (h : sssValues sd (some (x :: xs)) = some (s, e, p)) :
    s = .str (fmt5 x) ∧ e = .str (fmt5 (xs.getLastD x)) := by
  cases xs with
  | nil =>
    simp [sssValues] at h
    exact ⟨h.1.symm, by simpa using h.2.1.symm⟩
  | cons y ys =>
    cases sd with
    | none => simp [sssValues] at h
    | some d =>
      simp only [sssValues, Option.some.injEq, Prod.mk.injEq] at h
      exact ⟨h.1.symm, h.2.1.symm⟩

theorem arrayEqual_nonempty {ii idx : List F64} (h : arrayEqual ii idx = true) (hne : ii ≠ []) : idx ≠ [] := by
  cases ii with
  | nil => exact absurd rfl hne
  | cons a as => cases idx <;> simp_all [arrayEqual]

theorem wellItem_at_b {d : Bool} {s e p : PVal} {u : Str} {a b c : Nat} (x : OItem) (hbc : b ≠ c) :
    (wellItem d s e p u a b c b x).value = stdP (if d then e else x.value) u := by
  have hcb : (c == b) = false := by simp; omega
  unfold wellItem
  cases d <;> by_cases h1 : a = b <;> simp [h1, hcb, stdItem, setUnit, setValue]

theorem wellItem_unit_at {d : Bool} {s e p : PVal} {u : Str} {a b c j : Nat} (x : OItem) (hj : a = j ∨ b = j ∨ c = j) :
    (wellItem d s e p u a b c j x).unit = u := by
  rcases hj with rfl | rfl | rfl <;>
    simp only [wellItem, stdItem, setUnit, setValue, apply_ite OItem.unit, beq_self_eq_true, ite_true, ite_self]

theorem lookup_wellT {tr : Bool} {k : Str} {d : Bool} {s e p : PVal} {u : Str} {a b c i : Nat} {l : List OItem}
    (hk : keyIdx tr k l = some i) :
    ∃ x, l[i]? = some x ∧ lookup tr k l = some x ∧
      lookup tr k (wellT d s e p u a b c l) = some (wellItem d s e p u a b c i x) := by
  obtain ⟨x, hx, _⟩ := findFirst_some hk
  refine ⟨x, hx, ?_, ?_⟩
  · rw [lookup_eq, hk]; simpa using hx
  · rw [lookup_eq, keyIdx_of_sessions (wellT_sessions d s e p u a b c l), hk]
    simp only [Option.bind_some, wellT]
    rw [wellT_getElem?, hx]
    rfl

/-- the decision is the same on the object afterwards -/
theorem refreshDecision_after {sd : Option F64} {o : WObj} {d : Bool} {a b c : Nat} {s e p : PVal} {u : Str}
    (vs : List OItem) (cs ps : List OItem)
    (hd : refreshDecision o = .ok d) (hb : keyIdx o.wellTr sSTOP o.well = some b) (hc : keyIdx o.wellTr sSTEP o.well = some c)
    (hv : d = true → sssValues sd o.index = some (s, e, p)) :
    refreshDecision { o with version := vs, well := wellT d s e p u a b c o.well, curves := cs, params := ps } = .ok d := by
  have hbc : b ≠ c := keyIdx_ne (keys_distinct o.wellTr).2.2 hb hc
  rcases refreshDecision_ok hd with ⟨hii, rfl⟩ | ⟨ii, idx, last, stop, hii, hidx, hl, hstop, hdv⟩
  · unfold refreshDecision
    simp only [hii]
  · obtain ⟨x, hx, hlx, hlT⟩ := lookup_wellT (d := d) (s := s) (e := e) (p := p) (u := u) (a := a) (b := b) (c := c) hb
    obtain rfl : x = stop := Option.some.inj (hlx.symm.trans hstop)
    unfold refreshDecision
    simp only [WObj.index] at hidx ⊢
    simp only [hii, hidx, hl, hlT, Except.ok.injEq]
    rw [wellItem_at_b x hbc]
    cases d with
    | false =>
      simp only [Bool.false_eq_true, ↓reduceIte]
      obtain ⟨h1, h2⟩ := Bool.or_eq_false_iff.mp hdv.symm
      rw [h1]
      cases hxv : x.value with
      | str t => rw [hxv] at h2; simp [pyNe] at h2
      | none => rw [hxv] at h2; simp [pyNe] at h2
      | num y t =>
        rw [stdP_num]
        rw [hxv] at h2
        simpa using h2
    | true =>
      simp only [↓reduceIte]
      cases hae : arrayEqual ii idx with
      | false => simp
      | true =>
        have hne : ii ≠ [] := by
          intro h0; rw [h0] at hl; simp at hl
        have hin := arrayEqual_nonempty hae hne
        cases idx with
        | nil => exact absurd rfl hin
        | cons y ys =>
          have hs := hv rfl
          simp only [WObj.index, hidx] at hs
          obtain ⟨_, he⟩ := sssValues_stop hs
          rw [he]
          unfold fmt5
          rw [stdP_str_ne _ _ (fmtFixed_ne_nil 5 _)]
          simp [pyNe]

/-- the unit spread is the same on the object afterwards -/
theorem chosenUnit_after {o : WObj} {d : Bool} {a b c : Nat} {s e p : PVal} {u : Str} (vs ps : List OItem)
    (ha : keyIdx o.wellTr sSTRT o.well = some a) :
    chosenUnit { o with version := vs, well := wellT d s e p u a b c o.well, curves := setFirstUnit u o.curves,
                        params := ps } = some u := by
  obtain ⟨x, hx, hlx, hlT⟩ := lookup_wellT (d := d) (s := s) (e := e) (p := p) (u := u) (a := a) (b := b) (c := c) ha
  have hunit : (lookup o.wellTr sSTRT (wellT d s e p u a b c o.well)).map (·.unit) = some u := by
    rw [hlT]
    simp [wellItem_unit_at x (Or.inl rfl)]
  unfold chosenUnit
  cases hc : o.curves with
  | nil =>
    simp only [setFirstUnit]
    exact hunit
  | cons c0 cs =>
    simp only [setFirstUnit, setUnit]
    by_cases hue : u.isEmpty = true
    · simp only [hue, Bool.not_true, Bool.false_eq_true, ↓reduceIte]
      exact hunit
    · simp [hue]

/-- **A second write with the same options writes byte-identical text and leaves the object as the first write left it.**
Hypothesis forced by the proof: when `wrap=True/False` is passed, ~Version holds at most one item whose original
mnemonic is WRAP and it is reachable under the plain name WRAP (`WrapOK`; otherwise every call appends one more WRAP item:
`C16_counterexample_dup_wrap`).  STRT / STOP / STEP being present is implied by the success of the first write. -/
theorem C16_idempotent {cfg : WriteCfg} {sd : Option F64} {o : WObj} {t1 : List Str} {o1 : WObj}
    (hwrap : ∀ w, cfg.wrap = some w → WrapOK o.versionTr o.version)
    (h : writeObj cfg sd o = .ok (t1, o1)) : writeObj cfg sd o1 = .ok (t1, o1) := by
  obtain ⟨hs, vsec, v, o2, hl, null, dl, h1, h2, h3, h4, h5, h6, h7, h8⟩ := writeObj_steps h
  obtain ⟨d, a, b, c, s, e, p, u, hd, ha, hb, hc, hv, hu, ho1⟩ := C16_closed_form h
  -- the ~Version section does not move any more
  have hver : versionAfter cfg o1 = o1.version := by
    subst ho1
    unfold versionAfter
    cases hcw : cfg.wrap with
    | none => rfl
    | some w => exact oSetItem_wrap_idem w (hwrap w hcw)
  have hs' : (o1.data.length != o1.curves.length || !sameLengths o1.data) = false := by
    subst ho1
    simpa [(setFirstUnit_fields u o.curves).2.2.2.2.2] using hs
  have h1' : setWrap cfg o1 = .ok vsec := by
    obtain ⟨hvs, hk⟩ := setWrap_ok.mp h1
    refine setWrap_ok.mpr ⟨by rw [hver, ← hvs, ho1], fun hn => ?_⟩
    have := hk hn
    subst ho1
    simpa [versionAfter, hn] using this
  have h2' : resolveVersion cfg o1.versionTr vsec = .ok v := by
    subst ho1; exact h2
  -- the preparation recomputes the same thing
  have hkeys : keyIdx o1.wellTr sSTRT o1.well = some a ∧ keyIdx o1.wellTr sSTOP o1.well = some b ∧
      keyIdx o1.wellTr sSTEP o1.well = some c := by
    subst ho1
    simp only [keyIdx_of_sessions (wellT_sessions d s e p u a b c o.well)]
    exact ⟨ha, hb, hc⟩
  have hd' : refreshDecision o1 = .ok d := by
    subst ho1; exact refreshDecision_after _ _ _ hd hb hc hv
  have hv' : d = true → sssValues sd o1.index = some (s, e, p) := by
    subst ho1; exact hv
  have hu' : chosenUnit o1 = some u := by
    subst ho1; exact chosenUnit_after _ _ ha
  have h3' := prepare_of_shape (sd := sd) hd' hkeys.1 hkeys.2.1 hkeys.2.2 hv' hu'
  -- ... and the object after the second header is the object after the first
  have hafter : afterHeader cfg { o1 with well := wellUnits u a b c (wellVals d s e p a b c o1.well),
                                          curves := setFirstUnit u o1.curves } = o1 := by
    have hv1 := hver
    subst ho1
    simp only [afterHeader]
    simp only [versionAfter] at hv1
    have hwell : (wellUnits u a b c (wellVals d s e p a b c (wellT d s e p u a b c o.well))).map stdItem =
        wellT d s e p u a b c o.well := wellT_idem d s e p u a b c o.well
    rw [hwell, setFirstUnit_idem]
    simp only [List.map_map]
    have hpar : (stdItem ∘ stdItem) = stdItem := by funext x; exact stdItem_idem x
    rw [hpar]
    congr 1
  have h4' : Wr.headerLines v cfg.wrap cfg.headerWidth
      (toWLas { o1 with well := wellUnits u a b c (wellVals d s e p a b c o1.well), curves := setFirstUnit u o1.curves }) = .ok hl := by
    rw [← h4]
    apply headerLines_congr
    rw [← toWLas_afterHeader, ← toWLas_afterHeader, hafter, ← h5]
  have := writeObj_of_steps (sd := sd) hs' h1' h2' h3' h4' (by rw [hafter]; exact h6) (by rw [hafter]; exact h7)
  rw [this, hafter, h8]

/-! ## truthfulness -/

theorem sssValues_step {sd : Option F64} {x : F64} {xs : List F64} {s e p : PVal}
    (h : sssValues sd (some (x :: xs)) = some (s, e, p)) :
    (xs ≠ [] → ∃ dlt, sd = some dlt ∧ p = .str (fmt5 dlt)) ∧ (xs = [] → p = .none) := by
  cases xs with
  | nil =>
    simp [sssValues] at h
    exact ⟨fun hne => absurd rfl hne, fun _ => h.2.2.symm⟩
  | cons y ys =>
    cases sd with
    | none => simp [sssValues] at h
    | some d =>
      simp only [sssValues, Option.some.injEq, Prod.mk.injEq] at h
      exact ⟨fun _ => ⟨d, rfl, h.2.2.symm⟩, fun hnil => by cases hnil⟩

theorem wellItem_at_a {s e p : PVal} {u : Str} {a b c : Nat} (x : OItem) (hab : a ≠ b) (hac : a ≠ c) :
    (wellItem true s e p u a b c a x).value = stdP s u := by
  have h1 : (b == a) = false := by simp; omega
  have h2 : (c == a) = false := by simp; omega
  simp [wellItem, h1, h2, stdItem, setUnit, setValue]

theorem wellItem_at_c {s e p : PVal} {u : Str} {a b c : Nat} (x : OItem) :
    (wellItem true s e p u a b c c x).value = stdP p u := by
  unfold wellItem
  by_cases h1 : a = c <;> by_cases h2 : b = c <;> simp [h1, h2, stdItem, setUnit, setValue]

/-- **Units.**  After every successful write the units of STRT, STOP and STEP and the unit of the first curve are one
and the same string: the first curve's unit when it has one, STRT's otherwise (`chosenUnit`). -/
theorem C16_units {cfg : WriteCfg} {sd : Option F64} {o : WObj} {t : List Str} {o' : WObj}
    (h : writeObj cfg sd o = .ok (t, o')) :
    ∃ u strt stop step, chosenUnit o = some u ∧
      lookup o'.wellTr sSTRT o'.well = some strt ∧ lookup o'.wellTr sSTOP o'.well = some stop ∧
      lookup o'.wellTr sSTEP o'.well = some step ∧ strt.unit = u ∧ stop.unit = u ∧ step.unit = u ∧
      ∀ c0, o'.curves.head? = some c0 → c0.unit = u := by
  obtain ⟨d, a, b, c, s, e, p, u, hd, ha, hb, hc, hv, hu, rfl⟩ := C16_closed_form h
  obtain ⟨x1, _, _, h1⟩ := lookup_wellT (d := d) (s := s) (e := e) (p := p) (u := u) (a := a) (b := b) (c := c) ha
  obtain ⟨x2, _, _, h2⟩ := lookup_wellT (d := d) (s := s) (e := e) (p := p) (u := u) (a := a) (b := b) (c := c) hb
  obtain ⟨x3, _, _, h3⟩ := lookup_wellT (d := d) (s := s) (e := e) (p := p) (u := u) (a := a) (b := b) (c := c) hc
  refine ⟨u, _, _, _, hu, h1, h2, h3, wellItem_unit_at x1 (Or.inl rfl), wellItem_unit_at x2 (Or.inr (Or.inl rfl)),
    wellItem_unit_at x3 (Or.inr (Or.inr rfl)), ?_⟩
  intro c0 hc0
  cases hcs : o.curves with
  | nil => simp [hcs, setFirstUnit] at hc0
  | cons y ys =>
    simp [hcs, setFirstUnit, setUnit] at hc0
    rw [← hc0]

/-- **Truth.**  Whenever the refresh is decided (`C16_refresh_iff`) and the index is not empty, the object written holds:
STRT = `'%.5f' % index[0]`, STOP = `'%.5f' % index[-1]` (as `str`), and STEP = `'%.5f' % (index[1] - index[0])` as soon as the
index has two samples — whatever the two printed ends look like (before the repair of las.py:600 an index whose last value
printed like its first lost its STEP: `C16_counterexample_old_step_guard`); for a single sample STEP is `None`, written as
`0` (unit present) or as the empty string. -/
theorem C16_truth {cfg : WriteCfg} {sd : Option F64} {o : WObj} {t : List Str} {o' : WObj}
    (h : writeObj cfg sd o = .ok (t, o')) (hd : refreshDecision o = .ok true)
    (x : F64) (xs : List F64) (hidx : o.index = some (x :: xs)) :
    ∃ strt stop step, lookup o'.wellTr sSTRT o'.well = some strt ∧ lookup o'.wellTr sSTOP o'.well = some stop ∧
      lookup o'.wellTr sSTEP o'.well = some step ∧
      strt.value = .str (fmt5 x) ∧ stop.value = .str (fmt5 (xs.getLastD x)) ∧
      (xs ≠ [] → ∃ dlt, sd = some dlt ∧ step.value = .str (fmt5 dlt)) ∧
      (xs = [] → step.value = stdP .none step.unit) := by
  obtain ⟨d, a, b, c, s, e, p, u, hd', ha, hb, hc, hv, hu, rfl⟩ := C16_closed_form h
  rw [hd] at hd'; cases hd'
  have hs := hv rfl
  rw [hidx] at hs
  obtain ⟨es, ee⟩ := sssValues_stop hs
  obtain ⟨hp1, hp2⟩ := sssValues_step hs
  have hab : a ≠ b := keyIdx_ne (keys_distinct o.wellTr).1 ha hb
  have hac : a ≠ c := keyIdx_ne (keys_distinct o.wellTr).2.1 ha hc
  have hbc : b ≠ c := keyIdx_ne (keys_distinct o.wellTr).2.2 hb hc
  obtain ⟨x1, _, _, h1⟩ := lookup_wellT (d := true) (s := s) (e := e) (p := p) (u := u) (a := a) (b := b) (c := c) ha
  obtain ⟨x2, _, _, h2⟩ := lookup_wellT (d := true) (s := s) (e := e) (p := p) (u := u) (a := a) (b := b) (c := c) hb
  obtain ⟨x3, _, _, h3⟩ := lookup_wellT (d := true) (s := s) (e := e) (p := p) (u := u) (a := a) (b := b) (c := c) hc
  refine ⟨_, _, _, h1, h2, h3, ?_, ?_, ?_, ?_⟩
  · rw [wellItem_at_a x1 hab hac, es]
    unfold fmt5
    exact stdP_str_ne _ _ (fmtFixed_ne_nil 5 _)
  · rw [wellItem_at_b x2 hbc, ee]
    unfold fmt5
    simp only [↓reduceIte]
    exact stdP_str_ne _ _ (fmtFixed_ne_nil 5 _)
  · intro hne
    obtain ⟨dlt, h1, h2⟩ := hp1 hne
    refine ⟨dlt, h1, ?_⟩
    rw [wellItem_at_c x3, h2]
    unfold fmt5
    exact stdP_str_ne _ _ (fmtFixed_ne_nil 5 _)
  · intro heq
    rw [wellItem_at_c x3, hp2 heq, wellItem_unit_at x3 (Or.inr (Or.inr rfl))]

/-- the printed STRT is the token of the first data cell under the default format (no re-rounding between header and data) -/
theorem C16_truth_token (null : Str) (x : F64) (hx : x.isNaN = false) : fmt5 x = Dw.cellValue null ⟨none, 5⟩ x := by
  simp [fmt5, Dw.cellValue, hx, Dw.fmtApply]

/-- **No refresh, no new values**: when the refresh is not decided every ~Well value — STRT / STOP / STEP included — is only
standardised (against the unit the item has afterwards). -/
theorem C16_no_refresh {cfg : WriteCfg} {sd : Option F64} {o : WObj} {t : List Str} {o' : WObj}
    (h : writeObj cfg sd o = .ok (t, o')) (hd : refreshDecision o = .ok false)
    (j : Nat) (x : OItem) (hx : o.well[j]? = some x) :
    ∃ y, o'.well[j]? = some y ∧ y.value = stdP x.value y.unit := by
  obtain ⟨d, a, b, c, s, e, p, u, hd', ha, hb, hc, hv, hu, rfl⟩ := C16_closed_form h
  rw [hd] at hd'; cases hd'
  refine ⟨wellItem false s e p u a b c j x, ?_, ?_⟩
  · simp only [wellT]
    rw [wellT_getElem?, hx]
    rfl
  · unfold wellItem
    by_cases h1 : a = j <;> by_cases h2 : b = j <;> by_cases h3 : c = j <;> simp [h1, h2, h3, stdItem, setUnit]

/-- the second clause of `WrapOK` is needed too: a single WRAP item left under the name `WRAP:1` (its twin was deleted) is
not found by `las.version["WRAP"]`, so every `write(wrap=True)` appends another one -/
theorem C16_counterexample_stale_suffix :
    let l : List OItem := [⟨sWRAP, "WRAP:1".toList, [], .str "NO".toList, []⟩]
    (oSetItem false sWRAP (wrapOItem true) l).length = 2 ∧
    (oSetItem false sWRAP (wrapOItem true) (oSetItem false sWRAP (wrapOItem true) l)).length = 3 := by
  decide +kernel

/-! ## non-vacuity: a LASFile built from scratch, written twice -/

def exCfg : WriteCfg := ⟨some "2.0", none, 20, "%.5f".toList, [], none, [' '], [' '], 79, "~A".toList, false⟩
def exOne : F64 := .finite false 1 0
def exObj : WObj :=
  { version := [mkOItem sVERS [] (.num (.finite false 2 0) "2.0".toList) [], mkOItem sWRAP [] (.str "NO".toList) []],
    versionTr := false,
    well := [mkOItem sSTRT ['m'] (.num .nan "nan".toList) [], mkOItem sSTOP ['m'] (.num .nan "nan".toList) [],
             mkOItem sSTEP ['m'] (.num .nan "nan".toList) [],
             mkOItem sNULL [] (.num (.finite true 39997 (-2)) "-9999.25".toList) [],
             mkOItem "COMP".toList ['K'] (.str []) []],
    wellTr := false,
    curves := [mkOItem "DEPT".toList ['f', 't'] (.str []) []], params := [], other := [],
    data := [[exOne, .finite false 2 0, .finite false 3 0]], indexInitial := none }

example :
    (writeObj exCfg (some exOne) exObj).toOption.map (fun r => (r.1, r.2.well.map (fun i => (i.unit, i.value)))) =
      some (["~Version -----------", "VERS. 2.0 : CWLS log ASCII Standard -VERSION 2.0", "WRAP.  NO : ", "~Well --------------",
             "STRT.ft 1.00000 : ", "STOP.ft 3.00000 : ", "STEP.ft 1.00000 : ", "NULL.  -9999.25 : ", "COMP.K        0 : ",
             "~Curve Information -", "DEPT.ft  : ", "~Params ------------", "~Other -------------", "~A -----------------",
             "    1.00000", "    2.00000", "    3.00000"].map String.toList,
            [("ft".toList, .str "1.00000".toList), ("ft".toList, .str "3.00000".toList), ("ft".toList, .str "1.00000".toList),
             ([], .num (.finite true 39997 (-2)) "-9999.25".toList), (['K'], PVal.intZero)]) := by
  decide +kernel

/-- the hypotheses of `C16_idempotent` hold for it, and the second write is the first -/
example : ∃ t o1, writeObj exCfg (some exOne) exObj = .ok (t, o1) ∧ writeObj exCfg (some exOne) o1 = .ok (t, o1) := by
  have hok : (writeObj exCfg (some exOne) exObj).toOption.isSome = true := by decide +kernel
  cases h : writeObj exCfg (some exOne) exObj with
  | error e => rw [h] at hok; simp [Except.toOption] at hok
  | ok r => exact ⟨r.1, r.2, rfl, C16_idempotent (by intro w hw; cases hw) h⟩

/-- the index that returns to its start keeps its STEP (the input of the repaired finding) -/
example :
    (writeObj exCfg (some exOne) { exObj with data := [[exOne, .finite false 2 0, exOne]] }).toOption.map
        (fun r => (r.2.well.map (·.value)).take 3) =
      some [.str "1.00000".toList, .str "1.00000".toList, .str "1.00000".toList] := by
  decide +kernel

/-- the guard before the repair (`if STOP != STRT` on the formatted strings) dropped the step of that index -/
theorem C16_counterexample_old_step_guard :
    sssValuesOld (some exOne) (some [exOne, .finite false 2 0, exOne]) =
      some (.str "1.00000".toList, .str "1.00000".toList, .none) ∧
    sssValues (some exOne) (some [exOne, .finite false 2 0, exOne]) =
      some (.str "1.00000".toList, .str "1.00000".toList, .str "1.00000".toList) := by
  decide +kernel

example : (refreshDecision exObj).toOption = some true := by decide +kernel

/-! ## the STRT / STOP / STEP keyword arguments (`writeObjK`) -/

/-- without STRT= / STOP= / STEP= the general call is the call the other theorems of this file are about -/
theorem C16_kwargs_default (cfg : WriteCfg) (sd : Option F64) (o : WObj) : writeObjK {} cfg sd o = writeObj cfg sd o := by
  simp only [writeObjK, writeObj, prepareK_default]

/-- **The keyword arguments are ignored when no refresh is decided** (index as read and STOP equal to its last value):
whatever is passed as STRT= / STOP= / STEP=, the lines written and the object afterwards are those of the plain call. -/
theorem C16_kwargs_ignored_without_refresh (k : SssArgs) (cfg : WriteCfg) (sd : Option F64) (o : WObj)
    (h : refreshDecision o = .ok false) : writeObjK k cfg sd o = writeObj cfg sd o := by
  simp only [writeObjK, writeObj, prepareK_no_refresh k sd o h]

/-- when the refresh is decided on a non-empty index, an argument that was given is stored as it is and one that was not
is computed from the index exactly as in the plain call -/
theorem C16_kwargs_values (k : SssArgs) (sd : Option F64) (x : F64) (xs : List F64) (s e p : PVal)
    (h : sssValuesK k sd (some (x :: xs)) = some (s, e, p)) :
    s = ov k.strt (.str (fmt5 x)) ∧ e = ov k.stop (.str (fmt5 (xs.getLastD x))) ∧
    (k.step ≠ .none → p = k.step) ∧
    (k.step = .none → ∃ s' e', sssValues sd (some (x :: xs)) = some (s', e', p)) := by
  unfold sssValuesK at h
  cases hk : k.step with
  | none =>
    simp only [hk] at h
    cases xs with
    | nil => simp at h; obtain ⟨rfl, rfl, rfl⟩ := h; simp [sssValues]
    | cons y ys =>
      cases sd with
      | none => simp at h
      | some d => simp at h; obtain ⟨rfl, rfl, rfl⟩ := h; simp [sssValues]
  | str t => simp only [hk] at h; simp at h; obtain ⟨rfl, rfl, rfl⟩ := h; simp
  | num a t => simp only [hk] at h; simp at h; obtain ⟨rfl, rfl, rfl⟩ := h; simp

/-- without a usable index every argument keeps what it was given (the IndexError is swallowed) -/
theorem C16_kwargs_no_index (k : SssArgs) (sd : Option F64) :
    sssValuesK k sd none = some (k.strt, k.stop, k.step) ∧ sssValuesK k sd (some []) = some (k.strt, k.stop, k.step) := ⟨rfl, rfl⟩

end Lasio.Wo

#print axioms Lasio.Wo.C16_closed_form
#print axioms Lasio.Wo.C16_frame
#print axioms Lasio.Wo.C16_frame_version
#print axioms Lasio.Wo.C16_version_independent
#print axioms Lasio.Wo.C16_vers_untouched
#print axioms Lasio.Wo.C16_refresh_iff
#print axioms Lasio.Wo.C16_idempotent
#print axioms Lasio.Wo.C16_units
#print axioms Lasio.Wo.C16_truth
#print axioms Lasio.Wo.C16_no_refresh
#print axioms Lasio.Wo.C16_kwargs_default
#print axioms Lasio.Wo.C16_kwargs_ignored_without_refresh
#print axioms Lasio.Wo.C16_kwargs_values
#print axioms Lasio.Wo.C16_kwargs_no_index
