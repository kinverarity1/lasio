import LasioProofs.Lemmas.TransformSim
import LasioProofs.Props.C19
/-
Lemmas for the WHOLE-FILE form of C19 (Props/C19File.lean) and of the last clause of C05 (Props/C05File.lean): one extra line
`j` (not a title line) inside the body of a header-items section.  The two reads are compared section by section: the section
that received `j` stores another value under its key (`JRelO`, `JRel`), the sections behind it run from related states
(`docSections_P`), the data windows behind `j` move down by one line (`shiftWin`, `shiftData`), and `readData` of a window does
not depend on what stands behind the next title line.  Then: from a split list of lines to the document structure
(`split_doc`), no header error at file level, and executable side conditions on a concrete line.
-/
namespace Lasio.Rd

/-! ## §1 titles stored under "Curves" -/

/-- las.py:299-301: the title line `t` opens a section that `read` stores under "Curves"
(`~C…` without underscore, or `~Log_Definition…`) -/
def curvesTitle (t : Str) : Bool :=
  (titleLetter (sline t) == ['C'] && !(sline t).contains '_') || contains "~Log_Definition".toList (sline t)

theorem drop1_not_curves (title : Str) (ht : startsTilde title = true)
    (hc : ((titleLetter title == ['C'] && !title.contains '_') || contains "~Log_Definition".toList title) = false) :
    title.drop 1 ≠ kCurves := by
  intro e
  obtain ⟨r, rfl⟩ := (startsTilde_iff title).mp ht
  simp only [List.drop_succ_cons, List.drop_zero] at e
  subst e
  -- `subst` has made the title the literal `~Curves`, so `hc` is a closed (false) Boolean equation
  revert hc
  decide

/-- a section whose title is not a "Curves" title is stored under another key -/
theorem routeKey_not_curves (title : Str) (ver : VerVal) (k : RKey) (ht : startsTilde title = true)
    (hc : ((titleLetter title == ['C'] && !title.contains '_') || contains "~Log_Definition".toList title) = false)
    (h : routeKey title ver = .ok k) : k ≠ kCurves := by
  rcases routeKey_cases title ver with h' | ⟨k', h', ⟨hc', _⟩ | ⟨_, hk⟩⟩
  · rw [h'] at h; cases h
  · rw [hc] at hc'; cases hc'
  · rw [h'] at h
    cases h
    rcases hk with rfl | rfl | rfl | rfl
    · decide
    · exact drop1_not_curves title ht hc
    · decide
    · decide

end Lasio.Rd

/-! ## §2 section maps that differ in one stored value -/
namespace Lasio.Tf
open Lasio Lasio.Dt

/-- the relation of one entry: same key; same value, or — under the key `k` — the value `old` here and `new` there -/
def JEntry {β} (k : Rd.RKey) (old new : β) (kv kv' : Rd.RKey × β) : Prop :=
  kv.1 = kv'.1 ∧ (kv.2 = kv'.2 ∨ (kv.1 = k ∧ kv.2 = old ∧ kv'.2 = new))

/-- `las.sections` while `read` runs (values `none` = default not yet replaced): entry by entry the same keys in the same
order, the same values except that an entry under `k` may hold `old` in the first and `new` in the second map -/
def JRelO (k : Rd.RKey) (old new : Rd.SecVal) (m m' : List (Rd.RKey × Option Rd.SecVal)) : Prop :=
  Forall2 (JEntry k (some old) (some new)) m m'

/-- the same for the sections `read` returns -/
def JRel (k : Rd.RKey) (old new : Rd.SecVal) (s s' : List (Rd.RKey × Rd.SecVal)) : Prop :=
  Forall2 (JEntry k old new) s s'

theorem forall2_refl {α} (R : α → α → Prop) (hR : ∀ a, R a a) (l : List α) : Forall2 R l l := by
  induction l with
  | nil => exact .nil
  | cons a l ih => exact .cons (hR a) ih

theorem jentry_refl {β} (k : Rd.RKey) (old new : β) (kv : Rd.RKey × β) : JEntry k old new kv kv := ⟨rfl, Or.inl rfl⟩

theorem jrelO_refl (k : Rd.RKey) (old new : Rd.SecVal) (m : List (Rd.RKey × Option Rd.SecVal)) : JRelO k old new m m :=
  forall2_refl _ (jentry_refl k _ _) m

/-- the same assignment on both sides keeps the relation -/
theorem jrelO_assign (k : Rd.RKey) (old new : Rd.SecVal) (k2 : Rd.RKey) (v : Rd.SecVal)
    (m m' : List (Rd.RKey × Option Rd.SecVal)) (h : JRelO k old new m m') :
    JRelO k old new (Rd.assign k2 v m) (Rd.assign k2 v m') := by
  unfold JRelO at h ⊢
  induction h with
  | nil => exact .cons ⟨rfl, Or.inl rfl⟩ .nil
  | @cons kv kv' l l' hkv hrest ih =>
    obtain ⟨a, x⟩ := kv
    obtain ⟨a', x'⟩ := kv'
    have ha : a = a' := hkv.1
    subst ha
    simp only [Rd.assign]
    by_cases hk : (a == k2) = true
    · simp only [hk, if_true]
      exact .cons ⟨rfl, Or.inl rfl⟩ hrest
    · simp only [hk, Bool.false_eq_true, if_false]
      exact .cons hkv ih

/-- the section that received the extra line: `old` is stored in one run, `new` in the other, under the same key -/
theorem jrelO_assign_diff (k : Rd.RKey) (old new : Rd.SecVal) (m : List (Rd.RKey × Option Rd.SecVal)) :
    JRelO k old new (Rd.assign k old m) (Rd.assign k new m) := by
  unfold JRelO
  induction m with
  | nil => exact .cons ⟨rfl, Or.inr ⟨rfl, rfl, rfl⟩⟩ .nil
  | cons kv rest ih =>
    obtain ⟨a, x⟩ := kv
    simp only [Rd.assign]
    by_cases hk : (a == k) = true
    · simp only [hk, if_true]
      have : a = k := by simpa using hk
      exact .cons ⟨rfl, Or.inr ⟨this, rfl, rfl⟩⟩ (forall2_refl _ (jentry_refl k _ _) rest)
    · simp only [hk, Bool.false_eq_true, if_false]
      exact .cons (jentry_refl k _ _ _) ih

theorem assigned_lookup_same (k : Rd.RKey) (v : Rd.SecVal) (m : List (Rd.RKey × Option Rd.SecVal)) :
    (assigned (Rd.assign k v m)).lookup k = some v := by
  induction m with
  | nil => simp [assigned, Rd.assign]
  | cons kv rest ih =>
    obtain ⟨a, x⟩ := kv
    simp only [Rd.assign]
    by_cases hk : (a == k) = true
    · have hak : a = k := by simpa using hk
      subst hak
      simp [assigned]
    · have hk' : (k == a) = false := by
        have : a ≠ k := by simpa using hk
        simpa using fun e => this e.symm
      simp only [hk, Bool.false_eq_true, if_false]
      cases x with
      | none => simpa [assigned] using ih
      | some y =>
        simp only [assigned, List.filterMap_cons, Option.map_some, List.lookup, hk'] at ih ⊢
        exact ih

theorem assigned_lookup_other (k k2 : Rd.RKey) (v : Rd.SecVal) (m : List (Rd.RKey × Option Rd.SecVal)) (hne : k ≠ k2) :
    (assigned (Rd.assign k2 v m)).lookup k = (assigned m).lookup k := by
  induction m with
  | nil =>
    have : (k == k2) = false := by simpa using hne
    simp [assigned, Rd.assign, List.lookup, this]
  | cons kv rest ih =>
    obtain ⟨a, x⟩ := kv
    simp only [Rd.assign]
    by_cases hk : (a == k2) = true
    · have hak : a = k2 := by simpa using hk
      subst hak
      have hka : (k == a) = false := by simpa using hne
      simp only [hk, if_true]
      cases x with
      | none => simp [assigned, List.lookup, hka]
      | some y => simp [assigned, List.lookup, hka]
    · simp only [hk, Bool.false_eq_true, if_false]
      cases x with
      | none => simpa [assigned] using ih
      | some y =>
        simp only [assigned, List.filterMap_cons, Option.map_some, List.lookup] at ih ⊢
        cases (k == a) with
        | true => rfl
        | false => exact ih

theorem jrel_assigned (k : Rd.RKey) (old new : Rd.SecVal) (m m' : List (Rd.RKey × Option Rd.SecVal))
    (h : JRelO k old new m m') : JRel k old new (assigned m) (assigned m') := by
  unfold JRelO at h
  unfold JRel assigned
  induction h with
  | nil => exact .nil
  | @cons kv kv' l l' hkv _ ih =>
    obtain ⟨a, x⟩ := kv
    obtain ⟨a', x'⟩ := kv'
    obtain ⟨ha, hx⟩ := hkv
    simp only at ha hx
    subst ha
    rcases hx with hx | ⟨hak, h1, h2⟩
    · subst hx
      cases x with
      | none => simpa [List.filterMap_cons] using ih
      | some v =>
        simp only [List.filterMap_cons, Option.map_some]
        exact .cons ⟨rfl, Or.inl rfl⟩ ih
    · subst h1; subst h2
      simp only [List.filterMap_cons, Option.map_some]
      exact .cons ⟨rfl, Or.inr ⟨hak, rfl, rfl⟩⟩ ih

theorem jrel_keys (k : Rd.RKey) (old new : Rd.SecVal) (s s' : List (Rd.RKey × Rd.SecVal)) (h : JRel k old new s s') :
    s'.map Prod.fst = s.map Prod.fst := by
  unfold JRel at h
  induction h with
  | nil => rfl
  | cons hkv _ ih => simp only [List.map_cons, ih, hkv.1]

/-- nothing changed when the old and the new value are the same -/
theorem jrel_same (k : Rd.RKey) (v : Rd.SecVal) (s s' : List (Rd.RKey × Rd.SecVal)) (h : JRel k v v s s') : s' = s := by
  unfold JRel at h
  induction h with
  | nil => rfl
  | @cons kv kv' l l' hkv _ ih =>
    obtain ⟨a, x⟩ := kv
    obtain ⟨a', x'⟩ := kv'
    obtain ⟨ha, hx⟩ := hkv
    simp only at ha hx
    subst ha
    rcases hx with hx | ⟨_, h1, h2⟩
    · rw [hx, ih]
    · rw [h1, h2, ih]

/-- looking a key up: the same value in both maps, or — for the key `k` — `old` in the first and `new` in the second -/
theorem jrel_lookup (k : Rd.RKey) (old new : Rd.SecVal) (s s' : List (Rd.RKey × Rd.SecVal)) (h : JRel k old new s s')
    (k2 : Rd.RKey) :
    s'.lookup k2 = s.lookup k2 ∨ (k2 = k ∧ s.lookup k2 = some old ∧ s'.lookup k2 = some new) := by
  unfold JRel at h
  induction h with
  | nil => left; rfl
  | @cons kv kv' l l' hkv _ ih =>
    obtain ⟨a, x⟩ := kv
    obtain ⟨a', x'⟩ := kv'
    obtain ⟨ha, hx⟩ := hkv
    simp only at ha hx
    subst ha
    by_cases hk : (k2 == a) = true
    · simp only [List.lookup, hk]
      rcases hx with hx | ⟨hak, h1, h2⟩
      · left; rw [hx]
      · right
        have : k2 = a := by simpa using hk
        exact ⟨this.trans hak, by rw [h1], by rw [h2]⟩
    · have hk' : (k2 == a) = false := by simpa using hk
      simp only [List.lookup, hk']
      exact ih

theorem jrel_lookup_other (k : Rd.RKey) (old new : Rd.SecVal) (s s' : List (Rd.RKey × Rd.SecVal)) (h : JRel k old new s s')
    (k2 : Rd.RKey) (hne : k2 ≠ k) : s'.lookup k2 = s.lookup k2 := by
  rcases jrel_lookup k old new s s' h k2 with h | ⟨h, _⟩
  · exact h
  · exact absurd h hne

/-- the number of declared curves is the same unless the changed value is the one stored under "Curves" -/
theorem jrel_declaredCount (k : Rd.RKey) (old new : Rd.SecVal) (s s' : List (Rd.RKey × Rd.SecVal)) (h : JRel k old new s s')
    (hk : k ≠ Rd.kCurves ∨ new = old) : declaredCount s' = declaredCount s := by
  have : s'.lookup Rd.kCurves = s.lookup Rd.kCurves := by
    rcases jrel_lookup k old new s s' h Rd.kCurves with h | ⟨h1, h2, h3⟩
    · exact h
    · rcases hk with hk | hk
      · exact absurd h1.symm hk
      · rw [h2, h3, hk]
  unfold declaredCount
  rw [this]

/-! ## §3 the section loop -/

theorem size_append (a b : List (Str × List Str)) : Rd.size (a ++ b) = Rd.size a + Rd.size b := by
  rw [size_eq_flat_length, size_eq_flat_length, size_eq_flat_length, flat_append, List.length_append]

/-- the sections of `A`, then those of `C` from the state and the line number reached -/
theorem docSections_append (o : Rd.ReadOpts) (A C : List (Str × List Str)) (n : Nat) (st : Rd.RState) :
    Rd.docSections o (A ++ C) n st =
      match Rd.docSections o A n st with
      | .error e => .error e
      | .ok s => Rd.docSections o C (n + Rd.size A) s := by
  induction A generalizing n st with
  | nil => simp [Rd.docSections, Rd.size]
  | cons tb rest ih =>
    obtain ⟨t, b⟩ := tb
    simp only [List.cons_append, Rd.docSections]
    cases Rd.docSection o n (t, b) st with
    | error e => rfl
    | ok s =>
      simp only
      rw [ih]
      have : n + 1 + b.length + Rd.size rest = n + Rd.size ((t, b) :: rest) := by simp [Rd.size]; omega
      rw [this]

theorem docSections_middle_ok {o : Rd.ReadOpts} {A B : List (Str × List Str)} {tb : Str × List Str} {n : Nat}
    {st r : Rd.RState} :
    Rd.docSections o (A ++ tb :: B) n st = .ok r ↔
      ∃ s1 s2, Rd.docSections o A n st = .ok s1 ∧ Rd.docSection o (n + Rd.size A) tb s1 = .ok s2 ∧
        Rd.docSections o B (n + Rd.size A + 1 + tb.2.length) s2 = .ok r := by
  rw [docSections_append]
  cases Rd.docSections o A n st with
  | error e => simp
  | ok s1 => simp [Rd.docSections_cons_ok]

/-- a relation between section maps that the same assignment on both sides keeps, for the keys that satisfy `Q` -/
def AssignClosed (Q : Rd.RKey → Prop)
    (P : List (Rd.RKey × Option Rd.SecVal) → List (Rd.RKey × Option Rd.SecVal) → Prop) : Prop :=
  ∀ k v m m', Q k → P m m' → P (Rd.assign k v m) (Rd.assign k v m')

/-- ONE SECTION — stored, if at all, under a key that satisfies `Q` — read at any two places in the file from two states
with the same `curvesPlain` flag, `P`-related section maps and `S`-related steering values, where `S` keeps the version
(`hSv`) and is kept by the steering code of the section (`hS`; `S` = equality: always): the same outcome, the relations stay. -/
theorem docSection_P (S : Rd.Steer → Rd.Steer → Prop) (hSv : ∀ s s', S s s' → s.vers = s'.vers) (Q : Rd.RKey → Prop)
    (P : List (Rd.RKey × Option Rd.SecVal) → List (Rd.RKey × Option Rd.SecVal) → Prop) (hP : AssignClosed Q P)
    (o : Rd.ReadOpts) (n n' : Nat) (tb : Str × List Str) (st st' r : Rd.RState)
    (hS : Rd.sectionType (Rd.sline tb.1) = .items → ∀ items s s', S s s' →
      S (Rd.steer o (Rd.sline tb.1) items s) (Rd.steer o (Rd.sline tb.1) items s'))
    (hQ : ∀ ver k, Rd.secKey ver tb = some k → Q k)
    (hs : S st.steer st'.steer) (hc : st.curvesPlain = st'.curvesPlain) (hp : P st.sections st'.sections)
    (h : Rd.docSection o n tb st = .ok r) :
    ∃ r', Rd.docSection o n' tb st' = .ok r' ∧ S r.steer r'.steer ∧ r.curvesPlain = r'.curvesPlain ∧
      P r.sections r'.sections := by
  cases hk : Rd.sectionType (Rd.sline tb.1) with
  | items =>
    obtain ⟨p, items, hp', hb, hf⟩ := (Rd.docSection_items hk).mp h
    obtain ⟨k, hlen, hr, rfl⟩ := Rd.finishItems_ok o _ items st r hf
    have hqk : Q k := by
      apply hQ (Rd.classifyVer (Rd.steer o (Rd.sline tb.1) items st.steer).vers) k
      unfold Rd.secKey
      simp only [hk, hlen, if_false, hr]
      rfl
    have hs' := hS hk items _ _ hs
    -- `Rd.steer` on a variable title is stuck on `titleLetter`: as a variable the unifier leaves it alone
    generalize Rd.steer o (Rd.sline tb.1) items st.steer = s1 at hr hs' ⊢
    generalize hs2 : Rd.steer o (Rd.sline tb.1) items st'.steer = s2 at hs'
    rw [hSv _ _ hs] at hp'
    rw [hSv _ _ hs', ← hs2] at hr
    refine ⟨_, (Rd.docSection_items hk).mpr ⟨p, items, hp', Rd.bodyRun_ok_indep o p tb.2 n n' items hb,
      Rd.finishItems_of o _ items st' k hlen hr⟩, ?_, ?_, hP k _ _ _ hqk hp⟩
    · simp only [hs2]
      exact hs'
    · simp only [hSv _ _ hs, hc]
  | other =>
    rw [Rd.docSection_other hk] at h ⊢
    cases h
    have hqk : Q (Rd.routeKeyOther (Rd.sline tb.1)) := by
      apply hQ .bad
      unfold Rd.secKey
      simp only [hk]
    exact ⟨_, rfl, hs, hc, hP _ _ _ _ hqk hp⟩
  | data =>
    rw [Rd.docSection_data hk] at h ⊢
    cases h
    exact ⟨_, rfl, hs, hc, hp⟩
  | las3data =>
    rw [Rd.docSection_las3data hk] at h ⊢
    cases h
    exact ⟨_, rfl, hs, hc, hp⟩

theorem docSections_P (S : Rd.Steer → Rd.Steer → Prop) (hSv : ∀ s s', S s s' → s.vers = s'.vers) (Q : Rd.RKey → Prop)
    (P : List (Rd.RKey × Option Rd.SecVal) → List (Rd.RKey × Option Rd.SecVal) → Prop) (hP : AssignClosed Q P)
    (o : Rd.ReadOpts) (secs : List (Str × List Str)) (n n' : Nat) (st st' r : Rd.RState)
    (hS : ∀ tb ∈ secs, Rd.sectionType (Rd.sline tb.1) = .items → ∀ items s s', S s s' →
      S (Rd.steer o (Rd.sline tb.1) items s) (Rd.steer o (Rd.sline tb.1) items s'))
    (hQ : ∀ tb ∈ secs, ∀ ver k, Rd.secKey ver tb = some k → Q k)
    (hs : S st.steer st'.steer) (hc : st.curvesPlain = st'.curvesPlain) (hp : P st.sections st'.sections)
    (h : Rd.docSections o secs n st = .ok r) :
    ∃ r', Rd.docSections o secs n' st' = .ok r' ∧ S r.steer r'.steer ∧ r.curvesPlain = r'.curvesPlain ∧
      P r.sections r'.sections := by
  induction secs generalizing n n' st st' with
  | nil =>
    simp only [Rd.docSections] at h ⊢
    cases h
    exact ⟨st', rfl, hs, hc, hp⟩
  | cons tb rest ih =>
    obtain ⟨s1, hd, h⟩ := Rd.docSections_cons_ok.mp h
    obtain ⟨s1', h1, h2, h3, h4⟩ := docSection_P S hSv Q P hP o n n' tb st st' s1 (hS tb List.mem_cons_self)
      (hQ tb List.mem_cons_self) hs hc hp hd
    obtain ⟨r', g⟩ := ih _ (n' + 1 + tb.2.length) s1 s1' (fun x hx => hS x (List.mem_cons_of_mem _ hx))
      (fun x hx => hQ x (List.mem_cons_of_mem _ hx)) h2 h3 h4 h
    exact ⟨r', Rd.docSections_cons_ok.mpr ⟨s1', h1, g.1⟩, g.2⟩

/-- the data windows a list of sections leaves in the state -/
theorem docSections_wins (o : Rd.ReadOpts) (secs : List (Str × List Str)) (n : Nat) (st r : Rd.RState)
    (h : Rd.docSections o secs n st = .ok r) :
    r.data = st.data ++ dataWins .data secs n ∧ r.las3 = st.las3 ++ dataWins .las3data secs n := by
  obtain ⟨_, _, _, g3, g4, _, _⟩ :=
    docSections_rel o secs secs n n st st r (forall2_refl _ secRel_refl secs) rfl h
  exact ⟨g3, g4⟩

/-- a readable document: the section loop succeeds on its sections, the delimiter name it leaves (if any) is known, ~Curves held
items, and the header holds the assigned sections, the steering values and the windows of the data sections -/
theorem readLines_ok_doc {o : Rd.ReadOpts} {pre : List Str} {secs : List (Str × List Str)} {h : Rd.RHeader}
    (hpre : ∀ x ∈ pre, Rd.isTitle x = false) (hw : Rd.WellFormed secs) :
    Rd.readLines o (pre ++ Rd.flat secs) = .ok h ↔
      secs ≠ [] ∧ ∃ st, Rd.docSections o secs pre.length Rd.RState.init = .ok st ∧
        (∀ d, st.steer.dlm = some d → Rd.delimiters.contains d = true) ∧ st.curvesPlain = false ∧
        ⟨assigned st.sections, st.steer, docData secs pre.length⟩ = h := by
  rw [Rd.readLines_ok_iff hpre hw]
  refine and_congr_right fun _ => exists_congr fun st => and_congr_right fun hd => ?_
  obtain ⟨e1, e2⟩ := docSections_wins o _ _ _ st hd
  rw [finishRead_ok_iff, e1, e2]
  rfl

/-- what makes a line `j` in the body of the section `t` harmless for everything but the items of that section: `t` is a
header-items section; `j` is not an unparsable line (or header errors are ignored); the section is not stored under "Curves"
(where a parsable line declares a curve) unless `j` parses to nothing; the item `j` parses to, if any, is invisible to the
steering code of the section -/
structure InsertOK (o : Rd.ReadOpts) (t j : Str) : Prop where
  kind : kindOf t = .items
  notBad : o.ignoreHeaderErrors = true ∨ ∀ ver p, Rd.mkParser (Rd.lineStrip t) ver = .ok p → Rd.lineRes o p j ≠ .bad
  curves : Rd.curvesTitle t = false ∨ ∀ ver p, Rd.mkParser (Rd.lineStrip t) ver = .ok p → Rd.lineItem o p j = none
  steer : ∀ ver p x, Rd.mkParser (Rd.lineStrip t) ver = .ok p → Rd.lineItem o p j = some x →
    ∀ a b s, Rd.steer o (Rd.sline t) (a ++ x :: b) s = Rd.steer o (Rd.sline t) (a ++ b) s

/-- THE SECTION THAT RECEIVED THE LINE. The section `(t, b₁ ++ b₂)` and the section `(t, b₁ ++ j :: b₂)`, read from the same
state, end in states that differ in the value stored for the section only. -/
theorem docSection_insert (o : Rd.ReadOpts) (n n' : Nat) (t : Str) (b₁ b₂ : List Str) (j : Str) (st r : Rd.RState)
    (ht : Rd.isTitle t = true) (hok : InsertOK o t j)
    (h : Rd.docSection o n (t, b₁ ++ b₂) st = .ok r) :
    ∃ p k, Rd.mkParser (Rd.lineStrip t) (Rd.classifyVer st.steer.vers) = .ok p ∧
      (Rd.curvesTitle t = false → k ≠ Rd.kCurves) ∧ (∃ ver', Rd.secKey ver' (t, ([] : List Str)) = some k) ∧
      r.sections = Rd.assign k (.items (Rd.bodyItems o p b₁ ++ Rd.bodyItems o p b₂)) st.sections ∧
      Rd.docSection o n' (t, b₁ ++ j :: b₂) st =
        .ok { r with sections := Rd.assign k
                                  (.items (Rd.bodyItems o p b₁ ++ (Rd.lineItem o p j).toList ++ Rd.bodyItems o p b₂))
                                  st.sections } := by
  have hk' : Rd.sectionType (Rd.sline t) = .items := hok.kind
  obtain ⟨p, items, hp, hb, h⟩ := (Rd.docSection_items (tb := (t, b₁ ++ b₂)) hk').mp h
  simp only at hp hb h
  obtain ⟨hno, rfl⟩ := (Rd.bodyRun_ok_iff o p _ _ _).mp hb
  have hb' : Rd.bodyRun o p (b₁ ++ j :: b₂) n' =
      .ok (Rd.bodyItems o p b₁ ++ (Rd.lineItem o p j).toList ++ Rd.bodyItems o p b₂) := by
    refine (Rd.bodyRun_ok_iff o p _ _ _).mpr ⟨?_, (bodyItems_insert o p b₁ b₂ j).symm⟩
    rcases hok.notBad with hi | hnb
    · exact .inl hi
    · exact hno.imp_right fun hno => List.forall_mem_append.mpr
        ⟨fun x hx => hno x (List.mem_append_left _ hx),
         List.forall_mem_cons.mpr ⟨hnb _ p hp, fun x hx => hno x (List.mem_append_right _ hx)⟩⟩
  rw [Rd.bodyItems_append] at h
  obtain ⟨k, hlen, hr, rfl⟩ := Rd.finishItems_ok o _ _ st r h
  -- the steering values computed from the section
  have hsteer : Rd.steer o (Rd.sline t) (Rd.bodyItems o p b₁ ++ (Rd.lineItem o p j).toList ++ Rd.bodyItems o p b₂) st.steer =
      Rd.steer o (Rd.sline t) (Rd.bodyItems o p b₁ ++ Rd.bodyItems o p b₂) st.steer := by
    cases hl : Rd.lineItem o p j with
    | none => simp
    | some x =>
      simp only [Option.toList_some, List.append_assoc, List.singleton_append]
      exact hok.steer _ p x hp hl _ _ _
  have hsk : ∃ ver', Rd.secKey ver' (t, ([] : List Str)) = some k := by
    refine ⟨Rd.classifyVer (Rd.steer o (Rd.sline t) (Rd.bodyItems o p b₁ ++ Rd.bodyItems o p b₂) st.steer).vers, ?_⟩
    unfold Rd.secKey
    simp only [hk', hlen, if_false, hr]
    rfl
  have hkey : Rd.curvesTitle t = false → k ≠ Rd.kCurves := fun hc => Rd.routeKey_not_curves _ _ k ht hc hr
  refine ⟨p, k, hp, hkey, hsk, rfl, (Rd.docSection_items (tb := (t, b₁ ++ j :: b₂)) hk').mpr ⟨p, _, hp, hb', ?_⟩⟩
  rw [← hsteer] at hr
  rw [Rd.finishItems_of o _ _ st k hlen hr, hsteer]
  -- the `curvesPlain` flag
  rcases hok.curves with hc | hc
  · have : (k == Rd.kCurves) = false := by simpa using hkey hc
    simp only [this, Bool.false_eq_true, if_false]
  · simp only [hc _ p hp, Option.toList_none, List.append_nil]

/-! ## §4 the header-level reader on the two documents -/

theorem wellFormed_insert {A B : List (Str × List Str)} {t : Str} {b₁ b₂ : List Str} {j : Str}
    (hw : Rd.WellFormed (A ++ (t, b₁ ++ b₂) :: B)) (hj : Rd.isTitle j = false) :
    Rd.WellFormed (A ++ (t, b₁ ++ j :: b₂) :: B) := by
  obtain ⟨hb₁, hb₂⟩ := List.forall_mem_append.mp (hw (t, b₁ ++ b₂) (by simp)).2
  exact wellFormed_replace hw (List.forall_mem_append.mpr ⟨hb₁, List.forall_mem_cons.mpr ⟨hj, hb₂⟩⟩)

/-- HEADER PART, whole file. The document `pre ++ flat (A ++ (t, b₁ ++ b₂) :: B)` and the same document with the line `j`
between `b₁` and `b₂`: the same steering values; the sections related by `JRel` (only the value stored for the section
`t` may differ: the old item list there, the old one with what `j` parses to inserted here); the data windows are those of
the data sections of the respective document. -/
theorem readLines_insert (o : Rd.ReadOpts) (pre : List Str) (A B : List (Str × List Str)) (t : Str) (b₁ b₂ : List Str) (j : Str)
    (hpre : ∀ x ∈ pre, Rd.isTitle x = false) (hw : Rd.WellFormed (A ++ (t, b₁ ++ b₂) :: B)) (hj : Rd.isTitle j = false)
    (hok : InsertOK o t j)
    (h : Rd.RHeader) (hr : Rd.readLines o (pre ++ Rd.flat (A ++ (t, b₁ ++ b₂) :: B)) = .ok h) :
    ∃ ver p k secs', Rd.mkParser (Rd.lineStrip t) ver = .ok p ∧ (Rd.curvesTitle t = false → k ≠ Rd.kCurves) ∧
      JRel k (.items (Rd.bodyItems o p b₁ ++ Rd.bodyItems o p b₂))
             (.items (Rd.bodyItems o p b₁ ++ (Rd.lineItem o p j).toList ++ Rd.bodyItems o p b₂)) h.sections secs' ∧
      ((∀ tb ∈ B, ∀ ver ver' k', Rd.secKey ver (t, ([] : List Str)) = some k' → Rd.secKey ver' tb ≠ some k') →
        h.sections.lookup k = some (.items (Rd.bodyItems o p b₁ ++ Rd.bodyItems o p b₂)) ∧
        secs'.lookup k = some (.items (Rd.bodyItems o p b₁ ++ (Rd.lineItem o p j).toList ++ Rd.bodyItems o p b₂))) ∧
      h.data = docData (A ++ (t, b₁ ++ b₂) :: B) pre.length ∧
      Rd.readLines o (pre ++ Rd.flat (A ++ (t, b₁ ++ j :: b₂) :: B)) =
        .ok ⟨secs', h.steer, docData (A ++ (t, b₁ ++ j :: b₂) :: B) pre.length⟩ := by
  have hw' := wellFormed_insert hw hj
  have ht : Rd.isTitle t = true := (hw (t, b₁ ++ b₂) (List.mem_append_right _ List.mem_cons_self)).1
  obtain ⟨_, st, hd, hdl, hcp, rfl⟩ := (readLines_ok_doc hpre hw).mp hr
  obtain ⟨s1, s2, hA, hT, hd⟩ := docSections_middle_ok.mp hd
  obtain ⟨p, k, hp, hkey, ⟨ver0, hsk⟩, hsec, hT'⟩ :=
    docSection_insert o _ (pre.length + Rd.size A) t b₁ b₂ j s1 s2 ht hok hT
  refine ⟨Rd.classifyVer s1.steer.vers, p, k, ?_⟩
  -- the two stored values as variables: `docSections_P` below is then instantiated with `old`/`new`, not with `bodyItems` terms
  -- that the unifier would unfold on a variable body
  generalize Rd.SecVal.items (Rd.bodyItems o p b₁ ++ Rd.bodyItems o p b₂) = old at hsec ⊢
  generalize Rd.SecVal.items (Rd.bodyItems o p b₁ ++ (Rd.lineItem o p j).toList ++ Rd.bodyItems o p b₂) = new at hT' ⊢
  -- the sections behind: the maps stay related, and the two values stay in place when none of them is stored under `k`
  obtain ⟨st', hB', hs', hc', hrel, hlook⟩ := docSections_P (· = ·) (fun _ _ h => congrArg _ h)
    (fun k' => (∀ tb ∈ B, ∀ ver', Rd.secKey ver' tb ≠ some k) → k' ≠ k)
    (fun m m' => JRelO k old new m m' ∧ ((∀ tb ∈ B, ∀ ver', Rd.secKey ver' tb ≠ some k) →
      (assigned m).lookup k = some old ∧ (assigned m').lookup k = some new))
    (fun k2 v m m' hne hm => ⟨jrelO_assign k _ _ k2 v m m' hm.1, fun hl => by
      rw [assigned_lookup_other k k2 v m (Ne.symm (hne hl)), assigned_lookup_other k k2 v m' (Ne.symm (hne hl))]
      exact hm.2 hl⟩)
    o B _ (pre.length + Rd.size A + 1 + (b₁ ++ j :: b₂).length) s2 { s2 with sections := Rd.assign k new s1.sections } st
    (fun _ _ _ _ _ _ h => congrArg _ h) (fun tb htb ver' k' hk' hl e => hl tb htb ver' (hk'.trans (congrArg some e)))
    rfl rfl
    (by rw [hsec]; exact ⟨jrelO_assign_diff k _ _ s1.sections, fun _ => ⟨assigned_lookup_same k _ _, assigned_lookup_same k _ _⟩⟩)
    hd
  refine ⟨assigned st'.sections, hp, hkey, jrel_assigned k _ _ _ _ hrel,
    fun hlast => hlook fun tb htb ver' => hlast tb htb ver0 ver' k hsk, rfl, ?_⟩
  exact (readLines_ok_doc hpre hw').mpr ⟨by simp, st', docSections_middle_ok.mpr ⟨s1, _, hA, hT', hB'⟩,
    by rw [← hs']; exact hdl, by rw [← hc']; exact hcp, by rw [hs']⟩

/-! ## §5 the data sections -/

/-- `genfromtxt` on a window that is followed by a line whose first token is not a number (a title line): it answers from
the rows of the body alone when every line of the body is a row, and raises otherwise — whatever else follows. -/
theorem numpy_after_title (ft : FloatTable) (b : List Str) (ln : Str) (rest : List Str) (t : Str) (ts : List Str)
    (htok : npTokens ln = t :: ts) (hnf : toFloat ft t = none) :
    numpyEngineLines ft b.length (b ++ ln :: rest) =
      if (npRows b).length = b.length ∧ 1 ≤ b.length then numpyRows ft b.length (npRows b) else none := by
  have hle := npRows_length_le b
  rw [numpyEngineLines_rows, npRows_append]
  have hrows : npRows (ln :: rest) = (t :: ts) :: npRows rest := by rw [npRows_cons, htok]; rfl
  rw [hrows]
  by_cases heq : (npRows b).length = b.length ∧ 1 ≤ b.length
  · rw [if_pos heq]
    obtain ⟨h1, h2⟩ := heq
    rw [← numpyRows_take ft b.length _ (by omega), ← h1, List.take_left]
  · rw [if_neg heq]
    by_cases hm : b.length < 1
    · simp [numpyRows, hm]
    · exact numpyRows_bad ft _ _ t ts _ (npRows_ne b) (by omega) hnf

/-- sections the DATA reader cannot tell apart: the same title line, and the same body when it is a data section -/
def DRel (tb tb' : Str × List Str) : Prop := tb.1 = tb'.1 ∧ (isDataKind (kindOf tb.1) → tb.2 = tb'.2)

theorem dRel_refl (tb : Str × List Str) : DRel tb tb := ⟨rfl, fun _ => rfl⟩

/-- `readData` of a window does not depend on what stands behind the next title line (engine included) -/
theorem readBody_rest (o : DataOpts) (st : Steer) (d : Nat) (ft : FloatTable) (htf : TildeNotFloat ft) (b : List Str)
    {rest rest' : List (Str × List Str)} (hrel : Forall2 DRel rest rest') (hw : Rd.WellFormed rest) :
    readBody o st d ft b (Rd.flat rest) = readBody o st d ft b (Rd.flat rest') := by
  cases hrel with
  | nil => rfl
  | @cons tb tb' l l' hs _ =>
    obtain ⟨t, x⟩ := tb
    obtain ⟨t', x'⟩ := tb'
    have ht : t = t' := hs.1
    subst ht
    obtain ⟨tok, ts, h1, h2⟩ := title_npTokens t (hw (t, x) List.mem_cons_self).1
    unfold readBody
    simp only [Rd.flat, List.cons_append]
    rw [numpy_after_title ft b t _ tok ts h1 (htf tok h2), numpy_after_title ft b t _ tok ts h1 (htf tok h2)]

/-- the full result of the data reader on the window `w` of the file `lines` -/
def resOf (o : DataOpts) (st : Steer) (d : Nat) (ft : FloatTable) (lines : List Str) (w : Nat × Nat × Str) :
    Except DErr (Engine × List (Slot × Column)) := readData o lines w.1 w.2.1 st d ft

/-- the results of the data reader on the windows of kind `k` of two documents whose data sections are the same -/
theorem dataWins_res (o : DataOpts) (ft : FloatTable) (htf : TildeNotFloat ft) (st : Steer) (d : Nat)
    (k : Rd.SecKind) (hk : isDataKind k) {secs secs' : List (Str × List Str)} (hrel : Forall2 DRel secs secs')
    (hw : Rd.WellFormed secs) (A A' : List Str) :
    (dataWins k secs A.length).map (resOf o st d ft (A ++ Rd.flat secs)) =
      (dataWins k secs' A'.length).map (resOf o st d ft (A' ++ Rd.flat secs')) := by
  induction hrel generalizing A A' with
  | nil => rfl
  | @cons tb tb' rest rest' hs hrest ih =>
    obtain ⟨t, b⟩ := tb
    obtain ⟨t', b'⟩ := tb'
    obtain ⟨rfl, hb⟩ : t = t' ∧ (isDataKind (kindOf t) → b = b') := hs
    have hwr : Rd.WellFormed rest := wellFormed_tail hw
    rw [dataWins_cons_map id (F := resOf o st d ft) o st d ft (fun _ _ => rfl),
      dataWins_cons_map id (F := resOf o st d ft) o st d ft (fun _ _ => rfl), ih hwr (A ++ t :: b) (A' ++ t :: b')]
    by_cases hkt : kindOf t = k
    · cases hb (hkt ▸ hk)
      rw [readBody_rest o st d ft htf b hrest hwr]
    · rw [if_neg hkt, if_neg hkt]

theorem docData_res (o : DataOpts) (ft : FloatTable) (htf : TildeNotFloat ft) (st : Steer) (d : Nat)
    {secs secs' : List (Str × List Str)} (hrel : Forall2 DRel secs secs') (hw : Rd.WellFormed secs) (A A' : List Str) :
    (docData secs A.length).map (resOf o st d ft (A ++ Rd.flat secs)) =
    (docData secs' A'.length).map (resOf o st d ft (A' ++ Rd.flat secs')) :=
  docData_map _ _ secs secs' _ _ (dataWins_length (fun _ _ h => congrArg kindOf h.1) .data _ _ hrel)
    fun k hk => dataWins_res o ft htf st d k hk hrel hw A A'

/-- the document with the line `j` inside a header-items section has the same data sections -/
theorem dRel_insert (A B : List (Str × List Str)) (t : Str) (b b' : List Str) (hk : kindOf t = .items) :
    Forall2 DRel (A ++ (t, b) :: B) (A ++ (t, b') :: B) := by
  induction A with
  | nil =>
    refine .cons ⟨rfl, ?_⟩ (forall2_refl _ dRel_refl B)
    intro h
    rcases h with h | h <;> simp only [hk] at h <;> cases h
  | cons x rest ih => exact .cons (dRel_refl x) ih

/-! ## §5b the windows: those behind the extra line move down by one -/

/-- a window of the file with one more line before line `pos` -/
def shiftWin (pos : Nat) (w : Nat × Nat × Str) : Nat × Nat × Str :=
  if w.1 < pos then w else (w.1 + 1, w.2.1 + 1, w.2.2)

/-- … and the record of a data section -/
def shiftData (pos : Nat) (x : DataRead) : DataRead :=
  if x.first < pos then x else { x with first := x.first + 1, last := x.last + 1 }

/-- a window of a list of sections that starts at line `n` starts inside it -/
theorem dataWins_bounds (k : Rd.SecKind) (secs : List (Str × List Str)) (n : Nat) :
    ∀ w ∈ dataWins k secs n, n ≤ w.1 ∧ w.1 < n + Rd.size secs := by
  induction secs generalizing n with
  | nil => intro w hw; cases hw
  | cons tb rest ih =>
    obtain ⟨t, b⟩ := tb
    intro w hw
    simp only [dataWins, List.mem_append] at hw
    simp only [Rd.size]
    rcases hw with hw | hw
    · unfold secWin at hw
      split at hw
      · simp only [List.mem_singleton] at hw; subst hw; omega
      · cases hw
    · have := ih _ w hw
      omega

theorem dataWins_append (k : Rd.SecKind) (A C : List (Str × List Str)) (n : Nat) :
    dataWins k (A ++ C) n = dataWins k A n ++ dataWins k C (n + Rd.size A) := by
  induction A generalizing n with
  | nil => simp [dataWins, Rd.size]
  | cons tb rest ih =>
    obtain ⟨t, b⟩ := tb
    simp only [List.cons_append, dataWins, ih, List.append_assoc]
    have : n + 1 + b.length + Rd.size rest = n + Rd.size ((t, b) :: rest) := by simp [Rd.size]; omega
    rw [this]

theorem dataWins_succ (k : Rd.SecKind) (B : List (Str × List Str)) (m : Nat) :
    dataWins k B (m + 1) = (dataWins k B m).map (fun w => (w.1 + 1, w.2.1 + 1, w.2.2)) := by
  induction B generalizing m with
  | nil => rfl
  | cons tb rest ih =>
    have hsec : secWin k (m + 1) tb = (secWin k m tb).map (fun w => (w.1 + 1, w.2.1 + 1, w.2.2)) := by
      unfold secWin
      split
      · simp only [List.map_cons, List.map_nil, List.cons.injEq, Prod.mk.injEq, and_true, true_and]
        omega
      · rfl
    simp only [dataWins, List.map_append]
    have e : m + 1 + 1 + tb.2.length = (m + 1 + tb.2.length) + 1 := by omega
    rw [e, ih, hsec]

/-- the windows of kind `k` (a data kind) of the document with the extra line -/
theorem dataWins_insert (k : Rd.SecKind) (hdk : isDataKind k) (A B : List (Str × List Str)) (t : Str) (b₁ b₂ : List Str) (j : Str)
    (hk : kindOf t = .items) (n : Nat) :
    dataWins k (A ++ (t, b₁ ++ j :: b₂) :: B) n =
      (dataWins k (A ++ (t, b₁ ++ b₂) :: B) n).map (shiftWin (n + Rd.size A + 1 + b₁.length)) := by
  have hne : ¬ kindOf t = k := by
    intro e
    rcases hdk with h | h <;> rw [← e, hk] at h <;> cases h
  have hA : (dataWins k A n).map (shiftWin (n + Rd.size A + 1 + b₁.length)) = dataWins k A n := by
    have : (dataWins k A n).map (shiftWin (n + Rd.size A + 1 + b₁.length)) = (dataWins k A n).map id := by
      apply List.map_congr_left
      intro w hw
      have := (dataWins_bounds k A n w hw).2
      unfold shiftWin
      rw [if_pos (by omega)]
      rfl
    rw [this, List.map_id]
  have hB : dataWins k B (n + Rd.size A + 1 + (b₁ ++ j :: b₂).length) =
      (dataWins k B (n + Rd.size A + 1 + (b₁ ++ b₂).length)).map (shiftWin (n + Rd.size A + 1 + b₁.length)) := by
    have e : n + Rd.size A + 1 + (b₁ ++ j :: b₂).length = (n + Rd.size A + 1 + (b₁ ++ b₂).length) + 1 := by
      simp only [List.length_append, List.length_cons]; omega
    rw [e, dataWins_succ]
    apply List.map_congr_left
    intro w hw
    have := (dataWins_bounds k B _ w hw).1
    have hlen : (b₁ ++ b₂).length = b₁.length + b₂.length := List.length_append
    unfold shiftWin
    rw [if_neg (by omega)]
  rw [dataWins_append, dataWins_append, List.map_append, hA]
  simp only [dataWins, secWin, hne, if_false, List.nil_append]
  rw [hB]

theorem docData_insert (A B : List (Str × List Str)) (t : Str) (b₁ b₂ : List Str) (j : Str) (hk : kindOf t = .items) (n : Nat) :
    docData (A ++ (t, b₁ ++ j :: b₂) :: B) n =
      (docData (A ++ (t, b₁ ++ b₂) :: B) n).map (shiftWin (n + Rd.size A + 1 + b₁.length)) := by
  unfold docData
  rw [dataWins_insert .data (Or.inl rfl) A B t b₁ b₂ j hk n, dataWins_insert .las3data (Or.inr rfl) A B t b₁ b₂ j hk n]
  cases h : dataWins .data (A ++ (t, b₁ ++ b₂) :: B) n with
  | nil => simp
  | cons w ws => simp

/-- the records of the data sections: the same results on windows moved down -/
theorem dataReads_shift (o : DataOpts) (st : Steer) (d : Nat) (ft : FloatTable) (lines lines' : List Str) (pos : Nat)
    (W W' : List (Nat × Nat × Str)) (hwin : W' = W.map (shiftWin pos))
    (hres : W'.map (resOf o st d ft lines') = W.map (resOf o st d ft lines)) :
    (W'.map fun w => (⟨w.1, w.2.1, readData o lines' w.1 w.2.1 st d ft⟩ : DataRead)) =
      (W.map fun w => (⟨w.1, w.2.1, readData o lines w.1 w.2.1 st d ft⟩ : DataRead)).map (shiftData pos) := by
  subst hwin
  rw [List.map_map] at hres
  rw [List.map_map, List.map_map]
  apply List.map_congr_left
  intro w hw
  have hpt : resOf o st d ft lines' (shiftWin pos w) = resOf o st d ft lines w := List.map_inj_left.mp hres w hw
  simp only [Function.comp, resOf] at hpt ⊢
  rw [hpt]
  unfold shiftWin shiftData
  by_cases hlt : w.1 < pos
  · simp only [hlt, if_true]
  · simp only [hlt, if_false]

/-! ## §6 the whole file, on the document structure -/

/-- moving the windows does not touch the results -/
theorem shiftData_res {β} (f : Except DErr (Engine × List (Slot × Column)) → β) (pos : Nat) (l : List DataRead) :
    (l.map (shiftData pos)).map (fun x => f x.res) = l.map (fun x => f x.res) := by
  rw [List.map_map]
  apply List.map_congr_left
  intro x _
  simp only [Function.comp, shiftData]
  split <;> rfl

/-- WHOLE FILE on the document structure: lines `pre` before the first title, sections `A`, the header-items section
`(t, b₁ ++ b₂)`, sections `B`; the second document has the extra line `j` between `b₁` and `b₂`. -/
theorem readFull_insert (o : Opts) (nullOf : Option Str → Option Str) (ft : FloatTable) (htf : TildeNotFloat ft)
    (pre : List Str) (A B : List (Str × List Str)) (t : Str) (b₁ b₂ : List Str) (j : Str)
    (hpre : ∀ x ∈ pre, Rd.isTitle x = false) (hw : Rd.WellFormed (A ++ (t, b₁ ++ b₂) :: B)) (hj : Rd.isTitle j = false)
    (hok : InsertOK o.hdr t j)
    (r : FullRead) (hr : readFull o nullOf ft (pre ++ Rd.flat (A ++ (t, b₁ ++ b₂) :: B)) = .ok r) :
    ∃ r' ver p k, readFull o nullOf ft (pre ++ Rd.flat (A ++ (t, b₁ ++ j :: b₂) :: B)) = .ok r' ∧
      r'.steer = r.steer ∧
      r'.data = r.data.map (shiftData (pre.length + Rd.size A + 1 + b₁.length)) ∧
      Rd.mkParser (Rd.lineStrip t) ver = .ok p ∧ (Rd.curvesTitle t = false → k ≠ Rd.kCurves) ∧
      JRel k (.items (Rd.bodyItems o.hdr p b₁ ++ Rd.bodyItems o.hdr p b₂))
             (.items (Rd.bodyItems o.hdr p b₁ ++ (Rd.lineItem o.hdr p j).toList ++ Rd.bodyItems o.hdr p b₂))
             r.sections r'.sections ∧
      ((∀ tb ∈ B, ∀ ver ver' k', Rd.secKey ver (t, ([] : List Str)) = some k' → Rd.secKey ver' tb ≠ some k') →
        r.sections.lookup k = some (.items (Rd.bodyItems o.hdr p b₁ ++ Rd.bodyItems o.hdr p b₂)) ∧
        r'.sections.lookup k =
          some (.items (Rd.bodyItems o.hdr p b₁ ++ (Rd.lineItem o.hdr p j).toList ++ Rd.bodyItems o.hdr p b₂))) := by
  obtain ⟨h, hh, e1, e2, e3⟩ := readFull_data o nullOf ft _ r hr
  obtain ⟨ver, p, k, secs', hp, hkey, hrel, hlast, hdata, hr'⟩ :=
    readLines_insert o.hdr pre A B t b₁ b₂ j hpre hw hj hok h hh
  rw [e1, e2, e3]
  refine ⟨_, ver, p, k, readFull_of_header o nullOf ft _ _ hr', rfl, ?_, hp, hkey, hrel, hlast⟩
  simp only
  have hdc : declaredCount secs' = declaredCount h.sections := by
    apply jrel_declaredCount k _ _ _ _ hrel
    rcases hok.curves with hc | hc
    · exact .inl (hkey hc)
    · right; simp [hc _ p hp]
  rw [hdc, hdata]
  exact dataReads_shift o.dat _ _ ft _ _ _ _ _ (docData_insert A B t b₁ b₂ j hok.kind pre.length)
    (docData_res o.dat ft htf _ _ (dRel_insert A B t _ _ hok.kind) hw pre pre).symm

/-! ## §7 from a split list of lines to the document structure -/

/-- the lines after the last title line -/
def tailBody (l : List Str) : List Str := (l.reverse.takeWhile (fun x => !Rd.isTitle x)).reverse

/-- the lines before the first title line -/
def headBody (l : List Str) : List Str := l.takeWhile (fun x => !Rd.isTitle x)

theorem parse_fst (l : List Str) : (parse l).1 = headBody l := by
  induction l with
  | nil => rfl
  | cons a l ih =>
    simp only [parse, headBody, List.takeWhile_cons]
    cases h : Rd.isTitle a with
    | true => simp
    | false => simp only [Bool.false_eq_true, if_false, Bool.not_false, if_true]; rw [ih]; rfl

/-- a list of lines that ends inside the section opened by the title line `t` -/
theorem ctxEnd_decomp (c : Ctx) (l₁ : List Str) (t : Str) (h : ctxEnd c l₁ = .sec t) :
    (c = .sec t ∧ ∀ x ∈ l₁, Rd.isTitle x = false) ∨
    ∃ l₀ b₁, l₁ = l₀ ++ t :: b₁ ∧ Rd.isTitle t = true ∧ ∀ x ∈ b₁, Rd.isTitle x = false := by
  induction l₁ generalizing c with
  | nil => left; exact ⟨h, fun x hx => by cases hx⟩
  | cons a l ih =>
    simp only [ctxEnd] at h
    rcases ih _ h with ⟨hc, hl⟩ | ⟨l₀, b₁, hl, ht, hb⟩
    · unfold nextCtx at hc
      cases ha : Rd.isTitle a with
      | true =>
        rw [ha] at hc
        simp only [if_true, Ctx.sec.injEq] at hc
        subst hc
        right
        exact ⟨[], l, rfl, ha, hl⟩
      | false =>
        rw [ha] at hc
        simp only [Bool.false_eq_true, if_false] at hc
        left
        refine ⟨hc, ?_⟩
        intro x hx
        rcases List.mem_cons.mp hx with rfl | hx
        · exact ha
        · exact hl x hx
    · right
      exact ⟨a :: l₀, b₁, by rw [hl]; rfl, ht, hb⟩

theorem tailBody_eq (l₀ b₁ : List Str) (t : Str) (ht : Rd.isTitle t = true) (hb : ∀ x ∈ b₁, Rd.isTitle x = false) :
    tailBody (l₀ ++ t :: b₁) = b₁ := by
  unfold tailBody
  have : (l₀ ++ t :: b₁).reverse = b₁.reverse ++ t :: l₀.reverse := by simp
  rw [this, List.takeWhile_append_of_pos (by
    intro x hx
    simp [hb x (List.mem_reverse.mp hx)])]
  simp [ht]

/-- THE DOCUMENT STRUCTURE AT A SPLIT POINT. When `l₁` ends inside the section opened by the title line `t`, the documents
`l₁ ++ l₂` and `l₁ ++ j :: l₂` (`j` not a title line) have the same lines before the first title, the same sections before
and after, and the section `t` with the body `tailBody l₁ ++ headBody l₂`, resp. with `j` in between; the sections after are those of
`l₂` (`(parse l₂).2`). -/
theorem split_doc (l₁ l₂ : List Str) (t j : Str) (h : ctxEnd .pre l₁ = .sec t) :
    ∃ (pre : List Str) (A : List (Str × List Str)),
      (∀ x ∈ pre, Rd.isTitle x = false) ∧ Rd.WellFormed (A ++ (t, tailBody l₁ ++ headBody l₂) :: (parse l₂).2) ∧
      l₁.length = pre.length + Rd.size A + 1 + (tailBody l₁).length ∧
      l₁ ++ l₂ = pre ++ Rd.flat (A ++ (t, tailBody l₁ ++ headBody l₂) :: (parse l₂).2) ∧
      l₁ ++ j :: l₂ = pre ++ Rd.flat (A ++ (t, tailBody l₁ ++ j :: headBody l₂) :: (parse l₂).2) := by
  rcases ctxEnd_decomp .pre l₁ t h with ⟨hc, _⟩ | ⟨l₀, b₁, hl, ht, hb⟩
  · cases hc
  · have hb₁ : tailBody l₁ = b₁ := by rw [hl]; exact tailBody_eq l₀ b₁ t ht hb
    have e0 := parse_flat l₀
    have e2 := parse_flat l₂
    rw [hb₁, ← parse_fst]
    refine ⟨(parse l₀).1, (parse l₀).2, parse_pre l₀, ?_, ?_, ?_, ?_⟩
    · intro tb htb
      rcases List.mem_append.mp htb with hm | hm
      · exact parse_wf l₀ tb hm
      · rcases List.mem_cons.mp hm with rfl | hm
        · refine ⟨ht, ?_⟩
          intro x hx
          rcases List.mem_append.mp hx with hx | hx
          · exact hb x hx
          · exact parse_pre l₂ x hx
        · exact parse_wf l₂ tb hm
    · have : l₀.length = (parse l₀).1.length + Rd.size (parse l₀).2 := by
        rw [size_eq_flat_length, ← List.length_append, ← e0]
      rw [hl, List.length_append, List.length_cons, this]
      omega
    · calc l₁ ++ l₂ = (l₀ ++ t :: b₁) ++ l₂ := by rw [hl]
        _ = (((parse l₀).1 ++ Rd.flat (parse l₀).2) ++ t :: b₁) ++ ((parse l₂).1 ++ Rd.flat (parse l₂).2) := by
            rw [← e0, ← e2]
        _ = _ := by simp [flat_append, Rd.flat]
    · calc l₁ ++ j :: l₂ = (l₀ ++ t :: b₁) ++ j :: l₂ := by rw [hl]
        _ = (((parse l₀).1 ++ Rd.flat (parse l₀).2) ++ t :: b₁) ++ j :: ((parse l₂).1 ++ Rd.flat (parse l₂).2) := by
            rw [← e0, ← e2]
        _ = _ := by simp [flat_append, Rd.flat]

end Lasio.Tf

/-! ## §8 no header error at file level; what a line parses to -/
namespace Lasio.Rd

theorem routeKey_error (title : Str) (ver : VerVal) (e : RErr) (h : routeKey title ver = .error e) : e = .unmodelled := by
  rcases routeKey_cases title ver with h' | ⟨k, h', _⟩
  · rw [h'] at h; cases h; rfl
  · rw [h'] at h; cases h

/-- what the header-level reader can fail with when header errors are ignored: everything but `LASHeaderError` -/
abbrev NoHeaderErr (e : RErr) : Prop :=
  e = .noSections ∨ e = .keyError ∨ e = .unmodelled ∨ e = .indexError ∨ e = .attributeError

theorem finishItems_error (o : ReadOpts) (title : Str) (items : List RItem) (st : RState) (e : RErr)
    (h : finishItems o title items st = .error e) : NoHeaderErr e := by
  unfold finishItems at h
  split at h
  · cases h; exact .inr (.inr (.inr (.inl rfl)))
  · cases hr : routeKey title (classifyVer (steer o title items st.steer).vers) with
    | error e' =>
      simp only [hr] at h
      cases h
      exact .inr (.inr (.inl (routeKey_error _ _ _ hr)))
    | ok k => simp [hr] at h

/-- with `ignore_header_errors` one iteration of the section loop cannot raise `LASHeaderError` -/
theorem processSection_error (o : ReadOpts) (lines : List Str) (w : Nat × Nat × Str) (st : RState) (e : RErr)
    (hi : o.ignoreHeaderErrors = true) (h : processSection o lines w st = .error e) : NoHeaderErr e := by
  unfold processSection at h
  split at h
  · cases hp : parseItemsSection o (classifyVer st.steer.vers) (lines.drop w.1) w.1 w.2.1 with
    | error e' =>
      simp only [hp] at h
      cases h
      exact (C19_total_section o _ _ _ _ e hi hp).elim (fun h => .inr (.inl h)) (fun h => .inr (.inr (.inl h)))
    | ok items =>
      simp only [hp] at h
      exact finishItems_error o _ _ _ e h
  · cases h
  · cases h
  · cases h

theorem processSections_error (o : ReadOpts) (lines : List Str) (ws : List (Nat × Nat × Str)) (st : RState) (e : RErr)
    (hi : o.ignoreHeaderErrors = true) (h : processSections o lines ws st = .error e) : NoHeaderErr e := by
  induction ws generalizing st with
  | nil => cases h
  | cons w ws ih =>
    simp only [processSections] at h
    cases hp : processSection o lines w st with
    | error e' =>
      simp only [hp] at h
      cases h
      exact processSection_error o lines w st e hi hp
    | ok st' =>
      simp only [hp] at h
      exact ih st' h

theorem finishRead_error (st : RState) (e : RErr) (h : finishRead st = .error e) : NoHeaderErr e := by
  unfold finishRead at h
  generalize (!_ : Bool) = A at h
  cases A with
  | true => simp at h; exact .inr (.inl h.symm)
  | false =>
    by_cases h2 : st.curvesPlain = true
    · simp [h2] at h; exact .inr (.inr (.inr (.inr h.symm)))
    · simp [h2] at h

/-- with `ignore_header_errors` the header-level reader fails, if at all, with another error than `LASHeaderError`:
no sections, `KeyError` (version / delimiter), `IndexError` (the title "~"), `AttributeError`, or an unmodelled version -/
theorem readLines_error (o : ReadOpts) (lines : List Str) (e : RErr) (hi : o.ignoreHeaderErrors = true)
    (h : readLines o lines = .error e) : NoHeaderErr e := by
  unfold readLines at h
  split at h
  · cases h; exact .inl rfl
  · cases hp : processSections o lines (findSections lines) RState.init with
    | error e' =>
      simp only [hp] at h
      cases h
      exact processSections_error o lines _ _ e hi hp
    | ok st =>
      simp only [hp] at h
      exact finishRead_error st e h

/-! ### what a line parses to -/

theorem mkItem'_orig (p : Parser) (f : Fields) : (mkItem' p f).orig = f.name := by
  unfold mkItem'
  split
  · rfl
  · rfl
  · simp only
    split
    · rfl
    · split <;> rfl

/-- the mnemonic of the item a line parses to: the name field of `read_header_line`, in the requested case -/
theorem lineItem_orig (o : ReadOpts) (p : Parser) (j : Str) (x : RItem) (h : lineItem o p j = some x) :
    ∃ f, parseHeaderLine p.sec (lineStrip j) = some f ∧ x.orig = applyCase o.mnemonicCase f.name := by
  unfold lineItem at h
  split at h
  · rename_i it hr
    cases h
    unfold lineRes at hr
    simp only at hr
    split at hr
    · cases hr
    · split at hr
      · cases hr
      · split at hr
        · cases hr
        · split at hr
          · cases hr
          · rename_i f hf
            cases hr
            exact ⟨f, hf, by rw [mkItem'_orig]⟩
  · cases h

/-- a line `read_header_line` cannot parse, whatever the section, parses to nothing -/
theorem lineItem_none_of_unparsable (o : ReadOpts) (p : Parser) (j : Str)
    (h : ∀ sec : SecName, parseHeaderLine sec (lineStrip j) = none) : lineItem o p j = none := by
  cases hl : lineItem o p j with
  | none => rfl
  | some x =>
    obtain ⟨f, hf, _⟩ := lineItem_orig o p j x hl
    rw [h p.sec] at hf
    cases hf

/-! ### executable side conditions for a concrete line -/

def allSecNames : List SecName := [.version, .well, .curves, .parameter, .other]

theorem mem_allSecNames (sec : SecName) : sec ∈ allSecNames := by cases sec <;> simp [allSecNames]

/-- no section's `read_header_line` can parse the line -/
def unparsableLine (j : Str) : Bool := allSecNames.all fun sec => (parseHeaderLine sec (lineStrip j)).isNone

/-- whatever section parses the line, the mnemonic is none of VERS, WRAP, DLM, NULL (after `mnemonic_case`, upper-cased) -/
def harmlessLine (mc : MCase) (j : Str) : Bool :=
  allSecNames.all fun sec =>
    match parseHeaderLine sec (lineStrip j) with
    | none => true
    | some f => !steerKeys.contains (upper (applyCase mc f.name))

theorem unparsableLine_spec (o : ReadOpts) (p : Parser) (j : Str) (h : unparsableLine j = true) : lineItem o p j = none := by
  apply lineItem_none_of_unparsable
  intro sec
  have := List.all_eq_true.mp h sec (mem_allSecNames sec)
  simpa using this

theorem harmlessLine_spec (o : ReadOpts) (p : Parser) (j : Str) (x : RItem) (h : harmlessLine o.mnemonicCase j = true)
    (hx : lineItem o p j = some x) : upper x.orig ∉ steerKeys := by
  obtain ⟨f, hf, hn⟩ := lineItem_orig o p j x hx
  have := List.all_eq_true.mp h p.sec (mem_allSecNames p.sec)
  simp only [hf] at this
  rw [hn]
  intro hm
  have hc : steerKeys.contains (upper (applyCase o.mnemonicCase f.name)) = true := List.contains_iff_mem.mpr hm
  rw [hc] at this
  cases this

end Lasio.Rd
