import LasioModel.Reader
import LasioProofs.Lemmas.StrLemmas
/-
Lemmas about the header-level reader model (`LasioModel/Reader.lean`): the two line loops consume exactly the body of their
section; the title scan returns the windows of a rendered document; the `SectionItems` lookup used by the steering code and the
mnemonics a title consults; the insertion-ordered section map; what the reader derives from a title; reading a rendered document
section by section (`docSection`, `docSections`); the effect of a section that is not a ~V section on the reader's state;
steering values come from ~V and ~W sections only.
-/
namespace Lasio.Rd

/-! ## the header-items loop -/

/-- what a body contributes when every one of its lines is processed (declarative reading of the loop);
`lineNo` = zero-based number of the line before the body (the title line) -/
def bodyRun (o : ReadOpts) (p : Parser) : List Str → Nat → Except RErr (List RItem)
  | [], _ => .ok []
  | l :: ls, lineNo =>
    match lineRes o p l with
    | .item it =>
      match bodyRun o p ls (lineNo + 1) with
      | .ok r => .ok (it :: r)
      | .error e => .error e
    | .bad => if o.ignoreHeaderErrors then bodyRun o p ls (lineNo + 1) else .error (.headerError (lineNo + 2))
    | _ => bodyRun o p ls (lineNo + 1)

def lineItem (o : ReadOpts) (p : Parser) (l : Str) : Option RItem :=
  match lineRes o p l with
  | .item it => some it
  | _ => none

def bodyItems (o : ReadOpts) (p : Parser) (body : List Str) : List RItem := body.filterMap (lineItem o p)

/-- the loop on a non-empty body that contains no title line processes exactly the body -/
theorem itemsLoop_body (o : ReadOpts) (p : Parser) (body rest : List Str) (first last : Nat)
    (hb : ∀ b ∈ body, lineRes o p b ≠ .title) (hne : body ≠ []) (hlast : last = first + body.length) :
    itemsLoop o p last (body ++ rest) first = bodyRun o p body first := by
  induction body generalizing first with
  | nil => exact absurd rfl hne
  | cons b bs ih =>
    have hb' : ∀ x ∈ bs, lineRes o p x ≠ .title := fun x hx => hb x (List.mem_cons_of_mem _ hx)
    have hbt : lineRes o p b ≠ .title := hb b (List.mem_cons_self)
    simp only [List.cons_append, itemsLoop, bodyRun]
    by_cases hbs : bs = []
    · subst hbs
      have hl : (first + 1 == last) = true := by simp [hlast]
      cases hr : lineRes o p b with
      | title => exact absurd hr hbt
      | skip => simp [hl, bodyRun]
      | bad => simp [hl, bodyRun]
      | item it => simp [hl, bodyRun]
    · have hl : (first + 1 == last) = false := by
        have : 0 < bs.length := List.length_pos_iff.mpr hbs
        simp [hlast]; omega
      have ih' := ih (first + 1) hb' hbs (by simp [hlast]; omega)
      cases hr : lineRes o p b with
      | title => exact absurd hr hbt
      | skip => simp [hl, ih']
      | bad => simp [hl, ih']
      | item it =>
        simp only [hl, ih', Bool.false_eq_true, if_false]
        cases bodyRun o p bs (first + 1) <;> rfl

/-- an empty section: the loop looks at the next line, which is the next title (or the end of the file) -/
theorem itemsLoop_empty (o : ReadOpts) (p : Parser) (rest : List Str) (first : Nat)
    (hrest : rest = [] ∨ ∃ t r, rest = t :: r ∧ lineRes o p t = .title) :
    itemsLoop o p first rest first = .ok [] := by
  rcases hrest with h | ⟨t, r, h, ht⟩
  · subst h; rfl
  · subst h; simp [itemsLoop, ht]

theorem bodyRun_ignore (o : ReadOpts) (p : Parser) (body : List Str) (n : Nat) (hi : o.ignoreHeaderErrors = true) :
    bodyRun o p body n = .ok (bodyItems o p body) := by
  induction body generalizing n with
  | nil => rfl
  | cons b bs ih =>
    simp only [bodyRun, bodyItems, List.filterMap_cons, lineItem]
    cases hr : lineRes o p b <;> simp [hi, ih, bodyItems]

/-- index of the first unparsable line -/
def firstBad (o : ReadOpts) (p : Parser) : List Str → Option Nat
  | [] => none
  | l :: ls => if lineRes o p l = .bad then some 0 else (firstBad o p ls).map (· + 1)

theorem bodyRun_strict (o : ReadOpts) (p : Parser) (body : List Str) (n : Nat) (hi : o.ignoreHeaderErrors = false) :
    bodyRun o p body n =
      match firstBad o p body with
      | none => .ok (bodyItems o p body)
      | some i => .error (.headerError (n + i + 2)) := by
  induction body generalizing n with
  | nil => rfl
  | cons b bs ih =>
    simp only [bodyRun, firstBad, bodyItems, List.filterMap_cons, lineItem]
    cases hr : lineRes o p b with
    | bad => simp [hi]
    | title =>
      simp [ih (n + 1)]
      cases firstBad o p bs <;> simp [bodyItems]; omega
    | skip =>
      simp [ih (n + 1)]
      cases firstBad o p bs <;> simp [bodyItems]; omega
    | item it =>
      simp [ih (n + 1)]
      cases firstBad o p bs <;> simp [bodyItems]; omega

theorem bodyItems_append (o : ReadOpts) (p : Parser) (a b : List Str) :
    bodyItems o p (a ++ b) = bodyItems o p a ++ bodyItems o p b := by
  simp [bodyItems, List.filterMap_append]

theorem firstBad_none_iff (o : ReadOpts) (p : Parser) (b : List Str) :
    firstBad o p b = none ↔ ∀ x ∈ b, lineRes o p x ≠ .bad := by
  induction b with
  | nil => simp [firstBad]
  | cons l ls ih =>
    simp only [firstBad, List.mem_cons, forall_eq_or_imp]
    by_cases h : lineRes o p l = .bad
    · simp [h]
    · simp only [h, if_false, Option.map_eq_none_iff, ih]
      exact ⟨fun a => ⟨h, a⟩, fun a => a.2⟩

theorem bodyRun_ok_iff (o : ReadOpts) (p : Parser) (b : List Str) (n : Nat) (l : List RItem) :
    bodyRun o p b n = .ok l ↔ (o.ignoreHeaderErrors = true ∨ ∀ x ∈ b, lineRes o p x ≠ .bad) ∧ l = bodyItems o p b := by
  cases hi : o.ignoreHeaderErrors with
  | true =>
    rw [bodyRun_ignore o p b n hi]
    simp only [Except.ok.injEq, true_or, true_and]
    exact eq_comm
  | false =>
    rw [bodyRun_strict o p b n hi, ← firstBad_none_iff]
    cases firstBad o p b with
    | none => simp [eq_comm]
    | some i => simp

/-- a successful body does not depend on where in the file it stands -/
theorem bodyRun_ok_indep (o : ReadOpts) (p : Parser) (body : List Str) (n n' : Nat) (l : List RItem)
    (h : bodyRun o p body n = .ok l) : bodyRun o p body n' = .ok l :=
  (bodyRun_ok_iff o p body n' l).mpr ((bodyRun_ok_iff o p body n l).mp h)

/-! ## the two stripping orders, titles -/

theorem dw_app {α} (p : α → Bool) (a : List α) (x : α) (r : List α) (hx : p x = false) :
    (a ++ x :: r).dropWhile p = a.dropWhile p ++ x :: r := by
  induction a with
  | nil => simp [List.dropWhile, hx]
  | cons c cs ih =>
    by_cases hc : p c = true
    · simp [List.dropWhile, hc, ih]
    · simp [List.dropWhile, hc]

def rdrop {α} (p : α → Bool) (l : List α) : List α := (l.reverse.dropWhile p).reverse

theorem rdrop_app {α} (p : α → Bool) (a : List α) (x : α) (r : List α) (hx : p x = false) :
    rdrop p (a ++ x :: r) = a ++ x :: rdrop p r := by
  unfold rdrop
  rw [List.reverse_append, List.reverse_cons, List.append_assoc, List.singleton_append, dw_app p _ _ _ hx]
  simp

theorem dw_mem {α} (p : α → Bool) (l : List α) (c : α) (h : c ∈ l.dropWhile p) : c ∈ l :=
  (List.dropWhile_sublist p).subset h

theorem rdrop_mem {α} (p : α → Bool) (l : List α) (c : α) (h : c ∈ rdrop p l) : c ∈ l := by
  unfold rdrop at h
  have := dw_mem p l.reverse c (by simpa using h)
  simpa using this

/-- stripping by `q` at both ends takes a run of `q`-characters off either end -/
theorem trim_decomp {α} (q : α → Bool) (s : List α) :
    ∃ a b, (∀ c ∈ a, q c = true) ∧ (∀ c ∈ b, q c = true) ∧ s = a ++ (rdrop q (s.dropWhile q) ++ b) := by
  refine ⟨s.takeWhile q, ((s.dropWhile q).reverse.takeWhile q).reverse, fun c hc => ?_, fun c hc => ?_, ?_⟩
  · exact List.all_eq_true.mp List.all_takeWhile c hc
  · exact List.all_eq_true.mp List.all_takeWhile c (List.mem_reverse.mp hc)
  · unfold rdrop
    rw [← List.reverse_append, List.takeWhile_append_dropWhile, List.reverse_reverse, List.takeWhile_append_dropWhile]

/-- … and nothing when neither end is a `q`-character -/
theorem trim_eq_self {α} (q : α → Bool) (s : List α) (hh : ∀ c, s.head? = some c → q c = false)
    (hl : ∀ c, s.getLast? = some c → q c = false) : rdrop q (s.dropWhile q) = s := by
  have h1 : ∀ t : List α, (∀ c, t.head? = some c → q c = false) → t.dropWhile q = t := by
    intro t ht
    cases t with
    | nil => rfl
    | cons c t => simp [ht c rfl]
  unfold rdrop
  rw [h1 s hh, h1 s.reverse (by rw [List.head?_reverse]; exact hl), List.reverse_reverse]

theorem nl_space (c : Char) (h : (c == '\n') = true) : isPySpace c = true := by
  have : c = '\n' := by simpa using h
  subst this; decide

theorem strip_eq_rdrop (l : Str) : strip l = rdrop isPySpace (l.dropWhile isPySpace) := rfl
theorem stripChar_eq (c : Char) (l : Str) : stripChar c l = rdrop (· == c) (l.dropWhile (· == c)) := rfl

theorem strip_allspace (l : Str) (h : ∀ c ∈ l, isPySpace c = true) : strip l = [] := by
  rw [strip_eq_rdrop, (takeWhile_all l h).2]; rfl

theorem strip_split (a : Str) (x : Char) (r : Str) (ha : ∀ c ∈ a, isPySpace c = true) (hx : isPySpace x = false) :
    strip (a ++ x :: r) = x :: rdrop isPySpace r := by
  rw [strip_eq_rdrop, (takeWhile_append_stop a x r ha hx).2]
  exact rdrop_app isPySpace [] x r hx

/-- `line.strip().strip("\n")` and `line.strip("\n").strip()` are both `line.strip()` -/
theorem sline_eq_strip (l : Str) : sline l = strip l := by
  have nn : ∀ c, isPySpace c = false → (c == '\n') = false :=
    fun c hc => Bool.eq_false_iff.mpr fun h => Bool.noConfusion ((nl_space c h).symm.trans hc)
  exact trim_eq_self _ _ (fun c hc => nn c (strip_head_nospace l c hc)) (fun c hc => nn c (strip_getLast_nospace l c hc))

theorem lineStrip_eq_strip (l : Str) : lineStrip l = strip l := by
  obtain ⟨a, b, ha, hb, e⟩ := trim_decomp (· == '\n') l
  have e' : l = a ++ stripChar '\n' l ++ b := by rw [List.append_assoc]; exact e
  have := strip_pad a (stripChar '\n' l) b (fun c hc => nl_space c (ha c hc)) (fun c hc => nl_space c (hb c hc))
  rw [← e'] at this
  exact this.symm

theorem startsTilde_iff (s : Str) : startsTilde s = true ↔ ∃ t, s = '~' :: t := by
  unfold startsTilde
  split
  · simp
  · rename_i h; simp; intro t ht; exact h t ht

theorem isTitle_eq (l : Str) : isTitle l = startsTilde (strip l) := by
  unfold isTitle; rw [sline_eq_strip]

/-- the items loop stops at a line exactly when the title scan takes that line for a title -/
theorem lineRes_title_iff (o : ReadOpts) (p : Parser) (l : Str) : lineRes o p l = .title ↔ isTitle l = true := by
  rw [isTitle_eq]
  unfold lineRes
  simp only [lineStrip_eq_strip]
  constructor
  · intro h
    split at h
    · cases h
    · split at h
      · cases h
      · split at h
        · assumption
        · split at h <;> cases h
  · intro h
    obtain ⟨t, ht⟩ := (startsTilde_iff _).mp h
    simp [ht, startsTilde]

theorem no_title (o : ReadOpts) (p : Parser) (body : List Str) (hb : ∀ b ∈ body, isTitle b = false) :
    ∀ b ∈ body, lineRes o p b ≠ .title := by
  intro b hb' h
  have := (lineRes_title_iff o p b).mp h
  rw [hb b hb'] at this; cases this

/-- a line that starts with '~' (no indentation) is a title line -/
theorem isTitle_of_startsTilde (l : Str) (h : startsTilde l = true) : isTitle l = true := by
  obtain ⟨t, rfl⟩ := (startsTilde_iff _).mp h
  rw [isTitle_eq]
  have := strip_split [] '~' t (by simp) (by decide)
  simp only [List.nil_append] at this
  rw [this]; rfl

/-! ## the ~Other loop -/

theorem otherLoop_body (body rest : List Str) (first last : Nat)
    (hb : ∀ b ∈ body, isTitle b = false) (hne : body ≠ []) (hlast : last = first + body.length) :
    otherLoop last (body ++ rest) first = body.map lineStrip := by
  induction body generalizing first with
  | nil => exact absurd rfl hne
  | cons b bs ih =>
    have hbt : startsTilde (strip b) = false := by rw [← isTitle_eq]; exact hb b List.mem_cons_self
    have hb' : ∀ x ∈ bs, isTitle x = false := fun x hx => hb x (List.mem_cons_of_mem _ hx)
    simp only [List.cons_append, otherLoop, hbt, Bool.false_eq_true, if_false, List.map_cons]
    by_cases hbs : bs = []
    · subst hbs; simp [hlast]
    · have : 0 < bs.length := List.length_pos_iff.mpr hbs
      have hl : (first + 1 == last) = false := by simp [hlast]; omega
      simp only [hl, Bool.false_eq_true, if_false]
      rw [ih (first + 1) hb' hbs (by simp [hlast]; omega)]

/-- the ~Other loop, started at the title line, returns exactly the stripped body lines -/
theorem otherLoop_section (t : Str) (body rest : List Str) (first : Nat)
    (ht : isTitle t = true) (hb : ∀ b ∈ body, isTitle b = false) :
    otherLoop (first + body.length) (t :: body ++ rest) first = body.map lineStrip := by
  have ht' : startsTilde (strip t) = true := by rw [← isTitle_eq]; exact ht
  simp only [List.cons_append, otherLoop, ht', if_true]
  by_cases hbs : body = []
  · subst hbs; simp
  · have : 0 < body.length := List.length_pos_iff.mpr hbs
    have hl : (first == first + body.length) = false := by simp; omega
    simp only [hl, Bool.false_eq_true, if_false]
    exact otherLoop_body body rest first _ hb hbs rfl

/-! ## the title scan on a rendered document -/

/-- a document: lines before the first title, then sections (title line, body lines) -/
def flat : List (Str × List Str) → List Str
  | [] => []
  | (t, b) :: rest => t :: b ++ flat rest

def size : List (Str × List Str) → Nat
  | [] => 0
  | (_, b) :: rest => 1 + b.length + size rest

def WellFormed (secs : List (Str × List Str)) : Prop :=
  ∀ tb ∈ secs, isTitle tb.1 = true ∧ ∀ b ∈ tb.2, isTitle b = false

def docStarts : List (Str × List Str) → Nat → List (Nat × Str)
  | [], _ => []
  | (t, b) :: rest, n => (n, sline t) :: docStarts rest (n + 1 + b.length)

/-- (first line, last line, title) of every section of a document whose first title is line `n` -/
def docWindows : List (Str × List Str) → Nat → List (Nat × Nat × Str)
  | [], _ => []
  | (t, b) :: rest, n => (n, n + b.length, sline t) :: docWindows rest (n + 1 + b.length)

theorem flat_length (secs : List (Str × List Str)) : (flat secs).length = size secs := by
  induction secs with
  | nil => rfl
  | cons tb rest ih => obtain ⟨t, b⟩ := tb; simp [flat, size, ih]; omega

theorem titleStarts_nontitles (ns l : List Str) (n : Nat) (h : ∀ x ∈ ns, isTitle x = false) :
    titleStarts (ns ++ l) n = titleStarts l (n + ns.length) := by
  induction ns generalizing n with
  | nil => rfl
  | cons x xs ih =>
    have hx := h x List.mem_cons_self
    simp only [List.cons_append, titleStarts, hx, Bool.false_eq_true, if_false]
    rw [ih (n + 1) (fun y hy => h y (List.mem_cons_of_mem _ hy))]
    simp; congr 1; omega

theorem titleStarts_flat (secs : List (Str × List Str)) (n : Nat) (h : WellFormed secs) :
    titleStarts (flat secs) n = docStarts secs n := by
  induction secs generalizing n with
  | nil => rfl
  | cons tb rest ih =>
    obtain ⟨t, b⟩ := tb
    have ht := (h (t, b) List.mem_cons_self).1
    have hb := (h (t, b) List.mem_cons_self).2
    have hrest : WellFormed rest := fun x hx => h x (List.mem_cons_of_mem _ hx)
    simp only [flat, List.cons_append, titleStarts, ht, if_true, docStarts]
    rw [titleStarts_nontitles b (flat rest) (n + 1) hb, ih _ hrest]

theorem windows_docStarts (secs : List (Str × List Str)) (n : Nat) (hne : secs ≠ []) :
    windows (docStarts secs n) (n + size secs - 1) = docWindows secs n := by
  induction secs generalizing n with
  | nil => exact absurd rfl hne
  | cons tb rest ih =>
    obtain ⟨t, b⟩ := tb
    cases rest with
    | nil => simp [docStarts, windows, docWindows, size]; omega
    | cons tb2 rest2 =>
      obtain ⟨t2, b2⟩ := tb2
      have ih' := ih (n + 1 + b.length) (by simp)
      simp only [docStarts, windows, docWindows] at ih' ⊢
      have e : n + size ((t, b) :: (t2, b2) :: rest2) - 1 = n + 1 + b.length + size ((t2, b2) :: rest2) - 1 := by
        simp [size]; omega
      rw [e, ih']
      simp

/-- the windows found in a rendered document are exactly its sections -/
theorem findSections_render (pre : List Str) (secs : List (Str × List Str))
    (hpre : ∀ x ∈ pre, isTitle x = false) (h : WellFormed secs) :
    findSections (pre ++ flat secs) = docWindows secs pre.length := by
  unfold findSections
  rw [titleStarts_nontitles pre (flat secs) 0 hpre, titleStarts_flat secs _ h]
  cases secs with
  | nil => rfl
  | cons tb rest =>
    have := windows_docStarts (tb :: rest) (0 + pre.length) (by simp)
    simp only [Nat.zero_add] at this ⊢
    rw [← this]
    congr 1
    simp [flat_length]

/-! ## the SectionItems lookup behind the steering code -/

/-- canonical form compared by `mnemonic_compare` -/
def ck (tr : Bool) (a : Str) : Str := if tr then upper a else a

theorem mcmp_eq_ck (tr : Bool) (a b : Str) : mcmp tr a b = (ck tr a == ck tr b) := by
  cases tr <;> rfl

theorem mcmp_true_iff (tr : Bool) (a b : Str) : mcmp tr a b = true ↔ ck tr a = ck tr b := by
  rw [mcmp_eq_ck]; simp

theorem ck_colon (tr : Bool) (u d : Str) : ':' ∈ ck tr (u ++ ':' :: d) := by
  cases tr
  · simp [ck]
  · simp only [ck, if_true, upper, List.map_append, List.map_cons]
    have : upperC ':' = ':' := by decide
    rw [this]; simp

/-- a session name with a `:n` suffix matches no key without colon -/
theorem mcmp_colon (tr : Bool) (u d key : Str) (hk : ':' ∉ ck tr key) : mcmp tr (u ++ ':' :: d) key = false := by
  cases h : mcmp tr (u ++ ':' :: d) key with
  | false => rfl
  | true => exact absurd ((mcmp_true_iff _ _ _).mp h ▸ ck_colon tr u d) hk

/-- the only unique item whose useful mnemonic matches, if there is exactly one -/
def uniq : List RItem → Option RItem
  | [it] => some it
  | _ => none

abbrev U (it : RItem) : Str := usefulMn it.orig

theorem lookup_go (tr : Bool) (key : Str) (hk : ':' ∉ ck tr key) (l : List RItem) (before : List Str) :
    (((sessionGo tr before (l.map U)).zip l).find? (fun p => mcmp tr p.1 key)).map (·.2) =
      if (before.filter (fun v => mcmp tr v key)).length = 0 then uniq (l.filter (fun it => mcmp tr (U it) key)) else none := by
  induction l generalizing before with
  | nil => simp [sessionGo, uniq]
  | cons it rest ih =>
    simp only [List.map_cons, sessionGo, List.zip_cons_cons, List.find?_cons]
    by_cases hP : mcmp tr (U it) key = true
    · -- items comparing equal to this one are exactly those comparing equal to the key
      have hsame : ∀ v, mcmp tr v (U it) = mcmp tr v key := by
        intro v; rw [mcmp_eq_ck, mcmp_eq_ck, (mcmp_true_iff _ _ _).mp hP]
      have hf1 : before.filter (fun v => mcmp tr v (U it)) = before.filter (fun v => mcmp tr v key) := by
        congr 1; funext v; exact hsame v
      have hf2 : (rest.map U).filter (fun v => mcmp tr v (U it)) = (rest.map U).filter (fun v => mcmp tr v key) := by
        congr 1; funext v; exact hsame v
      have hf3 : ((rest.map U).filter (fun v => mcmp tr v key)).length = (rest.filter (fun it => mcmp tr (U it) key)).length := by
        rw [List.filter_map, List.length_map]; rfl
      rw [hf1, hf2, hf3]
      have ih' := ih (before ++ [U it])
      simp only [List.filter_append, List.filter_cons, hP, if_true, List.filter_nil, List.length_append, List.length_cons,
        List.length_nil] at ih'
      rw [show (List.filter (fun it => mcmp tr (U it) key) (it :: rest)) = it :: rest.filter (fun it => mcmp tr (U it) key) by
        simp [hP]]
      generalize hcb : (before.filter (fun v => mcmp tr v key)).length = cb at *
      generalize hca : (rest.filter (fun it => mcmp tr (U it) key)) = ra at *
      by_cases h1 : cb + 1 + ra.length > 1
      · -- suffixed name: contains ':' and cannot match; the search goes on and finds nothing
        simp only [h1, if_true, mcmp_colon tr (U it) (natToStr (cb + 1)) key hk]
        rw [ih']
        have : ¬ (cb + (0 + 1) = 0) := by omega
        simp only [this, if_false]
        by_cases hc0 : cb = 0
        · subst hc0
          cases ra with
          | nil => simp at h1
          | cons a as => simp [uniq]
        · simp [hc0]
      · have hcb0 : cb = 0 := by omega
        have hra : ra = [] := by
          cases ra with
          | nil => rfl
          | cons a as => simp at h1; omega
        subst hcb0; subst hra
        simp [hP, uniq]
    · have hPf : mcmp tr (U it) key = false := by simpa using hP
      -- this item's session name never matches the key
      have hne : ∀ (n : Nat) (c : Bool), mcmp tr (if c then U it ++ ':' :: natToStr n else U it) key = false := by
        intro n c
        cases c
        · simpa using hPf
        · exact mcmp_colon tr (U it) (natToStr n) key hk
      have := hne ((before.filter (fun v => mcmp tr v (U it))).length + 1)
        (decide ((before.filter (fun v => mcmp tr v (U it))).length + 1 + ((rest.map U).filter (fun v => mcmp tr v (U it))).length > 1))
      simp only [decide_eq_true_eq] at this
      simp only [this]
      rw [ih (before ++ [U it])]
      simp [List.filter_append, hPf]

/-- `key in section` / `section.key` finds an item exactly when one single item has that useful mnemonic -/
theorem lookupItem_eq (tr : Bool) (key : Str) (hk : ':' ∉ ck tr key) (items : List RItem) :
    lookupItem tr items key = uniq (items.filter (fun it => mcmp tr (U it) key)) := by
  unfold lookupItem sessionNames
  have := lookup_go tr key hk items []
  exact this


/-! ## steering -/

def steerKeys : List Str := ["VERS".toList, "WRAP".toList, "DLM".toList, "NULL".toList]

theorem steerKey_nocolon (tr : Bool) (k : Str) (hk : k ∈ steerKeys) : ':' ∉ ck tr k := by
  -- with `k` reverted the goal is a closed statement about the 4 literal keys, one for each value of `tr`
  revert k
  cases tr
  · decide +kernel
  · decide +kernel

theorem steerKeys_upper : ∀ k ∈ steerKeys, upper k = k := by decide +kernel

/-- an item that matches no steering mnemonic is invisible to the steering lookups -/
theorem lookupItem_insert (tr : Bool) (k : Str) (hk : k ∈ steerKeys) (a b : List RItem) (x : RItem)
    (hx : mcmp tr (U x) k = false) : lookupItem tr (a ++ x :: b) k = lookupItem tr (a ++ b) k := by
  rw [lookupItem_eq tr k (steerKey_nocolon tr k hk), lookupItem_eq tr k (steerKey_nocolon tr k hk)]
  simp [List.filter_append, hx]

end Lasio.Rd

-- kept under `Tf`: the whole-file statements about an inserted line (C05File, C19File) are in `Tf` and use these names
namespace Lasio.Tf

/-- the steering mnemonics `read` looks up in the items of a section with this title: VERS, WRAP, DLM in ~V…, NULL in ~W… -/
def consulted (T : Str) : List Str :=
  if Rd.titleLetter T == ['V'] then ["VERS".toList, "WRAP".toList, "DLM".toList]
  else if Rd.titleLetter T == ['W'] then ["NULL".toList] else []

theorem consulted_steerKeys (T : Str) : ∀ k ∈ consulted T, k ∈ Rd.steerKeys := by
  unfold consulted
  split
  -- in each branch the consulted keys are a literal list: membership in the 4 `steerKeys` is a closed fact
  · decide +kernel
  · split
    · decide +kernel
    · intro k hk; cases hk

/-- what the extra line `j` adds to the items of a body -/
theorem bodyItems_insert (o : Rd.ReadOpts) (p : Rd.Parser) (b₁ b₂ : List Str) (j : Str) :
    Rd.bodyItems o p (b₁ ++ j :: b₂) = Rd.bodyItems o p b₁ ++ (Rd.lineItem o p j).toList ++ Rd.bodyItems o p b₂ := by
  rw [Rd.bodyItems_append, show j :: b₂ = [j] ++ b₂ from rfl, Rd.bodyItems_append]
  simp only [Rd.bodyItems, List.filterMap_cons, List.filterMap_nil, List.append_assoc]
  cases Rd.lineItem o p j <;> simp

end Lasio.Tf

namespace Lasio.Rd

/-- the steering code sees the items of a section only through the look-ups of the mnemonics its title consults -/
theorem steer_congr (o : ReadOpts) (title : Str) (i1 i2 : List RItem) (s : Steer)
    (h : ∀ k ∈ Tf.consulted title,
      lookupItem (o.mnemonicCase != .preserve) i1 k = lookupItem (o.mnemonicCase != .preserve) i2 k) :
    steer o title i1 s = steer o title i2 s := by
  unfold steer
  unfold Tf.consulted at h
  by_cases hV : (titleLetter title == ['V']) = true
  · simp only [hV, if_true] at h ⊢
    rw [h "VERS".toList (by simp), h "WRAP".toList (by simp), h "DLM".toList (by simp)]
  · simp only [hV, Bool.false_eq_true, if_false] at h ⊢
    by_cases hW : (titleLetter title == ['W']) = true
    · simp only [hW, if_true] at h ⊢
      rw [h "NULL".toList (by simp)]
    · simp only [hW, Bool.false_eq_true, if_false]

/-- the parsed (case-mapped) name, upper-cased, is not a steering mnemonic ⇒ no steering lookup matches it -/
theorem not_steering (tr : Bool) (x : RItem) (hx : upper x.orig ∉ steerKeys) (k : Str) (hk : k ∈ steerKeys) :
    mcmp tr (U x) k = false := by
  have hup : upper k = k := steerKeys_upper k hk
  unfold U usefulMn
  split
  -- a blank mnemonic is looked up as the literal "UNKNOWN", which is none of the 4 keys: closed once `k` and `tr` are fixed
  · simp only [steerKeys, List.mem_cons, List.not_mem_nil, or_false] at hk
    rcases hk with rfl | rfl | rfl | rfl <;> cases tr <;> decide
  · cases h : mcmp tr x.orig k with
    | false => rfl
    | true =>
      have := (mcmp_true_iff _ _ _).mp h
      cases tr
      · simp only [ck] at this
        simp at this
        rw [this, hup] at hx; exact absurd hk hx
      · simp only [ck, if_true] at this
        rw [this, hup] at hx; exact absurd hk hx

/-! ## the insertion-ordered section map -/

theorem lookup_assign (k k2 : RKey) (v : SecVal) (m : List (RKey × Option SecVal)) :
    (assign k v m).lookup k2 = if k2 == k then some (some v) else m.lookup k2 := by
  induction m with
  | nil => simp only [assign, List.lookup]; cases k2 == k <;> rfl
  | cons kv rest ih =>
    obtain ⟨k', v'⟩ := kv
    unfold assign
    by_cases h : (k' == k) = true
    · rw [eq_of_beq h]
      simp only [beq_self_eq_true, if_true, List.lookup]
      cases k2 == k <;> rfl
    · have hf : (k' == k) = false := by simpa using h
      simp only [hf, Bool.false_eq_true, if_false, List.lookup]
      cases h2 : k2 == k' with
      | false => exact ih
      | true =>
        have : (k2 == k) = false := by rw [eq_of_beq h2]; exact hf
        simp only [this, Bool.false_eq_true, if_false]

theorem lookupSec_assign_same (k : RKey) (v : SecVal) (m : List (RKey × Option SecVal)) :
    lookupSec k (assign k v m) = some v := by
  simp only [lookupSec, lookup_assign, beq_self_eq_true, if_true, Option.join_some]

theorem lookupSec_assign_other (k k2 : RKey) (v : SecVal) (m : List (RKey × Option SecVal)) (hne : k2 ≠ k) :
    lookupSec k2 (assign k v m) = lookupSec k2 m := by
  have : (k2 == k) = false := by simpa using hne
  simp only [lookupSec, lookup_assign, this, Bool.false_eq_true, if_false]
def assignAll (kvs : List (RKey × SecVal)) (m : List (RKey × Option SecVal)) : List (RKey × Option SecVal) :=
  kvs.foldl (fun m kv => assign kv.1 kv.2 m) m

theorem lookupSec_assignAll_notin (kvs : List (RKey × SecVal)) (m : List (RKey × Option SecVal)) (k : RKey)
    (h : k ∉ kvs.map (·.1)) : lookupSec k (assignAll kvs m) = lookupSec k m := by
  induction kvs generalizing m with
  | nil => rfl
  | cons kv rest ih =>
    simp only [List.map_cons, List.mem_cons, not_or] at h
    simp only [assignAll, List.foldl_cons]
    have := ih (assign kv.1 kv.2 m) h.2
    simp only [assignAll] at this
    rw [this, lookupSec_assign_other _ _ _ _ h.1]

theorem lookupSec_assignAll_mem (kvs : List (RKey × SecVal)) (m : List (RKey × Option SecVal)) (k : RKey) (v : SecVal)
    (hnd : (kvs.map (·.1)).Nodup) (h : (k, v) ∈ kvs) : lookupSec k (assignAll kvs m) = some v := by
  induction kvs generalizing m with
  | nil => cases h
  | cons kv rest ih =>
    simp only [List.map_cons, List.nodup_cons] at hnd
    simp only [assignAll, List.foldl_cons]
    rcases List.mem_cons.mp h with rfl | h
    · have := lookupSec_assignAll_notin rest (assign k v m) k hnd.1
      simp only [assignAll] at this
      rw [this, lookupSec_assign_same]
    · have := ih (assign kv.1 kv.2 m) hnd.2 h
      simpa [assignAll] using this

/-- with pairwise distinct keys the order of the assignments does not matter for any lookup -/
theorem lookupSec_assignAll_perm (kvs1 kvs2 : List (RKey × SecVal)) (m : List (RKey × Option SecVal))
    (hp : kvs1.Perm kvs2) (hnd : (kvs1.map (·.1)).Nodup) (k : RKey) :
    lookupSec k (assignAll kvs1 m) = lookupSec k (assignAll kvs2 m) := by
  have hnd2 : (kvs2.map (·.1)).Nodup := (hp.map (·.1)).nodup_iff.mp hnd
  by_cases hk : k ∈ kvs1.map (·.1)
  · obtain ⟨kv, hkv, rfl⟩ := List.mem_map.mp hk
    rw [lookupSec_assignAll_mem kvs1 m kv.1 kv.2 hnd hkv,
      lookupSec_assignAll_mem kvs2 m kv.1 kv.2 hnd2 (hp.mem_iff.mp hkv)]
  · have hk2 : k ∉ kvs2.map (·.1) := fun h => hk ((hp.map (·.1)).mem_iff.mpr h)
    rw [lookupSec_assignAll_notin kvs1 m k hk, lookupSec_assignAll_notin kvs2 m k hk2]


/-! ## what the reader derives from a title -/

theorem contains_mem (p s : Str) (h : contains p s = true) : ∀ c ∈ p, c ∈ s := by
  induction s with
  | nil =>
    simp only [contains] at h
    intro c hc
    have : p = [] := by simpa using h
    subst this; cases hc
  | cons x xs ih =>
    simp only [contains, Bool.or_eq_true] at h
    intro c hc
    rcases h with h | h
    · exact (List.isPrefixOf_iff_prefix.mp h).subset hc
    · exact List.mem_cons_of_mem _ (ih h c hc)

theorem not_contains_of_underscore (p s : Str) (hp : '_' ∈ p) (hs : '_' ∉ s) : contains p s = false := by
  cases h : contains p s with
  | false => rfl
  | true => exact absurd (contains_mem p s h '_' hp) hs

theorem pair_beq (x y : Char) : (['~', x] == ['~', y]) = (x == y) := by
  simp

theorem sectionType_letter (c : Char) (r : Str) (hs : sline ('~' :: c :: r) = '~' :: c :: r)
    (hu : '_' ∉ '~' :: c :: r) :
    sectionType ('~' :: c :: r) =
      if upperC c == 'A' then .data else if upperC c == 'O' then .other else .items := by
  have h1 : contains "~Log_Data".toList ('~' :: c :: r) = false := not_contains_of_underscore _ _ (by decide) hu
  have h2 : contains "_Data".toList ('~' :: c :: r) = false := not_contains_of_underscore _ _ (by decide) hu
  have ht : upperC '~' = '~' := by decide
  unfold sectionType
  simp only [hs, h1, h2, Bool.or_false, List.take, upper, List.map, ht]
  rw [show "~A".toList = ['~', 'A'] from rfl, show "~O".toList = ['~', 'O'] from rfl, pair_beq, pair_beq]
  simp
theorem single_beq (x y : Char) : ([x] == [y]) = (x == y) := by simp

theorem underscore_upper (t : Str) (h : '_' ∉ upper t) : '_' ∉ t := by
  intro hm
  apply h
  have : upperC '_' = '_' := by decide
  rw [← this]
  exact List.mem_map_of_mem hm

theorem isLas3Like_false (t : Str) (h : '_' ∉ upper t) : isLas3Like t = false := by
  unfold isLas3Like las3Indicators
  simp only [List.any_cons, List.any_nil, Bool.or_false]
  rw [not_contains_of_underscore _ _ (by decide) h, not_contains_of_underscore _ _ (by decide) h,
    not_contains_of_underscore _ _ (by decide) h]
  rfl

theorem routeKey_letter (c : Char) (r : Str) (ver : VerVal) (hu : '_' ∉ upper ('~' :: c :: r)) :
    routeKey ('~' :: c :: r) ver =
      if upperC c == 'C' then .ok kCurves else if upperC c == 'P' then .ok kParameter
      else if upperC c == 'V' then .ok kVersion else if upperC c == 'W' then .ok kWell else .ok (c :: r) := by
  have hut := underscore_upper _ hu
  have h3 : contains "~Log_Definition".toList ('~' :: c :: r) = false := not_contains_of_underscore _ _ (by decide) hut
  have h4 : contains "~Log_Parameter".toList ('~' :: c :: r) = false := not_contains_of_underscore _ _ (by decide) hut
  have hl3 : isLas3Like (c :: r) = false := by
    apply isLas3Like_false
    intro h; apply hu
    simp only [upper, List.map_cons, List.mem_cons] at h ⊢
    right; exact h
  have hnu : ('~' :: c :: r).contains '_' = false := by
    cases h : ('~' :: c :: r).contains '_' with
    | false => rfl
    | true => exact absurd (by simpa using h) hut
  unfold routeKey
  simp only [titleLetter, List.drop, List.take, upper, List.map, h3, h4, hl3, hnu, Bool.false_and, Bool.or_false,
    Bool.not_false, Bool.and_true, single_beq]
  simp

/-- what `routeKey` can return; the tests are named before the case analysis so that no step evaluates them -/
theorem routeKey_cases (title : Str) (ver : VerVal) :
    routeKey title ver = .error .unmodelled ∨ ∃ k, routeKey title ver = .ok k ∧
      (((titleLetter title == ['C'] && !title.contains '_') || contains "~Log_Definition".toList title) = true ∧ k = kCurves ∨
       ((titleLetter title == ['C'] && !title.contains '_') || contains "~Log_Definition".toList title) = false ∧
         (k = kParameter ∨ k = title.drop 1 ∨ k = kVersion ∨ k = kWell)) := by
  unfold routeKey
  simp only
  generalize ((titleLetter title == ['C'] && !title.contains '_') || contains "~Log_Definition".toList title) = c
  generalize ((titleLetter title == ['P'] && !title.contains '_') || contains "~Log_Parameter".toList title) = p
  generalize (isLas3Like (title.drop 1) && ver == .undecided) = a
  generalize (isLas3Like (title.drop 1) && ver == .known "3.0".toList) = b
  generalize (titleLetter title == ['V']) = v
  generalize (titleLetter title == ['W']) = w
  cases c
  case true => exact .inr ⟨_, rfl, .inl ⟨rfl, rfl⟩⟩
  cases p
  case true => exact .inr ⟨_, rfl, .inr ⟨rfl, .inl rfl⟩⟩
  cases a
  case true => exact .inl rfl
  cases b
  case true => exact .inr ⟨_, rfl, .inr ⟨rfl, .inr (.inl rfl)⟩⟩
  cases v
  case true => exact .inr ⟨_, rfl, .inr ⟨rfl, .inr (.inr (.inl rfl))⟩⟩
  cases w
  case true => exact .inr ⟨_, rfl, .inr ⟨rfl, .inr (.inr (.inr rfl))⟩⟩
  exact .inr ⟨_, rfl, .inr ⟨rfl, .inr (.inl rfl)⟩⟩

def letterParser (x : Char) : PKind × SecName :=
  if x == 'C' then (.curves, .curves) else if x == 'P' then (.params, .parameter)
  else if x == 'W' then (.metadata, .well) else if x == 'V' then (.metadata, .version) else (.metadata, .other)

/-- the test `title.upper().startswith("~Y")` looks at the second character only -/
theorem startsWith_tilde (c : Char) (r : Str) (y : Char) : startsWith ['~', y] (upper ('~' :: c :: r)) = (upperC c == y) := by
  simp only [startsWith, upper, List.map_cons, List.isPrefixOf, show upperC '~' = '~' by decide]
  rw [show ('~' == '~') = true by decide, Bool.true_and, Bool.and_true]
  exact Bool.beq_comm

theorem mkParser_letter (c : Char) (r : Str) (v : Str) (hu : '_' ∉ upper ('~' :: c :: r)) :
    ∃ d os, mkParser ('~' :: c :: r) (.known v) = .ok ⟨(letterParser (upperC c)).1, (letterParser (upperC c)).2, d, os⟩ := by
  have hl3 : isLas3Like ('~' :: c :: r) = false := isLas3Like_false _ hu
  unfold mkParser letterParser
  simp only [hl3, Bool.and_false, show "~C".toList = ['~', 'C'] from rfl, show "~P".toList = ['~', 'P'] from rfl,
    show "~W".toList = ['~', 'W'] from rfl, show "~V".toList = ['~', 'V'] from rfl, startsWith_tilde]
  by_cases hC : upperC c = 'C'
  · simp only [hC]; split <;> exact ⟨_, _, rfl⟩
  · by_cases hP : upperC c = 'P'
    · simp only [hP]; split <;> exact ⟨_, _, rfl⟩
    · by_cases hW : upperC c = 'W'
      · simp only [hW]; split <;> exact ⟨_, _, rfl⟩
      · by_cases hV : upperC c = 'V'
        · simp only [hV]; split <;> exact ⟨_, _, rfl⟩
        · simp [hC, hP, hW, hV]

/-! ## reading a rendered document section by section -/

theorem strip_idem (l : Str) : strip (strip l) = strip l :=
  strip_eq_self _ (strip_head_nospace l) (strip_getLast_nospace l)

theorem sline_idem (l : Str) : sline (sline l) = sline l := by
  rw [sline_eq_strip, sline_eq_strip, strip_idem]

/-- one section of a document, read without reference to the file: (title line, body lines) at line `n` -/
def docSection (o : ReadOpts) (n : Nat) (tb : Str × List Str) (st : RState) : Except RErr RState :=
  match sectionType (sline tb.1) with
  | .items =>
    match mkParser (lineStrip tb.1) (classifyVer st.steer.vers) with
    | .error e => .error e
    | .ok p =>
      match bodyRun o p tb.2 n with
      | .error e => .error e
      | .ok items => finishItems o (sline tb.1) items st
  | .other => .ok (finishOther (sline tb.1) (joinWith ['\n'] (tb.2.map lineStrip)) st)
  | .data => .ok { st with data := st.data ++ [(n, n + tb.2.length, sline tb.1)] }
  | .las3data => .ok { st with las3 := st.las3 ++ [(n, n + tb.2.length, sline tb.1)] }

def docSections (o : ReadOpts) : List (Str × List Str) → Nat → RState → Except RErr RState
  | [], _, st => .ok st
  | tb :: rest, n, st =>
    match docSection o n tb st with
    | .error e => .error e
    | .ok st' => docSections o rest (n + 1 + tb.2.length) st'

theorem finishItems_ok (o : ReadOpts) (title : Str) (items : List RItem) (st r : RState)
    (h : finishItems o title items st = .ok r) :
    ∃ k, ¬ title.length < 2 ∧ routeKey title (classifyVer (steer o title items st.steer).vers) = .ok k ∧
      r = { st with steer := steer o title items st.steer, sections := assign k (.items items) st.sections,
                    curvesPlain := if k == kCurves then !isCurvesParser title (classifyVer st.steer.vers) && !items.isEmpty
                                   else st.curvesPlain } := by
  unfold finishItems at h
  split at h
  · cases h
  · rename_i hlen
    cases hr : routeKey title (classifyVer (steer o title items st.steer).vers) with
    | error e => simp [hr] at h
    | ok k =>
      simp only [hr] at h
      cases h
      exact ⟨k, hlen, rfl, rfl⟩

theorem finishItems_of (o : ReadOpts) (title : Str) (items : List RItem) (st : RState) (k : RKey)
    (hlen : ¬ title.length < 2) (hr : routeKey title (classifyVer (steer o title items st.steer).vers) = .ok k) :
    finishItems o title items st =
      .ok { st with steer := steer o title items st.steer, sections := assign k (.items items) st.sections,
                    curvesPlain := if k == kCurves then !isCurvesParser title (classifyVer st.steer.vers) && !items.isEmpty
                                   else st.curvesPlain } := by
  unfold finishItems
  simp only [hlen, if_false, hr]

theorem docSection_items {o : ReadOpts} {n : Nat} {tb : Str × List Str} {st r : RState}
    (hk : sectionType (sline tb.1) = .items) :
    docSection o n tb st = .ok r ↔
      ∃ p items, mkParser (lineStrip tb.1) (classifyVer st.steer.vers) = .ok p ∧ bodyRun o p tb.2 n = .ok items ∧
        finishItems o (sline tb.1) items st = .ok r := by
  unfold docSection
  simp only [hk]
  cases mkParser (lineStrip tb.1) (classifyVer st.steer.vers) with
  | error e => simp
  | ok p => cases hb : bodyRun o p tb.2 n <;> simp [hb]

theorem docSection_other {o : ReadOpts} {n : Nat} {tb : Str × List Str} {st : RState}
    (hk : sectionType (sline tb.1) = .other) :
    docSection o n tb st = .ok (finishOther (sline tb.1) (joinWith ['\n'] (tb.2.map lineStrip)) st) := by
  unfold docSection; simp only [hk]

theorem docSection_data {o : ReadOpts} {n : Nat} {tb : Str × List Str} {st : RState}
    (hk : sectionType (sline tb.1) = .data) :
    docSection o n tb st = .ok { st with data := st.data ++ [(n, n + tb.2.length, sline tb.1)] } := by
  unfold docSection; simp only [hk]

theorem docSection_las3data {o : ReadOpts} {n : Nat} {tb : Str × List Str} {st : RState}
    (hk : sectionType (sline tb.1) = .las3data) :
    docSection o n tb st = .ok { st with las3 := st.las3 ++ [(n, n + tb.2.length, sline tb.1)] } := by
  unfold docSection; simp only [hk]

theorem docSections_cons_ok {o : ReadOpts} {tb : Str × List Str} {rest : List (Str × List Str)} {n : Nat}
    {st r : RState} :
    docSections o (tb :: rest) n st = .ok r ↔
      ∃ s, docSection o n tb st = .ok s ∧ docSections o rest (n + 1 + tb.2.length) s = .ok r := by
  simp only [docSections]
  cases docSection o n tb st <;> simp

theorem flat_head_title (o : ReadOpts) (p : Parser) (rest : List (Str × List Str)) (h : WellFormed rest) :
    flat rest = [] ∨ ∃ t r, flat rest = t :: r ∧ lineRes o p t = .title := by
  cases rest with
  | nil => left; rfl
  | cons tb rest' =>
    right
    obtain ⟨t, b⟩ := tb
    exact ⟨t, b ++ flat rest', rfl, (lineRes_title_iff o p t).mpr (h (t, b) List.mem_cons_self).1⟩

theorem processSection_doc (o : ReadOpts) (lines : List Str) (n : Nat) (tb : Str × List Str)
    (rest : List (Str × List Str)) (st : RState)
    (hl : lines.drop n = tb.1 :: tb.2 ++ flat rest) (hw : WellFormed (tb :: rest)) :
    processSection o lines (n, n + tb.2.length, sline tb.1) st = docSection o n tb st := by
  obtain ⟨t, b⟩ := tb
  have hb : ∀ x ∈ b, isTitle x = false := (hw (t, b) List.mem_cons_self).2
  have hrest : WellFormed rest := fun x hx => hw x (List.mem_cons_of_mem _ hx)
  unfold processSection docSection
  simp only [hl, List.cons_append]
  cases hk : sectionType (sline t) with
  | items =>
    simp only [parseItemsSection]
    cases hp : mkParser (lineStrip t) (classifyVer st.steer.vers) with
    | error e => rfl
    | ok p =>
      simp only
      by_cases hbe : b = []
      · subst hbe
        simp only [List.nil_append, List.length_nil, Nat.add_zero, bodyRun]
        rw [itemsLoop_empty o p (flat rest) n (flat_head_title o p rest hrest)]
      · rw [itemsLoop_body o p b (flat rest) n _ (no_title o p b hb) hbe rfl]
        cases bodyRun o p b n <;> rfl
  | other =>
    simp only [readOther]
    have := otherLoop_section t b (flat rest) n (hw (t, b) List.mem_cons_self).1 hb
    simp only [List.cons_append] at this
    rw [this]
  | data => rfl
  | las3data => rfl

theorem processSections_doc (o : ReadOpts) (lines : List Str) (secs : List (Str × List Str)) (n : Nat) (st : RState)
    (hl : lines.drop n = flat secs) (hw : WellFormed secs) :
    processSections o lines (docWindows secs n) st = docSections o secs n st := by
  induction secs generalizing n st with
  | nil => rfl
  | cons tb rest ih =>
    obtain ⟨t, b⟩ := tb
    simp only [docWindows, processSections, docSections]
    have hl' : lines.drop n = (t, b).1 :: (t, b).2 ++ flat rest := by simpa [flat] using hl
    rw [processSection_doc o lines n (t, b) rest st hl' hw]
    cases docSection o n (t, b) st with
    | error e => rfl
    | ok st' =>
      simp only
      apply ih
      · have : lines.drop (n + (1 + b.length)) = (lines.drop n).drop (1 + b.length) := by rw [List.drop_drop]
        rw [show n + 1 + b.length = n + (1 + b.length) by omega, this, hl]
        simp [flat, Nat.add_comm 1 b.length]
      · exact fun x hx => hw x (List.mem_cons_of_mem _ hx)

/-- reading a file given by its structure = reading its sections one by one -/
theorem readLines_flat (o : ReadOpts) (pre : List Str) (secs : List (Str × List Str))
    (hpre : ∀ x ∈ pre, isTitle x = false) (hw : WellFormed secs) (hne : secs ≠ []) :
    readLines o (pre ++ flat secs) =
      match docSections o secs pre.length RState.init with
      | .error e => .error e
      | .ok st => finishRead st := by
  unfold readLines
  have hp := processSections_doc o (pre ++ flat secs) secs pre.length RState.init (by simp) hw
  rw [findSections_render pre secs hpre hw] at *
  cases secs with
  | nil => exact absurd rfl hne
  | cons tb rest =>
    obtain ⟨t, b⟩ := tb
    simp only [docWindows] at hp ⊢
    rw [hp]
    cases docSections o ((t, b) :: rest) pre.length RState.init <;> rfl

theorem readLines_no_sections (o : ReadOpts) (pre : List Str) (hpre : ∀ x ∈ pre, isTitle x = false) :
    readLines o pre = .error .noSections := by
  have h := findSections_render pre [] hpre (by intro tb h; cases h)
  simp only [flat, List.append_nil, docWindows] at h
  unfold readLines
  rw [h]

theorem readLines_ok_iff {o : ReadOpts} {pre : List Str} {secs : List (Str × List Str)} {h : RHeader}
    (hpre : ∀ x ∈ pre, isTitle x = false) (hw : WellFormed secs) :
    readLines o (pre ++ flat secs) = .ok h ↔
      secs ≠ [] ∧ ∃ st, docSections o secs pre.length RState.init = .ok st ∧ finishRead st = .ok h := by
  by_cases hne : secs = []
  · subst hne
    rw [flat, List.append_nil, readLines_no_sections o pre hpre]
    simp
  · rw [readLines_flat o pre secs hpre hw hne]
    cases docSections o secs pre.length RState.init <;> simp [hne]


/-! ## the effect of a section that is not a ~V section -/

/-- what a section does to the state: an assignment in `las.sections`, possibly a new NULL (a ~W section),
possibly the `curvesPlain` flag (when it is stored under "Curves") -/
structure Eff where
  kv : Option (RKey × SecVal)
  null : Option Str
  plain : Option Bool

def applyEff (e : Eff) (st : RState) : RState :=
  { st with steer := { st.steer with null := orKeep e.null st.steer.null },
            sections := match e.kv with | some kv => assign kv.1 kv.2 st.sections | none => st.sections,
            curvesPlain := e.plain.getD st.curvesPlain }

/-- the part of the state the header dump is made of (everything but the data windows) -/
def core (st : RState) : Steer × List (RKey × Option SecVal) × Bool := (st.steer, st.sections, st.curvesPlain)

/-- the effect of a section, computed from the section alone and the provisional version `ver` -/
def secEffect (o : ReadOpts) (ver : VerVal) (tb : Str × List Str) : Except RErr Eff :=
  match sectionType (sline tb.1) with
  | .items =>
    match mkParser (lineStrip tb.1) ver with
    | .error e => .error e
    | .ok p =>
      match bodyRun o p tb.2 0 with
      | .error e => .error e
      | .ok items =>
        if (sline tb.1).length < 2 then .error .indexError
        else match routeKey (sline tb.1) ver with
          | .error e => .error e
          | .ok k => .ok ⟨some (k, .items items),
              if titleLetter (sline tb.1) == ['W'] then
                (lookupItem (o.mnemonicCase != .preserve) items "NULL".toList).map (·.value) else none,
              if k == kCurves then some (!isCurvesParser (sline tb.1) ver && !items.isEmpty) else none⟩
  | .other => .ok ⟨some (routeKeyOther (sline tb.1), .text (joinWith ['\n'] (tb.2.map lineStrip))), none, none⟩
  | _ => .ok ⟨none, none, none⟩

/-- is this a header-items section whose title letter is V (the only kind that can change the version)? -/
def isV (tb : Str × List Str) : Bool :=
  sectionType (sline tb.1) == .items && titleLetter (sline tb.1) == ['V']

def isW (tb : Str × List Str) : Bool :=
  sectionType (sline tb.1) == .items && titleLetter (sline tb.1) == ['W']

theorem steer_nonV (o : ReadOpts) (title : Str) (items : List RItem) (s : Steer) (h : (titleLetter title == ['V']) = false) :
    steer o title items s =
      { s with null := orKeep (if titleLetter title == ['W'] then
          (lookupItem (o.mnemonicCase != .preserve) items "NULL".toList).map (·.value) else none) s.null } := by
  unfold steer
  simp only [h, Bool.false_eq_true, if_false]
  split <;> simp [orKeep]

/-- NULL is looked up under the title letter W only -/
theorem steer_null (o : ReadOpts) (title : Str) (items : List RItem) (s : Steer) :
    (steer o title items s).null =
      if titleLetter title == ['W'] then
        orKeep ((lookupItem (o.mnemonicCase != .preserve) items "NULL".toList).map (·.value)) s.null
      else s.null := by
  unfold steer
  split
  · rename_i hV
    rw [eq_of_beq hV]
    rfl
  · split <;> rfl

theorem secEffect_items {o : ReadOpts} {ver : VerVal} {tb : Str × List Str} {e : Eff}
    (hk : sectionType (sline tb.1) = .items) :
    secEffect o ver tb = .ok e ↔
      ∃ p items k, mkParser (lineStrip tb.1) ver = .ok p ∧ bodyRun o p tb.2 0 = .ok items ∧ ¬ (sline tb.1).length < 2 ∧
        routeKey (sline tb.1) ver = .ok k ∧
        e = ⟨some (k, .items items),
              if titleLetter (sline tb.1) == ['W'] then
                (lookupItem (o.mnemonicCase != .preserve) items "NULL".toList).map (·.value) else none,
              if k == kCurves then some (!isCurvesParser (sline tb.1) ver && !items.isEmpty) else none⟩ := by
  unfold secEffect
  simp only [hk]
  cases mkParser (lineStrip tb.1) ver with
  | error e' => simp only [reduceCtorEq, false_and, exists_false]
  | ok p =>
    simp only [Except.ok.injEq, exists_and_left, exists_eq_left']
    cases bodyRun o p tb.2 0 with
    | error e' => simp only [reduceCtorEq, false_and, exists_false]
    | ok items =>
      simp only [Except.ok.injEq, exists_eq_left']
      by_cases hlen : (sline tb.1).length < 2
      · simp only [hlen, if_true, reduceCtorEq, not_true_eq_false, false_and]
      · cases routeKey (sline tb.1) ver with
        | error e' => simp only [hlen, if_false, reduceCtorEq, false_and, and_false, exists_false]
        | ok k =>
          simp only [hlen, if_false, Except.ok.injEq, not_false_eq_true, true_and, exists_eq_left']
          exact eq_comm

theorem secEffect_other {o : ReadOpts} {ver : VerVal} {tb : Str × List Str} (hk : sectionType (sline tb.1) = .other) :
    secEffect o ver tb = .ok ⟨some (routeKeyOther (sline tb.1), .text (joinWith ['\n'] (tb.2.map lineStrip))), none, none⟩ := by
  unfold secEffect; simp only [hk]

theorem secEffect_data {o : ReadOpts} {ver : VerVal} {tb : Str × List Str}
    (hk : sectionType (sline tb.1) = .data ∨ sectionType (sline tb.1) = .las3data) :
    secEffect o ver tb = .ok ⟨none, none, none⟩ := by
  unfold secEffect; rcases hk with hk | hk <;> simp only [hk]

theorem docSection_of_effect (o : ReadOpts) (n : Nat) (tb : Str × List Str) (st : RState) (e : Eff)
    (hv : isV tb = false) (he : secEffect o (classifyVer st.steer.vers) tb = .ok e) :
    ∃ s', docSection o n tb st = .ok s' ∧ core s' = core (applyEff e st) := by
  cases hk : sectionType (sline tb.1) with
  | items =>
    have hV : (titleLetter (sline tb.1) == ['V']) = false := by simpa [isV, hk] using hv
    obtain ⟨p, items, k, hp, hb, hlen, hr, rfl⟩ := (secEffect_items hk).mp he
    have hst := steer_nonV o _ items st.steer hV
    refine ⟨_, (docSection_items hk).mpr ⟨p, items, hp, bodyRun_ok_indep o p tb.2 0 n items hb,
      finishItems_of o _ items st k hlen (by rw [hst]; exact hr)⟩, ?_⟩
    simp only [core, applyEff, hst, Prod.mk.injEq, true_and]
    split <;> rfl
  | other =>
    rw [secEffect_other hk] at he
    cases he
    exact ⟨_, docSection_other hk, by simp only [core, finishOther, applyEff, orKeep, Option.getD_none]⟩
  | data =>
    rw [secEffect_data (.inl hk)] at he
    cases he
    exact ⟨_, docSection_data hk, by simp only [core, applyEff, orKeep, Option.getD_none]⟩
  | las3data =>
    rw [secEffect_data (.inr hk)] at he
    cases he
    exact ⟨_, docSection_las3data hk, by simp only [core, applyEff, orKeep, Option.getD_none]⟩

theorem effect_of_docSection (o : ReadOpts) (n : Nat) (tb : Str × List Str) (st s' : RState)
    (hv : isV tb = false) (h : docSection o n tb st = .ok s') :
    ∃ e, secEffect o (classifyVer st.steer.vers) tb = .ok e := by
  cases hk : sectionType (sline tb.1) with
  | items =>
    have hV : (titleLetter (sline tb.1) == ['V']) = false := by simpa [isV, hk] using hv
    obtain ⟨p, items, hp, hb, hf⟩ := (docSection_items hk).mp h
    obtain ⟨k, hlen, hr, _⟩ := finishItems_ok o _ items st s' hf
    rw [steer_nonV o _ items st.steer hV] at hr
    exact ⟨_, (secEffect_items hk).mpr ⟨p, items, k, hp, bodyRun_ok_indep o p tb.2 n 0 items hb, hlen, hr, rfl⟩⟩
  | other => exact ⟨_, secEffect_other hk⟩
  | data => exact ⟨_, secEffect_data (.inl hk)⟩
  | las3data => exact ⟨_, secEffect_data (.inr hk)⟩

def applyAll (effs : List Eff) (st : RState) : RState := effs.foldl (fun s e => applyEff e s) st

def effOf (o : ReadOpts) (ver : VerVal) (tb : Str × List Str) : Eff :=
  match secEffect o ver tb with
  | .ok e => e
  | .error _ => ⟨none, none, none⟩

theorem applyEff_core_congr (e : Eff) (s s' : RState) (h : core s = core s') :
    core (applyEff e s) = core (applyEff e s') := by
  simp only [core, Prod.mk.injEq] at h
  obtain ⟨h1, h2, h3⟩ := h
  simp [core, applyEff, h1, h2, h3]

theorem applyAll_core_congr (effs : List Eff) (s s' : RState) (h : core s = core s') :
    core (applyAll effs s) = core (applyAll effs s') := by
  induction effs generalizing s s' with
  | nil => exact h
  | cons e es ih => exact ih _ _ (applyEff_core_congr e s s' h)

/-- a section that is not a ~V section leaves the version alone -/
theorem core_vers {s' st : RState} {e : Eff} (hc : core s' = core (applyEff e st)) : s'.steer.vers = st.steer.vers :=
  congrArg (·.1.vers) hc

/-- sections that are not ~V sections: if every one of them has an effect, the whole list is read successfully and
the result is the effects applied in order -/
theorem docSections_of_effects (o : ReadOpts) (secs : List (Str × List Str)) (n : Nat) (st : RState) (ver : VerVal)
    (hver : classifyVer st.steer.vers = ver) (hV : ∀ tb ∈ secs, isV tb = false)
    (hE : ∀ tb ∈ secs, ∃ e, secEffect o ver tb = .ok e) :
    ∃ r, docSections o secs n st = .ok r ∧ core r = core (applyAll (secs.map (effOf o ver)) st) := by
  induction secs generalizing n st with
  | nil => exact ⟨st, rfl, rfl⟩
  | cons tb rest ih =>
    obtain ⟨e, he⟩ := hE tb List.mem_cons_self
    obtain ⟨s', hs', hc⟩ := docSection_of_effect o n tb st e (hV tb List.mem_cons_self) (hver ▸ he)
    have hver' : classifyVer s'.steer.vers = ver := by rw [core_vers hc, hver]
    obtain ⟨r, hr, hcr⟩ := ih (n + 1 + tb.2.length) s' hver' (fun x hx => hV x (List.mem_cons_of_mem _ hx))
      (fun x hx => hE x (List.mem_cons_of_mem _ hx))
    refine ⟨r, by simp [docSections, hs', hr], ?_⟩
    rw [hcr]
    have : effOf o ver tb = e := by simp [effOf, he]
    simp only [List.map_cons, applyAll, List.foldl_cons, this]
    exact applyAll_core_congr _ _ _ hc

theorem effects_of_docSections (o : ReadOpts) (secs : List (Str × List Str)) (n : Nat) (st r : RState) (ver : VerVal)
    (hver : classifyVer st.steer.vers = ver) (hV : ∀ tb ∈ secs, isV tb = false)
    (h : docSections o secs n st = .ok r) : ∀ tb ∈ secs, ∃ e, secEffect o ver tb = .ok e := by
  induction secs generalizing n st with
  | nil => intro tb htb; cases htb
  | cons tb rest ih =>
    obtain ⟨s', hd, h⟩ := docSections_cons_ok.mp h
    obtain ⟨e, he⟩ := effect_of_docSection o n tb st s' (hV tb List.mem_cons_self) hd
    rw [hver] at he
    obtain ⟨s'', hs'', hc⟩ := docSection_of_effect o n tb st e (hV tb List.mem_cons_self) (hver ▸ he)
    rw [hd] at hs''; cases hs''
    have hver' : classifyVer s'.steer.vers = ver := by rw [core_vers hc, hver]
    intro x hx
    rcases List.mem_cons.mp hx with rfl | hx
    · exact ⟨e, he⟩
    · exact ih (n + 1 + tb.2.length) s' hver' (fun y hy => hV y (List.mem_cons_of_mem _ hy)) h x hx

/-! the three components of a state after a list of effects -/

theorem applyAll_steer (effs : List Eff) (st : RState) :
    (applyAll effs st).steer = { st.steer with null := effs.foldl (fun old e => orKeep e.null old) st.steer.null } := by
  induction effs generalizing st with
  | nil => rfl
  | cons e es ih => simp only [applyAll, List.foldl_cons] at ih ⊢; rw [ih]; rfl

theorem applyAll_sections (effs : List Eff) (st : RState) :
    (applyAll effs st).sections = assignAll (effs.filterMap (·.kv)) st.sections := by
  induction effs generalizing st with
  | nil => rfl
  | cons e es ih =>
    simp only [applyAll, List.foldl_cons] at ih ⊢
    rw [ih]
    cases hkv : e.kv with
    | none => simp [applyEff, hkv]
    | some kv => simp [applyEff, hkv, assignAll]

theorem applyAll_plain (effs : List Eff) (st : RState) :
    (applyAll effs st).curvesPlain = effs.foldl (fun b e => e.plain.getD b) st.curvesPlain := by
  induction effs generalizing st with
  | nil => rfl
  | cons e es ih => simp only [applyAll, List.foldl_cons] at ih ⊢; rw [ih]; rfl



/-- the key of `las.sections` a section is stored under (`none`: data sections, or routing fails) -/
def secKey (ver : VerVal) (tb : Str × List Str) : Option RKey :=
  match sectionType (sline tb.1) with
  | .items => if (sline tb.1).length < 2 then none else (routeKey (sline tb.1) ver).toOption
  | .other => some (routeKeyOther (sline tb.1))
  | _ => none

theorem effect_facts (o : ReadOpts) (ver : VerVal) (tb : Str × List Str) (e : Eff) (h : secEffect o ver tb = .ok e) :
    e.kv.map (·.1) = secKey ver tb ∧ (isW tb = false → e.null = none) ∧
      (e.plain ≠ none → secKey ver tb = some kCurves) := by
  unfold secKey isW
  cases hk : sectionType (sline tb.1) with
  | items =>
    obtain ⟨p, items, k, hp, hb, hlen, hr, rfl⟩ := (secEffect_items hk).mp h
    simp only [hlen, if_false, hr, Except.toOption, Option.map_some, beq_self_eq_true, Bool.true_and, true_and]
    refine ⟨fun hw => by simp only [hw, Bool.false_eq_true, if_false], fun hpl => ?_⟩
    by_cases hkc : (k == kCurves) = true
    · rw [eq_of_beq hkc]
    · simp [hkc] at hpl
  | other =>
    rw [secEffect_other hk] at h
    cases h
    exact ⟨by simp only [Option.map_some], fun _ => rfl, fun h => absurd rfl h⟩
  | data =>
    rw [secEffect_data (.inl hk)] at h
    cases h
    exact ⟨rfl, fun _ => rfl, fun h => absurd rfl h⟩
  | las3data =>
    rw [secEffect_data (.inr hk)] at h
    cases h
    exact ⟨rfl, fun _ => rfl, fun h => absurd rfl h⟩

theorem filterMap_nodup_inj {α β} (g : α → Option β) (l : List α) (hnd : (l.filterMap g).Nodup)
    (x y : α) (hx : x ∈ l) (hy : y ∈ l) (k : β) (gx : g x = some k) (gy : g y = some k) : x = y := by
  induction l with
  | nil => cases hx
  | cons a l ih =>
    have tail_nd : (l.filterMap g).Nodup := by
      cases ha : g a with
      | none => simpa [List.filterMap_cons, ha] using hnd
      | some b => simp only [List.filterMap_cons, ha, List.nodup_cons] at hnd; exact hnd.2
    have clash : ∀ z ∈ l, g z = some k → g a = some k → False := by
      intro z hz gz ga
      simp only [List.filterMap_cons, ga, List.nodup_cons] at hnd
      exact hnd.1 (List.mem_filterMap.mpr ⟨z, hz, gz⟩)
    rcases List.mem_cons.mp hx with hxa | hx
    · rcases List.mem_cons.mp hy with hya | hy
      · rw [hxa, hya]
      · exact absurd (clash y hy gy (hxa ▸ gx)) id
    · rcases List.mem_cons.mp hy with hya | hy
      · exact absurd (clash x hx gx (hya ▸ gy)) id
      · exact ih tail_nd hx hy

theorem filterMap_congr' {α β} (f g : α → Option β) (l : List α) (h : ∀ x ∈ l, f x = g x) :
    l.filterMap f = l.filterMap g := by
  induction l with
  | nil => rfl
  | cons a l ih =>
    simp only [List.filterMap_cons, h a List.mem_cons_self]
    rw [ih (fun x hx => h x (List.mem_cons_of_mem _ hx))]

theorem null_comm (x y : Eff) (z : Option Str) (h : x.null = none ∨ y.null = none ∨ x = y) :
    orKeep y.null (orKeep x.null z) = orKeep x.null (orKeep y.null z) := by
  rcases h with h | h | h
  · rw [h]; rfl
  · rw [h]; rfl
  · rw [h]

theorem plain_comm (x y : Eff) (z : Bool) (h : x.plain = none ∨ y.plain = none ∨ x = y) :
    y.plain.getD (x.plain.getD z) = x.plain.getD (y.plain.getD z) := by
  rcases h with h | h | h
  · rw [h]; rfl
  · rw [h]; rfl
  · rw [h]

/-! ## steering comes from ~V and ~W only -/

/-- what a section does to the steering values depends only on the steering values before it -/
theorem docSection_steer_congr (o : ReadOpts) (n n₂ : Nat) (tb : Str × List Str) (st st₂ s : RState)
    (hs : st.steer = st₂.steer) (h : docSection o n tb st = .ok s) :
    ∃ s₂, docSection o n₂ tb st₂ = .ok s₂ ∧ s₂.steer = s.steer := by
  cases hk : sectionType (sline tb.1) with
  | items =>
    obtain ⟨p, items, hp, hb, hf⟩ := (docSection_items hk).mp h
    obtain ⟨k, hlen, hr, rfl⟩ := finishItems_ok o _ items st s hf
    rw [hs] at hp hr
    exact ⟨_, (docSection_items hk).mpr ⟨p, items, hp, bodyRun_ok_indep o p tb.2 n n₂ items hb,
      finishItems_of o _ items st₂ k hlen hr⟩, by simp only [hs]⟩
  | other => rw [docSection_other hk] at h ⊢; cases h; exact ⟨_, rfl, hs.symm⟩
  | data => rw [docSection_data hk] at h ⊢; cases h; exact ⟨_, rfl, hs.symm⟩
  | las3data => rw [docSection_las3data hk] at h ⊢; cases h; exact ⟨_, rfl, hs.symm⟩

theorem steer_other_letter (o : ReadOpts) (title : Str) (items : List RItem) (s : Steer)
    (hV : (titleLetter title == ['V']) = false) (hW : (titleLetter title == ['W']) = false) :
    steer o title items s = s := by
  unfold steer; simp [hV, hW]

/-- a section that is neither a ~V nor a ~W header section leaves the steering values alone -/
theorem docSection_steer_nonVW (o : ReadOpts) (n : Nat) (tb : Str × List Str) (st s : RState)
    (hv : isV tb = false) (hw : isW tb = false) (h : docSection o n tb st = .ok s) : s.steer = st.steer := by
  cases hk : sectionType (sline tb.1) with
  | items =>
    have hV : (titleLetter (sline tb.1) == ['V']) = false := by simpa [isV, hk] using hv
    have hW : (titleLetter (sline tb.1) == ['W']) = false := by simpa [isW, hk] using hw
    obtain ⟨p, items, _, _, hf⟩ := (docSection_items hk).mp h
    obtain ⟨k, _, _, rfl⟩ := finishItems_ok o _ items st s hf
    rw [steer_other_letter o (sline tb.1) items st.steer hV hW]
  | other => rw [docSection_other hk] at h; cases h; rfl
  | data => rw [docSection_data hk] at h; cases h; rfl
  | las3data => rw [docSection_las3data hk] at h; cases h; rfl

/-- STEERING COMES FROM ~V AND ~W ONLY: the steering values after reading a document are those after reading only its
~V and ~W sections (which then also read successfully) -/
theorem docSections_steer_filter (o : ReadOpts) (secs : List (Str × List Str)) (n n₂ : Nat) (st st₂ r : RState)
    (hs : st.steer = st₂.steer) (h : docSections o secs n st = .ok r) :
    ∃ r₂, docSections o (secs.filter fun tb => isV tb || isW tb) n₂ st₂ = .ok r₂ ∧ r₂.steer = r.steer := by
  induction secs generalizing n n₂ st st₂ with
  | nil => simp only [docSections] at h; cases h; exact ⟨st₂, rfl, hs.symm⟩
  | cons tb rest ih =>
    obtain ⟨s, hd, h⟩ := docSections_cons_ok.mp h
    by_cases hvw : (isV tb || isW tb) = true
    · obtain ⟨s₂, hs₂, hst⟩ := docSection_steer_congr o n n₂ tb st st₂ s hs hd
      obtain ⟨r₂, hr₂, hrs⟩ := ih _ (n₂ + 1 + tb.2.length) s s₂ hst.symm h
      refine ⟨r₂, ?_, hrs⟩
      simp only [List.filter_cons, hvw, if_true]
      exact docSections_cons_ok.mpr ⟨s₂, hs₂, hr₂⟩
    · obtain ⟨hv, hw⟩ : isV tb = false ∧ isW tb = false := by simpa using hvw
      have := docSection_steer_nonVW o n tb st s hv hw hd
      obtain ⟨r₂, hr₂, hrs⟩ := ih _ n₂ s st₂ (this.trans hs) h
      refine ⟨r₂, ?_, hrs⟩
      simp only [List.filter_cons, hvw, Bool.false_eq_true, if_false]
      exact hr₂


end Lasio.Rd
