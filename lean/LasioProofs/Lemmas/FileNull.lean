import LasioProofs.Lemmas.FileEngines
import LasioProofs.Lemmas.PlantLemmas
import LasioProofs.Props.C06
/-
C06 at whole-file level, helper lemmas for Props/C06File: the curves of a data record in terms of the engine's raw columns, and
where `steer.null` comes from (a section that is not a ~W header section leaves it alone; the last ~W header section decides).
-/
namespace Lasio.Tf
open Lasio Lasio.Dt

/-! ## §1 curves and raw columns -/

/-- cell `i` of curve `j` when that curve is a float curve -/
def curveCell (curves : List (Slot × Column)) (j i : Nat) : Option Str := floatCell (curves.map Prod.snd) j i

/-- the data of curve `j` is column `j` of the assigned columns, for every column there is -/
theorem assignCurves_snd_getElem? (d : Nat) (cols : List Column) (j : Nat) (hj : j < cols.length) :
    ((assignCurves d cols).map Prod.snd)[j]? = cols[j]? := by
  rw [List.getElem?_map, C07_assign_column d cols j cols[j] (by simp [hj])]
  simp [hj]

theorem curveCell_assign (d : Nat) (cols : List Column) (j i : Nat) (hj : j < cols.length) :
    curveCell (assignCurves d cols) j i = floatCell cols j i := by
  unfold curveCell floatCell
  rw [assignCurves_snd_getElem? d cols j hj]

/-! ## §2 the source of `steer.null` -/

/-- the value of the single item that answers to NULL among `items` (`"NULL" in section` / `section.NULL`): `none` when there is
no such item or more than one (their session mnemonics are `NULL:1`, `NULL:2`, …) -/
def nullOfItems (o : Rd.ReadOpts) (items : List Rd.RItem) : Option Str :=
  (Rd.lookupItem (trOf o) items "NULL".toList).map (·.value)

theorem nullOfItems_eq (o : Rd.ReadOpts) (items : List Rd.RItem) :
    nullOfItems o items = (Rd.uniq (items.filter fun it => Rd.mcmp (trOf o) (Rd.U it) "NULL".toList)).map (·.value) := by
  unfold nullOfItems
  rw [Rd.lookupItem_eq _ _ (Rd.steerKey_nocolon _ _ (by simp [Rd.steerKeys]))]

/-- a section that is not a ~W header section leaves `steer.null` alone (whatever items it has: ~V, ~P, ~C, custom, ~O, data) -/
theorem docSection_null_nonW (o : Rd.ReadOpts) (n : Nat) (tb : Str × List Str) (st r : Rd.RState) (hw : Rd.isW tb = false)
    (h : Rd.docSection o n tb st = .ok r) : r.steer.null = st.steer.null := by
  cases hk : Rd.sectionType (Rd.sline tb.1) with
  | items =>
    have hW : (Rd.titleLetter (Rd.sline tb.1) == ['W']) = false := by simpa [Rd.isW, hk] using hw
    obtain ⟨p, items, _, _, hf⟩ := (Rd.docSection_items hk).mp h
    obtain ⟨k, _, _, rfl⟩ := Rd.finishItems_ok o _ items st r hf
    simp only [Rd.steer_null, hW, Bool.false_eq_true, if_false]
  | other => rw [Rd.docSection_other hk] at h; cases h; rfl
  | data => rw [Rd.docSection_data hk] at h; cases h; rfl
  | las3data => rw [Rd.docSection_las3data hk] at h; cases h; rfl

/-- a ~W header section: `steer.null` becomes the value of its single NULL item, and is kept when it has none or several -/
theorem docSection_null_W (o : Rd.ReadOpts) (n : Nat) (tb : Str × List Str) (st r : Rd.RState) (hw : Rd.isW tb = true)
    (h : Rd.docSection o n tb st = .ok r) :
    ∃ p, Rd.mkParser (Rd.lineStrip tb.1) (Rd.classifyVer st.steer.vers) = .ok p ∧
      r.steer.null = Rd.orKeep (nullOfItems o (Rd.bodyItems o p tb.2)) st.steer.null := by
  have hk : Rd.sectionType (Rd.sline tb.1) = .items := by
    cases hk : Rd.sectionType (Rd.sline tb.1) <;> simp [Rd.isW, hk] at hw ⊢
  have hW : (Rd.titleLetter (Rd.sline tb.1) == ['W']) = true := by simpa [Rd.isW, hk] using hw
  obtain ⟨p, items, hp, hb, hf⟩ := (Rd.docSection_items hk).mp h
  obtain ⟨_, rfl⟩ := (Rd.bodyRun_ok_iff o p _ _ _).mp hb
  obtain ⟨k, _, _, rfl⟩ := Rd.finishItems_ok o _ _ st r hf
  exact ⟨p, hp, by simp only [Rd.steer_null, hW, if_true, nullOfItems]⟩

/-- sections none of which is a ~W header section leave `steer.null` alone -/
theorem docSections_null_nonW (o : Rd.ReadOpts) (secs : List (Str × List Str)) (n : Nat) (st r : Rd.RState)
    (hw : ∀ tb ∈ secs, Rd.isW tb = false) (h : Rd.docSections o secs n st = .ok r) : r.steer.null = st.steer.null := by
  induction secs generalizing n st with
  | nil => simp only [Rd.docSections] at h; cases h; rfl
  | cons tb rest ih =>
    obtain ⟨s1, hd, h⟩ := Rd.docSections_cons_ok.mp h
    rw [ih _ s1 (fun x hx => hw x (List.mem_cons_of_mem _ hx)) h,
      docSection_null_nonW o n tb st s1 (hw tb List.mem_cons_self) hd]

/-- THE SOURCE OF NULL, file level: `(tW, bW)` is the LAST ~W header section of the document; the NULL of the header is the value
of its single NULL item, or — when it has none or several — what the sections before it left -/
theorem readLines_null_last (o : Rd.ReadOpts) (pre : List Str) (A B : List (Str × List Str)) (tW : Str) (bW : List Str)
    (hpre : ∀ x ∈ pre, Rd.isTitle x = false) (hw : Rd.WellFormed (A ++ (tW, bW) :: B))
    (hW : Rd.isW (tW, bW) = true) (hB : ∀ tb ∈ B, Rd.isW tb = false) (h : Rd.RHeader)
    (hr : Rd.readLines o (pre ++ Rd.flat (A ++ (tW, bW) :: B)) = .ok h) :
    ∃ sA ver p, Rd.docSections o A pre.length Rd.RState.init = .ok sA ∧ Rd.mkParser (Rd.lineStrip tW) ver = .ok p ∧
      h.steer.null = Rd.orKeep (nullOfItems o (Rd.bodyItems o p bW)) sA.steer.null := by
  obtain ⟨_, st, hd, _, _, rfl⟩ := (readLines_ok_doc hpre hw).mp hr
  obtain ⟨sA, s2, hA, hT, hd⟩ := docSections_middle_ok.mp hd
  obtain ⟨p, hp, hn⟩ := docSection_null_W o _ (tW, bW) sA s2 hW hT
  refine ⟨sA, _, p, hA, hp, ?_⟩
  dsimp only
  rw [docSections_null_nonW o B _ s2 st hB hd, hn]

end Lasio.Tf
