import LasioProofs.Props.C03
import LasioProofs.Lemmas.WriteObjLemmas
/-
Helper lemmas for C11File (the whole-file fixed point of write -> read -> write -> read on the header): the LASFile built from a
re-read header (`lasOfRead`), the hypotheses on the object (`FileConf`, and `Fd.FileConfD` which allows a DLM item of value SPACE;
`CycleConf`, `SpeltConf`), and the cycle itself (`Fd.cycle_core_dlm`, `cycle_core`).
-/
namespace Lasio.Cy

open Lasio Lasio.Wr

/-- the character map behind `caseMap` -/
def caseC : MCase → Char → Char
  | .preserve => id
  | .upper => upperC
  | .lower => lowerC

theorem caseMap_eq_map (c : MCase) (m : Str) : caseMap c m = m.map (caseC c) := by
  cases c <;> simp [caseMap, caseC, upper, lower]

theorem caseC_letterMap (c : MCase) : LetterMap (caseC c) := by
  cases c
  · exact fun _ => Or.inl rfl
  · exact upperC_letterMap
  · exact lowerC_letterMap

theorem caseMap_idem (c : MCase) (m : Str) : caseMap c (caseMap c m) = caseMap c m := by
  cases c
  · rfl
  · exact upper_idem m
  · simp [caseMap, lower, List.map_map, Function.comp_def, lowerC_idem]

theorem upper_caseMap (c : MCase) (m : Str) : upper (caseMap c m) = upper m := by
  cases c
  · rfl
  · exact upper_idem m
  · exact upper_lower m

/-! ## the mnemonic conditions survive the case map -/

theorem caseMap_ne_nil (c : MCase) (m : Str) (h : m ≠ []) : caseMap c m ≠ [] := by
  rw [caseMap_eq_map]
  simpa using h

theorem caseMap_head (c : MCase) (m : Str) : (caseMap c m).head? = m.head?.map (caseC c) := by
  rw [caseMap_eq_map]; cases m <;> rfl

theorem caseMap_getLast (c : MCase) (m : Str) : (caseMap c m).getLast? = m.getLast?.map (caseC c) := by
  rw [caseMap_eq_map, List.getLast?_map]

theorem caseMap_strip (c : MCase) (m : Str) (h : strip m = m) : strip (caseMap c m) = caseMap c m := by
  apply strip_eq_self
  · intro x hx
    rw [caseMap_head] at hx
    obtain ⟨y, hm, rfl⟩ := Option.map_eq_some_iff.mp hx
    rw [letterMap_space (caseC_letterMap c)]
    exact head_nospace_of_strip h y hm
  · intro x hx
    rw [caseMap_getLast] at hx
    obtain ⟨y, hm, rfl⟩ := Option.map_eq_some_iff.mp hx
    rw [letterMap_space (caseC_letterMap c)]
    exact last_nospace_of_strip h y hm

theorem caseMap_chars (c : MCase) (m : Str) (x : Char) (hx : ¬ LetterCode x.toNat) (h : ∀ ch ∈ m, ch ≠ x) :
    ∀ ch ∈ caseMap c m, ch ≠ x := by
  intro ch hch
  rw [caseMap_eq_map] at hch
  obtain ⟨y, hy, rfl⟩ := List.mem_map.mp hch
  intro e
  exact h y hy ((letterMap_eq (caseC_letterMap c) y x hx).mp e)

theorem caseMap_head_ne (c : MCase) (m : Str) (x : Char) (hx : ¬ LetterCode x.toNat) (h : m.head? ≠ some x) :
    (caseMap c m).head? ≠ some x := by
  rw [caseMap_head]
  cases hm : m.head? with
  | none => simp
  | some y =>
    simp only [Option.map_some, ne_eq, Option.some.injEq]
    intro e
    apply h
    rw [hm, (letterMap_eq (caseC_letterMap c) y x hx).mp e]

/-! ## the LASFile obtained from a re-read header -/

/-- how the value text of a re-read item comes back as a Python value (`num()` in the code): the writer sees it through
`str()`, `not v`, `v == 0`, `v is None` -/
structure Retype (rv : Str → WVal) : Prop where
  notNone : ∀ t, (rv t).isNone = false
  /-- a falsy value that is not zero is the empty string -/
  falsy : ∀ t, (rv t).falsy = true → (rv t).isZero = false → t = []

theorem retype_str : Retype WVal.str where
  notNone := fun _ => rfl
  falsy := fun t h _ => by simpa [WVal.str] using h

/-- `str(num(t)) = t`: the re-typed value prints as it is spelt in the file -/
def Spelt (rv : Str → WVal) (t : Str) : Prop := (rv t).text = t

theorem spelt_str (t : Str) : Spelt WVal.str t := rfl

/-- the `HeaderItem` a re-read line becomes: mnemonic as read (`original_mnemonic`), session mnemonic `s` -/
def mkRead (rv : Str → WVal) (s : Str) (r : Rd.RItem) : WItem := ⟨r.orig, s, r.unit, rv r.value, r.descr⟩

/-- the items of a re-read section with the session mnemonics `SectionItems.append` gives them one after the other -/
def itemsOfRead (rv : Str → WVal) (tr : Bool) (l : List Rd.RItem) : List WItem :=
  List.zipWith (mkRead rv) (Rd.sessionNames tr l) l

theorem sessionGo_length (tr : Bool) (before us : List Str) : (Rd.sessionGo tr before us).length = us.length := by
  induction us generalizing before with
  | nil => rfl
  | cons u us ih => simp [Rd.sessionGo, ih]

theorem sessionNames_length (tr : Bool) (l : List Rd.RItem) : (Rd.sessionNames tr l).length = l.length := by
  simp [Rd.sessionNames, sessionGo_length]

theorem mem_zipWith {α β γ} (f : α → β → γ) (z : γ) (as : List α) (bs : List β) (h : z ∈ List.zipWith f as bs) :
    ∃ a b, a ∈ as ∧ b ∈ bs ∧ z = f a b := by
  rw [← List.map_uncurry_zip_eq_zipWith] at h
  obtain ⟨⟨a, b⟩, hab, rfl⟩ := List.mem_map.mp h
  exact ⟨a, b, (List.of_mem_zip hab).1, (List.of_mem_zip hab).2, rfl⟩

theorem mem_itemsOfRead (rv : Str → WVal) (tr : Bool) (l : List Rd.RItem) (z : WItem) (h : z ∈ itemsOfRead rv tr l) :
    ∃ s, ∃ r ∈ l, z = mkRead rv s r := by
  obtain ⟨s, r, _, hr, e⟩ := mem_zipWith _ z _ _ h
  exact ⟨s, r, hr, e⟩

theorem map_zipWith_right {α β γ δ} (f : α → β → γ) (g : γ → δ) (h : β → δ) : ∀ (as : List α) (bs : List β),
    as.length = bs.length → (∀ a, ∀ b ∈ bs, g (f a b) = h b) → (List.zipWith f as bs).map g = bs.map h := by
  intro as
  induction as with
  | nil => intro bs hl _; cases bs with
    | nil => rfl
    | cons b bs => simp at hl
  | cons a as ih =>
    intro bs hl hg
    cases bs with
    | nil => simp at hl
    | cons b bs =>
      simp only [List.zipWith_cons_cons, List.map_cons, List.cons.injEq]
      exact ⟨hg a b (by simp), ih bs (by simpa using hl) (fun a' b' hb' => hg a' b' (by simp [hb']))⟩

/-- a function of a re-read item that does not look at the session mnemonic, mapped over the re-read section -/
theorem itemsOfRead_map {δ} (rv : Str → WVal) (tr : Bool) (l : List Rd.RItem) (g : WItem → δ) (h : Rd.RItem → δ)
    (hg : ∀ s, ∀ r ∈ l, g (mkRead rv s r) = h r) : (itemsOfRead rv tr l).map g = l.map h :=
  map_zipWith_right _ g h _ l (sessionNames_length tr l) hg

theorem rdExpected_mkRead (o : Rd.ReadOpts) {rv : Str → WVal} (s : Str) (it : WItem) (hs : Spelt rv it.value.text) :
    rdExpected o (mkRead rv s (rdExpected o it)) = rdExpected o it := by
  unfold Spelt at hs
  simp [rdExpected, mkRead, caseMap_idem, hs]

theorem map_rdExpected_itemsOfRead (o : Rd.ReadOpts) {rv : Str → WVal} (tr : Bool) (items : List WItem)
    (hs : ∀ it ∈ items, Spelt rv it.value.text) :
    (itemsOfRead rv tr (items.map (rdExpected o))).map (rdExpected o) = items.map (rdExpected o) := by
  rw [itemsOfRead_map rv tr _ (rdExpected o) id, List.map_id]
  intro s r hr
  obtain ⟨it, hit, rfl⟩ := List.mem_map.mp hr
  exact rdExpected_mkRead o s it (hs it hit)

theorem conf_mkRead (o : Rd.ReadOpts) {rv : Str → WVal} (kind : SecName) (s : Str) (it : WItem)
    (hs : Spelt rv it.value.text) (h : TextConf kind it) : TextConf kind (mkRead rv s (rdExpected o it)) where
  mnem_ne := caseMap_ne_nil _ _ h.mnem_ne
  mnem_strip := caseMap_strip _ _ h.mnem_strip
  mnem_chars := fun ch hch =>
    ⟨caseMap_chars _ _ '.' notLetter_marks.1 (fun x hx => (h.mnem_chars x hx).1) ch hch,
     caseMap_chars _ _ ':' notLetter_marks.2.1 (fun x hx => (h.mnem_chars x hx).2) ch hch⟩
  unit_nosp := h.unit_nosp
  unit_nodd := h.unit_nodd
  unit_notnum := h.unit_notnum
  unit_nobr := h.unit_nobr
  unit_first := h.unit_first
  unit_last := h.unit_last
  value_strip := by unfold Spelt at hs; simpa [mkRead, rdExpected, hs] using h.value_strip
  value_nocolon := by unfold Spelt at hs; simpa [mkRead, rdExpected, hs] using h.value_nocolon
  value_nodd := by unfold Spelt at hs; simpa [mkRead, rdExpected, hs] using h.value_nodd
  descr_strip := h.descr_strip
  descr_nocolon := h.descr_nocolon

theorem mark_mkRead (o : Rd.ReadOpts) (rv : Str → WVal) (s : Str) (it : WItem)
    (h : it.orig.head? ≠ some '#' ∧ it.orig.head? ≠ some '~') :
    (mkRead rv s (rdExpected o it)).orig.head? ≠ some '#' ∧ (mkRead rv s (rdExpected o it)).orig.head? ≠ some '~' :=
  ⟨caseMap_head_ne _ _ '#' notLetter_marks.2.2.1 h.1, caseMap_head_ne _ _ '~' notLetter_marks.2.2.2 h.2⟩

/-- a property of written items that every read-back keeps holds for the items of the re-read section -/
theorem forall_itemsOfRead (o : Rd.ReadOpts) (rv : Str → WVal) (tr : Bool) (items : List WItem) {P Q : WItem → Prop}
    (h : ∀ it ∈ items, P it) (hPQ : ∀ s it, P it → Q (mkRead rv s (rdExpected o it))) :
    ∀ z ∈ itemsOfRead rv tr (items.map (rdExpected o)), Q z := by
  intro z hz
  obtain ⟨s, r, hr, rfl⟩ := mem_itemsOfRead rv tr _ z hz
  obtain ⟨it, hit, rfl⟩ := List.mem_map.mp hr
  exact hPQ s it (h it hit)

theorem conf_itemsOfRead (o : Rd.ReadOpts) {rv : Str → WVal} (kind : SecName) (tr : Bool)
    (items : List WItem) (hs : ∀ it ∈ items, Spelt rv it.value.text) (h : ∀ it ∈ items, TextConf kind it) :
    ∀ z ∈ itemsOfRead rv tr (items.map (rdExpected o)), TextConf kind z :=
  forall_itemsOfRead o rv tr items (fun it hit => And.intro (hs it hit) (h it hit)) fun s it hp => conf_mkRead o kind s it hp.1 hp.2

theorem mark_itemsOfRead (o : Rd.ReadOpts) (rv : Str → WVal) (tr : Bool)
    (items : List WItem) (h : ∀ it ∈ items, it.orig.head? ≠ some '#' ∧ it.orig.head? ≠ some '~') :
    ∀ z ∈ itemsOfRead rv tr (items.map (rdExpected o)), z.orig.head? ≠ some '#' ∧ z.orig.head? ≠ some '~' :=
  forall_itemsOfRead o rv tr items h (mark_mkRead o rv)

/-! ## value normalisation on re-read items -/

/-- an item that has a unit shows a value on its line -/
def ValueShown (it : WItem) : Prop := it.unit ≠ [] → it.value.text ≠ []

instance (it : WItem) : Decidable (ValueShown it) := by unfold ValueShown; infer_instance

theorem standardizeValue_retype {rv : Str → WVal} (hrv : Retype rv) (t u : Str) (h : u ≠ [] → t ≠ []) :
    standardizeValue (rv t) u = rv t := by
  unfold standardizeValue
  have h1 : (!u.isEmpty && (rv t).falsy && !(rv t).isZero) = false := by
    cases hu : u.isEmpty with
    | true => rfl
    | false =>
      cases hf : (rv t).falsy with
      | false => rfl
      | true =>
        cases hz : (rv t).isZero with
        | true => rfl
        | false =>
          exfalso
          exact h (by intro e; rw [e] at hu; cases hu) (hrv.falsy t hf hz)
  simp only [h1, Bool.false_eq_true, if_false, hrv.notNone]

theorem standardizeItems_itemsOfRead (o : Rd.ReadOpts) {rv : Str → WVal} (hrv : Retype rv) (tr : Bool)
    (items : List WItem) (h : ∀ it ∈ items, ValueShown it) :
    standardizeItems (itemsOfRead rv tr (items.map (rdExpected o))) = itemsOfRead rv tr (items.map (rdExpected o)) := by
  unfold standardizeItems
  conv => rhs; rw [← List.map_id (itemsOfRead rv tr (items.map (rdExpected o)))]
  apply List.map_congr_left
  intro z hz
  obtain ⟨s, r, hr, rfl⟩ := mem_itemsOfRead rv tr _ z hz
  obtain ⟨it, hit, rfl⟩ := List.mem_map.mp hr
  simp only [mkRead, rdExpected, id]
  rw [standardizeValue_retype hrv _ _ (h it hit)]

/-! ## ~Other: `splitlines` of the joined stripped lines -/

theorem splitlinesAux_step (ch : Char) (rest acc : Str) (hcr : ¬ ∃ r, ch = '\r' ∧ rest = '\n' :: r) :
    splitlinesAux (ch :: rest) acc =
      if isLineBreak ch then acc.reverse :: splitlinesAux rest [] else splitlinesAux rest (ch :: acc) := by
  conv => lhs; unfold splitlinesAux
  split
  · rename_i heq
    cases heq
  · rename_i heq
    cases heq
    exact absurd ⟨_, rfl, rfl⟩ hcr
  · rename_i heq
    cases heq
    rfl

theorem splitlinesAux_nobreak (s acc : Str) (hacc : ∀ c ∈ acc, isLineBreak c = false) :
    ∀ l ∈ splitlinesAux s acc, ∀ c ∈ l, isLineBreak c = false := by
  induction hn : s.length using Nat.strongRecOn generalizing s acc with
  | ind n ih =>
    cases s with
    | nil =>
      intro l hl
      unfold splitlinesAux at hl
      split at hl
      · cases hl
      · simp only [List.mem_singleton] at hl
        subst hl
        intro c hc
        exact hacc c (by simpa using hc)
    | cons ch rest =>
      by_cases hcr : ∃ r, ch = '\r' ∧ rest = '\n' :: r
      · obtain ⟨r, rfl, rfl⟩ := hcr
        intro l hl
        rcases List.mem_cons.mp (show l ∈ acc.reverse :: splitlinesAux r [] from hl) with rfl | hl
        · intro c hc; exact hacc c (by simpa using hc)
        · exact ih r.length (by subst hn; simp; omega) r [] (by simp) rfl l hl
      · rw [splitlinesAux_step ch rest acc hcr]
        split
        · intro l hl
          simp only [List.mem_cons] at hl
          rcases hl with rfl | hl
          · intro c hc; exact hacc c (by simpa using hc)
          · exact ih rest.length (by subst hn; simp) rest [] (by simp) rfl l hl
        · rename_i hb
          exact ih rest.length (by subst hn; simp) rest (ch :: acc)
            (by
              intro c hc
              rcases List.mem_cons.mp hc with rfl | hc
              · simpa using hb
              · exact hacc c hc) rfl

theorem splitlines_nobreak (t : Str) : ∀ l ∈ splitlines t, ∀ c ∈ l, isLineBreak c = false :=
  splitlinesAux_nobreak t [] (by simp)

theorem splitlinesAux_line (x rest acc : Str) (hx : ∀ c ∈ x, isLineBreak c = false) :
    splitlinesAux (x ++ rest) acc = splitlinesAux rest (x.reverse ++ acc) := by
  induction x generalizing acc with
  | nil => rfl
  | cons ch x ih =>
    have hb : isLineBreak ch = false := hx ch (by simp)
    have hcr : ¬ ∃ r, ch = '\r' ∧ x ++ rest = '\n' :: r := by
      rintro ⟨r, rfl, _⟩
      exact absurd hb (by decide)
    rw [List.cons_append, splitlinesAux_step ch (x ++ rest) acc hcr]
    simp only [hb, Bool.false_eq_true, if_false]
    rw [ih (ch :: acc) (fun c hc => hx c (by simp [hc]))]
    simp

/-- **`splitlines` inverts `"\n".join`** on lines without line breaks whose last line is not empty -/
theorem splitlines_join (ls : List Str) (hnb : ∀ l ∈ ls, ∀ c ∈ l, isLineBreak c = false)
    (hlast : ls.getLast? ≠ some []) : splitlines (joinWith ['\n'] ls) = ls := by
  unfold splitlines
  induction ls with
  | nil => rfl
  | cons x ls ih =>
    cases ls with
    | nil =>
      have hx : x ≠ [] := by
        intro e; apply hlast; rw [e]; rfl
      have := splitlinesAux_line x [] [] (hnb x (by simp))
      simp only [List.append_nil] at this
      simp only [joinWith, this]
      show (if x.reverse.isEmpty then [] else [x.reverse.reverse]) = [x]
      cases x with
      | nil => exact absurd rfl hx
      | cons a t => simp
    | cons y ys =>
      simp only [joinWith]
      rw [List.append_assoc, splitlinesAux_line x _ [] (hnb x (by simp))]
      have hcr : ¬ ∃ r, '\n' = '\r' ∧ joinWith ['\n'] (y :: ys) = '\n' :: r := by
        rintro ⟨r, h, _⟩; exact absurd h (by decide)
      rw [List.singleton_append, splitlinesAux_step '\n' _ _ hcr]
      have hb : isLineBreak '\n' = true := by decide
      simp only [hb, if_true, List.append_nil, List.reverse_reverse]
      rw [ih (fun l hl => hnb l (by simp [hl])) (by
        intro h; apply hlast
        rw [List.getLast?_cons_cons]; exact h)]

/-- the last ~Other line is not blank -/
def OtherLast (t : Str) : Prop := ((splitlines t).map strip).getLast? ≠ some []

instance (t : Str) : Decidable (OtherLast t) := by unfold OtherLast; infer_instance

/-- the ~Other text as the reader stores it -/
def otherRead (t : Str) : Str := joinWith ['\n'] ((splitlines t).map strip)

theorem splitlines_otherRead (t : Str) (h : OtherLast t) : splitlines (otherRead t) = (splitlines t).map strip := by
  apply splitlines_join _ _ h
  intro l hl c hc
  obtain ⟨l0, hl0, rfl⟩ := List.mem_map.mp hl
  exact splitlines_nobreak t l0 hl0 c (mem_strip l0 c hc)

theorem map_strip_otherRead (t : Str) (h : OtherLast t) :
    (splitlines (otherRead t)).map strip = (splitlines t).map strip := by
  rw [splitlines_otherRead t h, List.map_map]
  apply List.map_congr_left
  intro l _
  exact Rd.strip_idem l

/-- **the stored ~Other text is a fixed point** of write -> read when its last line is not blank -/
theorem otherRead_idem (t : Str) (h : OtherLast t) : otherRead (otherRead t) = otherRead t := by
  show joinWith ['\n'] ((splitlines (otherRead t)).map strip) = otherRead t
  rw [map_strip_otherRead t h]
  rfl

theorem otherOK_otherRead (t : Str) (h : OtherLast t) (ho : OtherOK t) : OtherOK (otherRead t) := by
  intro l hl
  rw [splitlines_otherRead t h] at hl
  obtain ⟨l0, hl0, rfl⟩ := List.mem_map.mp hl
  rw [Rd.strip_idem]
  exact ho l0 hl0

theorem otherLast_otherRead (t : Str) (h : OtherLast t) : OtherLast (otherRead t) := by
  unfold OtherLast
  rw [map_strip_otherRead t h]
  exact h

/-! ## list facts: first match, single match -/

theorem filter_singleton_decomp {α} (q : α → Bool) (l : List α) (y : α) (h : l.filter q = [y]) :
    ∃ A B, l = A ++ y :: B ∧ (∀ x ∈ A, q x = false) ∧ (∀ x ∈ B, q x = false) ∧ q y = true := by
  induction l with
  | nil => simp at h
  | cons a l ih =>
    by_cases ha : q a = true
    · simp only [List.filter_cons, ha, if_true, List.cons.injEq] at h
      obtain ⟨rfl, hl⟩ := h
      refine ⟨[], l, rfl, by simp, ?_, ha⟩
      intro x hx
      have := List.filter_eq_nil_iff.mp hl x hx
      simpa using this
    · have ha' : q a = false := by simpa using ha
      simp only [List.filter_cons, ha', Bool.false_eq_true, if_false] at h
      obtain ⟨A, B, e, hA, hB, hy⟩ := ih h
      refine ⟨a :: A, B, by rw [e]; rfl, ?_, hB, hy⟩
      intro x hx
      rcases List.mem_cons.mp hx with rfl | hx
      · simpa using ha
      · exact hA x hx

theorem set_mid {α} (A : List α) (y it : α) (B : List α) : (A ++ y :: B).set A.length it = A ++ it :: B := by
  induction A with
  | nil => rfl
  | cons a A ih => simp only [List.cons_append, List.length_cons, List.set_cons_succ, ih]

/-! ## `mnemonic_compare` -/

theorem useful_eq (o : Str) : useful o = Rd.usefulMn o := by
  unfold useful Rd.usefulMn
  cases strip o <;> rfl

theorem cmpStr_eq (tr : Bool) (a b : Str) : cmpStr tr a b = Rd.mcmp tr a b := rfl

theorem cmpStr_iff (tr : Bool) (a b : Str) : cmpStr tr a b = true ↔ Rd.ck tr a = Rd.ck tr b :=
  Rd.mcmp_true_iff tr a b

theorem cmpStr_comm (tr : Bool) (a b : Str) : cmpStr tr a b = cmpStr tr b a := Wo.cmpStr_comm tr a b

theorem cmpStr_congr_right (tr : Bool) (a b k : Str) (h : cmpStr tr a b = true) : cmpStr tr k a = cmpStr tr k b := by
  rw [Bool.eq_iff_iff, cmpStr_iff, cmpStr_iff, (cmpStr_iff tr a b).mp h]

theorem cmpStr_suffixed (tr : Bool) (key u d : Str) (hk : ':' ∉ Rd.ck tr key) : cmpStr tr key (u ++ ':' :: d) = false := by
  cases h : cmpStr tr key (u ++ ':' :: d) with
  | false => rfl
  | true =>
    have := (cmpStr_iff _ _ _).mp h
    exact absurd (this ▸ Rd.ck_colon tr u d) hk

/-- a session mnemonic is the useful mnemonic, possibly with a duplicate suffix `:k` -/
def SessForm (z : WItem) : Prop := z.session = useful z.orig ∨ ∃ k, z.session = useful z.orig ++ ':' :: natToStr k

/-- a key without colon matches a session mnemonic only when that is an unsuffixed useful mnemonic of the key's group -/
theorem sess_match (tr : Bool) (key : Str) (hk : ':' ∉ Rd.ck tr key) (z : WItem) (hz : SessForm z)
    (h : cmpStr tr key z.session = true) : z.session = useful z.orig ∧ cmpStr tr (useful z.orig) key = true := by
  rcases hz with e | ⟨k, e⟩
  · refine ⟨e, ?_⟩
    rw [cmpStr_comm, ← e]; exact h
  · rw [e, cmpStr_suffixed tr key _ _ hk] at h
    cases h

/-! ## `set_item` on a section in which the key's group is one unsuffixed item -/

/-- **In place.**  `section[key] = it` where exactly one item `y` has a useful mnemonic comparing equal to `key`, `y`'s session
mnemonic carries no suffix and `it` belongs to the same group: `y` is replaced by `it`, nothing else changes (no item is
appended, no suffix is handed out). -/
theorem wSetItem_unique (tr : Bool) (key : Str) (hk : ':' ∉ Rd.ck tr key) (it y : WItem) (l : List WItem)
    (hform : ∀ z ∈ l, SessForm z)
    (hgrp : l.filter (fun z => cmpStr tr (useful z.orig) key) = [y]) (hy : y.session = useful y.orig)
    (hit : cmpStr tr (useful it.orig) key = true) :
    ∃ A B, l = A ++ y :: B ∧ wSetItem tr key it l = A ++ it :: B ∧
      (∀ x ∈ A, cmpStr tr (useful x.orig) key = false) ∧ (∀ x ∈ B, cmpStr tr (useful x.orig) key = false) := by
  obtain ⟨A, B, e, hA, hB, hqy⟩ := filter_singleton_decomp _ l y hgrp
  refine ⟨A, B, e, ?_, hA, hB⟩
  have hpA : ∀ x ∈ A, cmpStr tr key x.session = false := by
    intro x hx
    cases h : cmpStr tr key x.session with
    | false => rfl
    | true =>
      have := (sess_match tr key hk x (hform x (by rw [e]; simp [hx])) h).2
      rw [hA x hx] at this; cases this
  have hpy : cmpStr tr key y.session = true := by
    rw [hy, cmpStr_comm]; exact hqy
  have hff := Wo.findFirst_append_hit (fun x : WItem => cmpStr tr key x.session) A y B hpA hpy
  unfold wSetItem
  rw [e, hff]
  simp only [set_mid]
  unfold wAssignSuffixes
  have hsame : (fun z : WItem => cmpStr tr (useful z.orig) (useful it.orig)) =
      (fun z : WItem => cmpStr tr (useful z.orig) key) := by
    funext z; exact cmpStr_congr_right tr _ _ _ hit
  rw [hsame]
  have hf : (A ++ it :: B).filter (fun z : WItem => cmpStr tr (useful z.orig) key) = [it] := by
    rw [List.filter_append, List.filter_cons, hit]
    simp only [if_true]
    rw [List.filter_eq_nil_iff.mpr (fun x hx => by simp [hA x hx]),
      List.filter_eq_nil_iff.mpr (fun x hx => by simp [hB x hx])]
    rfl
  rw [hf]
  simp

/-! ## the session mnemonics of re-read items -/

theorem sessForm_go (rv : Str → WVal) (tr : Bool) (l : List Rd.RItem) (before : List Str) :
    ∀ z ∈ List.zipWith (mkRead rv) (Rd.sessionGo tr before (l.map Rd.U)) l, SessForm z := by
  induction l generalizing before with
  | nil => intro z hz; simp [Rd.sessionGo] at hz
  | cons r rest ih =>
    intro z hz
    simp only [List.map_cons, Rd.sessionGo, List.zipWith_cons_cons, List.mem_cons] at hz
    rcases hz with rfl | hz
    · unfold SessForm
      simp only [mkRead, useful_eq]
      split
      · exact Or.inr ⟨_, rfl⟩
      · exact Or.inl rfl
    · exact ih _ z hz

/-- the single item of a group keeps its useful mnemonic as session mnemonic -/
theorem unsuffixed_go (rv : Str → WVal) (tr : Bool) (key : Str) (l : List Rd.RItem) (before : List Str)
    (hb : ∀ v ∈ before, Rd.mcmp tr v key = false)
    (hone : (l.filter (fun r => Rd.mcmp tr (Rd.U r) key)).length = 1) :
    ∀ z ∈ List.zipWith (mkRead rv) (Rd.sessionGo tr before (l.map Rd.U)) l,
      cmpStr tr (useful z.orig) key = true → z.session = useful z.orig := by
  induction l generalizing before with
  | nil => intro z hz; simp [Rd.sessionGo] at hz
  | cons r rest ih =>
    intro z hz hq
    simp only [List.map_cons, Rd.sessionGo, List.zipWith_cons_cons, List.mem_cons] at hz
    by_cases hr : Rd.mcmp tr (Rd.U r) key = true
    · have hrest : rest.filter (fun r => Rd.mcmp tr (Rd.U r) key) = [] := by
        simp only [List.filter_cons, hr, if_true, List.length_cons] at hone
        exact List.length_eq_zero_iff.mp (by omega)
      rcases hz with rfl | hz
      · have hsame : ∀ v, Rd.mcmp tr v (Rd.U r) = Rd.mcmp tr v key := by
          intro v; rw [Rd.mcmp_eq_ck, Rd.mcmp_eq_ck, (Rd.mcmp_true_iff _ _ _).mp hr]
        have h1 : before.filter (fun v => Rd.mcmp tr v (Rd.U r)) = [] := by
          apply List.filter_eq_nil_iff.mpr
          intro v hv; rw [hsame, hb v hv]; simp
        have h2 : (rest.map Rd.U).filter (fun v => Rd.mcmp tr v (Rd.U r)) = [] := by
          apply List.filter_eq_nil_iff.mpr
          intro v hv
          obtain ⟨r', hr', rfl⟩ := List.mem_map.mp hv
          rw [hsame]
          have := List.filter_eq_nil_iff.mp hrest r' hr'
          simpa using this
        simp only [h1, h2, mkRead, useful_eq, List.length_nil]
        simp
      · exfalso
        obtain ⟨s, r', _, hr', rfl⟩ := mem_zipWith _ z _ _ hz
        have := List.filter_eq_nil_iff.mp hrest r' hr'
        simp only [mkRead, useful_eq, cmpStr_eq] at hq
        exact this hq
    · have hr' : Rd.mcmp tr (Rd.U r) key = false := by simpa using hr
      rcases hz with rfl | hz
      · simp only [mkRead, useful_eq, cmpStr_eq] at hq
        rw [show Rd.usefulMn r.orig = Rd.U r from rfl, hr'] at hq
        cases hq
      · apply ih (before ++ [Rd.U r]) _ _ z hz hq
        · intro v hv
          rcases List.mem_append.mp hv with hv | hv
          · exact hb v hv
          · simp only [List.mem_singleton] at hv; subst hv; exact hr'
        · simpa [List.filter_cons, hr'] using hone

/-! ## what `set_item` keeps: the written ~Version section holds the VERS and WRAP items `write` substitutes -/

theorem rdExpected_of_text (o : Rd.ReadOpts) {a b : WItem} (h : RH.textOf a = RH.textOf b) :
    rdExpected o a = rdExpected o b := by
  obtain ⟨a1, a2, a3, a4, a5⟩ := a
  obtain ⟨b1, b2, b3, b4, b5⟩ := b
  simp only [RH.textOf, Prod.mk.injEq] at h
  obtain ⟨rfl, rfl, rfl, rfl⟩ := h
  rfl

theorem wRenumber_mem (tr : Bool) (t : Str) (L : List WItem) (k : Nat) :
    ∀ x ∈ L, ∃ z ∈ wRenumber tr t L k, RH.textOf z = RH.textOf x ∧
      (z.session = x.session ∨ ∃ n, z.session = useful x.orig ++ ':' :: natToStr n) := by
  induction L generalizing k with
  | nil => intro x hx; cases hx
  | cons a L ih =>
    intro x hx
    unfold wRenumber
    split
    · rcases List.mem_cons.mp hx with rfl | hx
      · exact ⟨{ x with session := useful x.orig ++ ':' :: natToStr (k + 1) }, List.mem_cons_self, rfl,
          Or.inr ⟨_, rfl⟩⟩
      · obtain ⟨z, hz, h1, h2⟩ := ih (k + 1) x hx
        exact ⟨z, by simp [hz], h1, h2⟩
    · rcases List.mem_cons.mp hx with rfl | hx
      · exact ⟨x, List.mem_cons_self, rfl, Or.inl rfl⟩
      · obtain ⟨z, hz, h1, h2⟩ := ih k x hx
        exact ⟨z, by simp [hz], h1, h2⟩

theorem wAssignSuffixes_mem (tr : Bool) (t : Str) (L : List WItem) :
    ∀ x ∈ L, ∃ z ∈ wAssignSuffixes tr t L, RH.textOf z = RH.textOf x ∧
      (z.session = x.session ∨ ∃ n, z.session = useful x.orig ++ ':' :: natToStr n) := by
  intro x hx
  unfold wAssignSuffixes
  split
  · exact wRenumber_mem tr t L 0 x hx
  · exact ⟨x, hx, rfl, Or.inl rfl⟩

/-- `section[key] = it`: `it` is appended, or put in the place of the first item whose session mnemonic matches `key`; then
the suffixes of `it`'s group are handed out -/
theorem wSetItem_cases (tr : Bool) (key : Str) (it : WItem) (items : List WItem) :
    ∃ L, wSetItem tr key it items = wAssignSuffixes tr (useful it.orig) L ∧
      (L = items ++ [it] ∨ ∃ A y B, items = A ++ y :: B ∧ L = A ++ it :: B ∧ cmpStr tr key y.session = true) := by
  unfold wSetItem
  cases hf : findFirst (fun x : WItem => cmpStr tr key x.session) items with
  | none => exact ⟨items ++ [it], rfl, Or.inl rfl⟩
  | some i =>
    obtain ⟨A, y, B, e, hl, hy, _⟩ := Wo.findFirst_decomp _ _ _ hf
    refine ⟨A ++ it :: B, ?_, Or.inr ⟨A, y, B, e, rfl, hy⟩⟩
    rw [e, ← hl]
    simp only [set_mid]

theorem wSetItem_has (tr : Bool) (key : Str) (it : WItem) (items : List WItem) :
    ∃ z ∈ wSetItem tr key it items, RH.textOf z = RH.textOf it ∧
      (z.session = it.session ∨ ∃ n, z.session = useful it.orig ++ ':' :: natToStr n) := by
  obtain ⟨L, e, hL⟩ := wSetItem_cases tr key it items
  rw [e]
  apply wAssignSuffixes_mem tr _ L it
  rcases hL with rfl | ⟨A, y, B, _, rfl, _⟩
  · exact List.mem_append_right _ (List.mem_singleton_self it)
  · exact List.mem_append_right _ List.mem_cons_self

theorem wSetItem_keeps (tr : Bool) (key : Str) (it : WItem) (items : List WItem) (z : WItem) (hz : z ∈ items)
    (hp : cmpStr tr key z.session = false) : ∃ z' ∈ wSetItem tr key it items, RH.textOf z' = RH.textOf z := by
  obtain ⟨L, e, hL⟩ := wSetItem_cases tr key it items
  have hzL : z ∈ L := by
    rcases hL with rfl | ⟨A, y, B, rfl, rfl, hy⟩
    · exact List.mem_append_left _ hz
    · simp only [List.mem_append, List.mem_cons] at hz ⊢
      rcases hz with h | rfl | h
      · exact Or.inl h
      · rw [hy] at hp; cases hp
      · exact Or.inr (Or.inr h)
  rw [e]
  obtain ⟨z', hz', h1, _⟩ := wAssignSuffixes_mem tr (useful it.orig) L z hzL
  exact ⟨z', hz', h1⟩

theorem cmpStr_head_ne (tr : Bool) (a b : Char) (as bs : Str) (h1 : a ≠ b) (h2 : upperC a ≠ upperC b) :
    cmpStr tr (a :: as) (b :: bs) = false := by
  cases tr <;> simp [cmpStr, upper, h1, h2]

theorem versItem_some (version : String) (hver : version = "1.2" ∨ version = "2.0") : ∃ vers, versItem version = some vers := by
  rcases hver with rfl | rfl
  · exact ⟨_, rfl⟩
  · exact ⟨_, rfl⟩

theorem versionCopy_has_vers (version : String) (wrap : Option Bool) (las : WLas) (vers : WItem)
    (hv : versItem version = some vers) : ∃ z ∈ RH.versionCopy version wrap las, RH.textOf z = RH.textOf vers := by
  unfold RH.versionCopy
  rw [hv]
  obtain ⟨z, hz, h1, _⟩ := wSetItem_has las.versionTr "VERS".toList vers (RH.wrapSection wrap las)
  exact ⟨z, hz, h1⟩

/-- the WRAP item `write` puts into ~Version is still there after VERS has been set -/
theorem versionCopy_has_wrap (version : String) (w : Bool) (las : WLas) :
    ∃ z ∈ RH.versionCopy version (some w) las, RH.textOf z = RH.textOf (wrapItem w) := by
  obtain ⟨z0, hz0, ht0, hs0⟩ := wSetItem_has las.versionTr "WRAP".toList (wrapItem w) las.version
  have hsess : cmpStr las.versionTr "VERS".toList z0.session = false := by
    rcases hs0 with e | ⟨n, e⟩
    · rw [e]
      cases w <;> cases las.versionTr <;> decide
    · rw [e]
      have : useful (wrapItem w).orig = 'W' :: "RAP".toList := by cases w <;> decide
      rw [this]
      exact cmpStr_head_ne _ 'V' 'W' _ _ (by decide) (by decide)
  unfold RH.versionCopy
  cases hv : versItem version with
  | none => exact ⟨z0, hz0, ht0⟩
  | some vers =>
    simp only []
    obtain ⟨z', hz', h1⟩ := wSetItem_keeps las.versionTr "VERS".toList vers (RH.wrapSection (some w) las) z0 hz0 hsess
    exact ⟨z', hz', h1.trans ht0⟩

/-! ## the ~Version section of the re-read file is written as the same lines again -/

/-- the reader's `mnemonic_compare` of the (case-mapped, useful) mnemonic of a written item with `key`: the test of
`"VERS" in section` / `section.VERS` (the predicate of `VersOK`) -/
def inGroup (o : Rd.ReadOpts) (key : Str) (it : WItem) : Bool :=
  Rd.mcmp (o.mnemonicCase != .preserve) (Rd.usefulMn (caseMap (RH.cvtCase o.mnemonicCase) it.orig)) key

/-- exactly one item of the written ~Version section is WRAP for the reader -/
def WrapOK (o : Rd.ReadOpts) (vcopy : List WItem) : Prop := ∃ x, vcopy.filter (inGroup o "WRAP".toList) = [x]

theorem versOK_iff (o : Rd.ReadOpts) (version : String) (vcopy : List WItem) :
    VersOK o version vcopy ↔ ∃ x, vcopy.filter (inGroup o "VERS".toList) = [x] ∧ x.value.text = version.toList :=
  Iff.rfl

theorem filter_single_elem {α} (p : α → Bool) (l : List α) (x z : α) (h : l.filter p = [x]) (hz : z ∈ l)
    (hp : p z = true) : z = x := by
  have : z ∈ l.filter p := List.mem_filter.mpr ⟨hz, hp⟩
  rw [h] at this
  simpa using this

theorem inGroup_orig (o : Rd.ReadOpts) (key : Str) {a b : WItem} (h : a.orig = b.orig) :
    inGroup o key a = inGroup o key b := by
  unfold inGroup; rw [h]

/-- the group of `key` in the re-read section is one item, unsuffixed, which reads back like the original one -/
theorem group_reread (o : Rd.ReadOpts) {rv : Str → WVal} (key : Str) (V : List WItem) (x : WItem)
    (hs : ∀ it ∈ V, Spelt rv it.value.text) (h : V.filter (inGroup o key) = [x]) :
    ∃ y, (itemsOfRead rv (o.mnemonicCase != .preserve) (V.map (rdExpected o))).filter
        (fun z => cmpStr (o.mnemonicCase != .preserve) (useful z.orig) key) = [y] ∧
      y.session = useful y.orig ∧ rdExpected o y = rdExpected o x := by
  have hP : (fun r : Rd.RItem => Rd.mcmp (o.mnemonicCase != .preserve) (Rd.U r) key) ∘ rdExpected o = inGroup o key := rfl
  have hR : (V.map (rdExpected o)).filter (fun r => Rd.mcmp (o.mnemonicCase != .preserve) (Rd.U r) key) =
      [rdExpected o x] := by
    rw [List.filter_map, hP, h]; rfl
  have hone : ((V.map (rdExpected o)).filter (fun r => Rd.mcmp (o.mnemonicCase != .preserve) (Rd.U r) key)).length = 1 := by
    rw [hR]; rfl
  have hlen : ((itemsOfRead rv (o.mnemonicCase != .preserve) (V.map (rdExpected o))).filter
      (fun z => cmpStr (o.mnemonicCase != .preserve) (useful z.orig) key)).length = 1 := by
    rw [← hone, ← List.countP_eq_length_filter, ← List.countP_eq_length_filter]
    have := congrArg (List.countP id) (itemsOfRead_map rv (o.mnemonicCase != .preserve) (V.map (rdExpected o))
      (fun z => cmpStr (o.mnemonicCase != .preserve) (useful z.orig) key)
      (fun r => Rd.mcmp (o.mnemonicCase != .preserve) (Rd.U r) key) (fun s r _ => by simp only [mkRead, useful_eq]; rfl))
    rwa [List.countP_map, List.countP_map] at this
  obtain ⟨y, hy⟩ := List.length_eq_one_iff.mp hlen
  obtain ⟨h1, h2⟩ := List.mem_filter.mp (show y ∈ (itemsOfRead rv (o.mnemonicCase != .preserve) (V.map (rdExpected o))).filter
      (fun z => cmpStr (o.mnemonicCase != .preserve) (useful z.orig) key) by rw [hy]; exact List.mem_singleton_self y)
  refine ⟨y, hy, unsuffixed_go rv _ key _ [] (fun _ h => nomatch h) hone y h1 h2, ?_⟩
  · obtain ⟨s, r, hr, rfl⟩ := mem_itemsOfRead rv _ _ y h1
    obtain ⟨x', hx', rfl⟩ := List.mem_map.mp hr
    have hg : inGroup o key x' = true := by
      simp only [mkRead, useful_eq] at h2
      exact h2
    have hxe : x' = x := filter_single_elem _ V x x' h hx' hg
    subst hxe
    exact rdExpected_mkRead o s x' (hs x' hx')

theorem groups_disjoint (tr : Bool) (a : Str) (h : cmpStr tr a "WRAP".toList = true) : cmpStr tr a "VERS".toList = false :=
  Wo.wrap_ne_vers tr a (by rw [Wo.cmpStr_comm]; exact h)

theorem wrapItem_facts (tr : Bool) (w : Bool) :
    (wrapItem w).session = useful (wrapItem w).orig ∧ cmpStr tr (useful (wrapItem w).orig) "WRAP".toList = true ∧
    cmpStr tr (useful (wrapItem w).orig) "VERS".toList = false := by
  cases w <;> cases tr <;> decide

theorem versItem_facts (tr : Bool) (version : String) (vers : WItem) (h : versItem version = some vers) :
    vers.orig = "VERS".toList ∧ vers.session = useful vers.orig ∧ cmpStr tr (useful vers.orig) "VERS".toList = true := by
  unfold versItem at h
  split at h
  · cases h; cases tr <;> decide
  · split at h
    · cases h; cases tr <;> decide
    · cases h

theorem inGroup_VERS (o : Rd.ReadOpts) (it : WItem) (h : it.orig = "VERS".toList) : inGroup o "VERS".toList it = true := by
  obtain ⟨ig, mc⟩ := o
  unfold inGroup
  rw [h]
  cases mc <;> dsimp only <;> decide

theorem inGroup_WRAP (o : Rd.ReadOpts) (it : WItem) (h : it.orig = "WRAP".toList) : inGroup o "WRAP".toList it = true := by
  obtain ⟨ig, mc⟩ := o
  unfold inGroup
  rw [h]
  cases mc <;> dsimp only <;> decide

theorem wrapItem_orig (w : Bool) : (wrapItem w).orig = "WRAP".toList := by cases w <;> rfl

theorem textOf_orig {a b : WItem} (h : RH.textOf a = RH.textOf b) : a.orig = b.orig := congrArg (·.1) h

/-- **The ~Version section is stable.**  `V` is the ~Version section as written the first time (WRAP and VERS
substituted); it holds the VERS item and, when `wrap` is given, the WRAP item `write` substitutes, and exactly one item
of each of the two groups.  `las1` holds the re-read items of `V` (session mnemonics as `SectionItems.append` hands them
out, `mnemonic_transforms` as the reader sets it).  Then the second `write` replaces WRAP and VERS IN PLACE by items
that read back the same: the written copy reads back as the first one did; and `las1.version["WRAP"]` exists. -/
theorem versionCopy_reread (o : Rd.ReadOpts) {rv : Str → WVal} (version : String)
    (wrap : Option Bool) (V : List WItem) (las1 : WLas) (vers xv xw : WItem)
    (hs : ∀ it ∈ V, Spelt rv it.value.text)
    (hvi : versItem version = some vers)
    (hv1 : las1.version = itemsOfRead rv (o.mnemonicCase != .preserve) (V.map (rdExpected o)))
    (htr : las1.versionTr = (o.mnemonicCase != .preserve))
    (hgv : V.filter (inGroup o "VERS".toList) = [xv]) (hgw : V.filter (inGroup o "WRAP".toList) = [xw])
    (hVv : ∃ z ∈ V, RH.textOf z = RH.textOf vers)
    (hVw : ∀ w, wrap = some w → ∃ z ∈ V, RH.textOf z = RH.textOf (wrapItem w)) :
    (RH.versionCopy version wrap las1).map (rdExpected o) = V.map (rdExpected o) ∧
    ∃ i, findFirst (fun x : WItem => cmpStr las1.versionTr x.session "WRAP".toList) las1.version = some i := by
  have hkV : ':' ∉ Rd.ck (o.mnemonicCase != .preserve) "VERS".toList :=
    Rd.steerKey_nocolon _ _ (by simp [Rd.steerKeys])
  have hkW : ':' ∉ Rd.ck (o.mnemonicCase != .preserve) "WRAP".toList :=
    Rd.steerKey_nocolon _ _ (by simp [Rd.steerKeys])
  obtain ⟨yv, hfv, hsv, hrv'⟩ := group_reread (rv := rv) o "VERS".toList V xv hs hgv
  obtain ⟨yw, hfw, hsw, hrw'⟩ := group_reread (rv := rv) o "WRAP".toList V xw hs hgw
  rw [← hv1] at hfv hfw
  have hform : ∀ z ∈ las1.version, SessForm z := by
    rw [hv1]; exact sessForm_go rv _ _ []
  obtain ⟨hvo, hvs, hvq⟩ := versItem_facts (o.mnemonicCase != .preserve) version vers hvi
  -- the unique VERS item of `V` is the substituted one
  have hxv : rdExpected o xv = rdExpected o vers := by
    obtain ⟨z, hz, hzt⟩ := hVv
    have : z = xv := filter_single_elem _ V xv z hgv hz (inGroup_VERS o z ((textOf_orig hzt).trans hvo))
    rw [← this]; exact rdExpected_of_text o hzt
  have hmapV1 : las1.version.map (rdExpected o) = V.map (rdExpected o) := by
    rw [hv1]; exact map_rdExpected_itemsOfRead o _ V hs
  -- `las1.version["WRAP"]` exists
  have hqyw : cmpStr (o.mnemonicCase != .preserve) (useful yw.orig) "WRAP".toList = true := by
    have : yw ∈ las1.version.filter (fun z => cmpStr (o.mnemonicCase != .preserve) (useful z.orig) "WRAP".toList) := by
      rw [hfw]; simp
    exact (List.mem_filter.mp this).2
  have hfind : ∃ i, findFirst (fun x : WItem => cmpStr las1.versionTr x.session "WRAP".toList) las1.version = some i := by
    obtain ⟨A, B, e, _, _, _⟩ := filter_singleton_decomp _ _ _ hfw
    cases hf : findFirst (fun x : WItem => cmpStr las1.versionTr x.session "WRAP".toList) las1.version with
    | some i => exact ⟨i, rfl⟩
    | none =>
      exfalso
      have := Wo.findFirst_none hf yw (by rw [e]; simp)
      simp only [htr, hsw, hqyw] at this
      cases this
  refine ⟨?_, hfind⟩
  cases wrap with
  | none =>
    have hvc : RH.versionCopy version none las1 = wSetItem las1.versionTr "VERS".toList vers las1.version := by
      simp [RH.versionCopy, RH.wrapSection, hvi]
    rw [hvc, htr]
    obtain ⟨A, B, e, hset, _, _⟩ := wSetItem_unique _ "VERS".toList hkV vers yv las1.version hform hfv hsv hvq
    rw [hset, ← hmapV1, e]
    simp only [List.map_append, List.map_cons, hrv', hxv]
  | some w =>
    obtain ⟨hws, hwq, hwn⟩ := wrapItem_facts (o.mnemonicCase != .preserve) w
    have hxw : rdExpected o xw = rdExpected o (wrapItem w) := by
      obtain ⟨z, hz, hzt⟩ := hVw w rfl
      have : z = xw := filter_single_elem _ V xw z hgw hz (inGroup_WRAP o z ((textOf_orig hzt).trans (wrapItem_orig w)))
      rw [← this]; exact rdExpected_of_text o hzt
    have hvc : RH.versionCopy version (some w) las1 = wSetItem las1.versionTr "VERS".toList vers
        (wSetItem las1.versionTr "WRAP".toList (wrapItem w) las1.version) := by
      simp [RH.versionCopy, RH.wrapSection, hvi]
    rw [hvc, htr]
    obtain ⟨A, B, e, hset, hA, hB⟩ := wSetItem_unique _ "WRAP".toList hkW (wrapItem w) yw las1.version hform hfw hsw hwq
    rw [hset]
    have hform2 : ∀ z ∈ A ++ wrapItem w :: B, SessForm z := by
      intro z hz
      simp only [List.mem_append, List.mem_cons] at hz
      rcases hz with h | rfl | h
      · exact hform z (by rw [e]; simp [h])
      · exact Or.inl hws
      · exact hform z (by rw [e]; simp [h])
    have hfv2 : (A ++ wrapItem w :: B).filter (fun z => cmpStr (o.mnemonicCase != .preserve) (useful z.orig) "VERS".toList) = [yv] := by
      rw [← hfv, e]
      simp only [List.filter_append, List.filter_cons, hwn, groups_disjoint _ _ hqyw, Bool.false_eq_true, if_false]
    obtain ⟨A', B', e', hset', _, _⟩ := wSetItem_unique _ "VERS".toList hkV vers yv _ hform2 hfv2 hsv hvq
    rw [hset']
    have h1 : (A' ++ vers :: B').map (rdExpected o) = (A ++ wrapItem w :: B).map (rdExpected o) := by
      rw [e']
      simp only [List.map_append, List.map_cons, hrv', hxv]
    rw [h1, ← hmapV1, e]
    simp only [List.map_append, List.map_cons, hrw', hxw]

/-! ## the LASFile of a re-read header, and the cycle -/

/-- the items stored under key `k` of `las.sections` -/
def secItems (k : Rd.RKey) (secs : List (Rd.RKey × Rd.SecVal)) : List Rd.RItem :=
  match secs.lookup k with
  | some (.items l) => l
  | _ => []

/-- the text stored under key `k` -/
def secText (k : Rd.RKey) (secs : List (Rd.RKey × Rd.SecVal)) : Str :=
  match secs.lookup k with
  | some (.text t) => t
  | _ => []

/-- **The LASFile (header part) that `read` builds from the sections it parsed**: every section holds exactly the
re-read items — mnemonic as read, session mnemonics as `SectionItems.append` hands them out, value = the text that was
read re-typed by `rv` (`num()`; `WVal.str` keeps the text as a `str`) — `mnemonic_transforms` is `mnemonic_case != "preserve"`,
~Other is the stored text. -/
def lasOfRead (rv : Str → WVal) (o : Rd.ReadOpts) (secs : List (Rd.RKey × Rd.SecVal)) : WLas :=
  ⟨itemsOfRead rv (o.mnemonicCase != .preserve) (secItems Rd.kVersion secs), o.mnemonicCase != .preserve,
   itemsOfRead rv (o.mnemonicCase != .preserve) (secItems Rd.kWell secs),
   itemsOfRead rv (o.mnemonicCase != .preserve) (secItems Rd.kCurves secs),
   itemsOfRead rv (o.mnemonicCase != .preserve) (secItems Rd.kParameter secs),
   secText Rd.kOther secs⟩

/-- what the reader returns for the header `write` emits for `las` (the right-hand side of `C03_file`) -/
def firstRead (o : Rd.ReadOpts) (version : String) (wrap : Option Bool) (las : WLas) : List (Rd.RKey × Rd.SecVal) :=
  [(Rd.kVersion, .items ((RH.versionCopy version wrap las).map (rdExpected o))),
   (Rd.kWell, .items ((standardizeItems las.well).map (rdExpected o))),
   (Rd.kCurves, .items (las.curves.map (rdExpected o))),
   (Rd.kParameter, .items ((standardizeItems las.params).map (rdExpected o))),
   (Rd.kOther, .text (otherRead las.other))]

theorem lasOfRead_firstRead (rv : Str → WVal) (o : Rd.ReadOpts) (version : String) (wrap : Option Bool) (las : WLas) :
    lasOfRead rv o (firstRead o version wrap las) =
      ⟨itemsOfRead rv (o.mnemonicCase != .preserve) ((RH.versionCopy version wrap las).map (rdExpected o)),
       o.mnemonicCase != .preserve,
       itemsOfRead rv (o.mnemonicCase != .preserve) ((standardizeItems las.well).map (rdExpected o)),
       itemsOfRead rv (o.mnemonicCase != .preserve) (las.curves.map (rdExpected o)),
       itemsOfRead rv (o.mnemonicCase != .preserve) ((standardizeItems las.params).map (rdExpected o)),
       otherRead las.other⟩ := rfl

/-- the hypotheses of `C03_file` on `las` (+ no DLM item in ~Version, needed for `readLines`) -/
structure FileConf (o : Rd.ReadOpts) (version : String) (wrap : Option Bool) (las : WLas) : Prop where
  hcv : ∀ it ∈ RH.versionCopy version wrap las, TextConf .version it
  hcw : ∀ it ∈ standardizeItems las.well, TextConf .well it
  hcc : ∀ it ∈ las.curves, TextConf .curves it
  hcp : ∀ it ∈ standardizeItems las.params, TextConf .parameter it
  hmv : ∀ it ∈ RH.versionCopy version wrap las, it.orig.head? ≠ some '#' ∧ it.orig.head? ≠ some '~'
  hmw : ∀ it ∈ las.well, it.orig.head? ≠ some '#' ∧ it.orig.head? ≠ some '~'
  hmc : ∀ it ∈ las.curves, it.orig.head? ≠ some '#' ∧ it.orig.head? ≠ some '~'
  hmp : ∀ it ∈ las.params, it.orig.head? ≠ some '#' ∧ it.orig.head? ≠ some '~'
  hvers : VersOK o version (RH.versionCopy version wrap las)
  ho : OtherOK las.other
  hdlm : ∀ it ∈ RH.versionCopy version wrap las, upper it.orig ≠ "DLM".toList

/-! ## the hypotheses on a concrete object, by evaluation -/

/-- the clauses of `TextConf` for every section kind at once (`value_nodd` without its premise) -/
def TextOK (it : WItem) : Prop :=
  it.orig ≠ [] ∧ strip it.orig = it.orig ∧ (∀ c ∈ it.orig, c ≠ '.' ∧ c ≠ ':') ∧ (∀ c ∈ it.unit, isPySpace c = false) ∧
  ¬ hasDotDot it.unit ∧ (it.unit = [] ∨ ¬ allDigits it.unit) ∧ isBracketed it.unit = false ∧ it.unit.head? ≠ some '.' ∧
  it.unit.getLast? ≠ some '.' ∧ strip it.value.text = it.value.text ∧ (∀ c ∈ it.value.text, c ≠ ':') ∧
  ¬ hasDotDot it.value.text ∧ strip it.descr = it.descr ∧ ∀ c ∈ it.descr, c ≠ ':'

instance (it : WItem) : Decidable (TextOK it) := by unfold TextOK; infer_instance

theorem TextOK.conf {it : WItem} (h : TextOK it) (kind : SecName) : TextConf kind it := by
  obtain ⟨h1, h2, h3, h4, h5, h6, h7, h8, h9, h10, h11, h12, h13, h14⟩ := h
  exact ⟨h1, h2, h3, h4, h5, h6, h7, h8, h9, h10, h11, fun _ => h12, h13, h14⟩

theorem textConf_of_forall (l : List WItem) (h : ∀ it ∈ l, TextOK it) (kind : SecName) (it : WItem) (hit : it ∈ l) :
    TextConf kind it := (h it hit).conf kind

/-- `C03_file` in terms of `firstRead` -/
theorem read_written (o : Rd.ReadOpts) (version : String) (wrap : Option Bool) (w : Nat) (las las' : WLas)
    (lines : List Str) (h : headerLines version wrap w las = .ok (lines, las')) (hc : FileConf o version wrap las) :
    ∃ steer, Rd.readLines o lines = .ok ⟨firstRead o version wrap las, steer, []⟩ ∧ steer.vers = some version.toList := by
  obtain ⟨_, _, _, _, hr⟩ := C03_file o version wrap w las las' lines h hc.hcv hc.hcw hc.hcc hc.hcp hc.hmv hc.hmw
    hc.hmc hc.hmp hc.hvers hc.ho
  exact hr hc.hdlm

/-- `write` succeeds on the header: the version is 1.2 or 2.0, and with `wrap=None` the ~Version section has a WRAP item -/
theorem headerLines_total (version : String) (wrap : Option Bool) (w : Nat) (las : WLas)
    (hver : version = "1.2" ∨ version = "2.0")
    (hwk : wrap = none → ∃ i, findFirst (fun x : WItem => cmpStr las.versionTr x.session "WRAP".toList) las.version = some i) :
    ∃ lines las', headerLines version wrap w las = .ok (lines, las') := by
  obtain ⟨vers, hv⟩ := versItem_some version hver
  have tot := fun kind hk items => C03_writeSection_total version hver kind hk items
  obtain ⟨lv, hlv⟩ := tot .version (by decide) (wSetItem las.versionTr "VERS".toList vers (RH.wrapSection wrap las))
  obtain ⟨lw, hlw⟩ := tot .well (by decide) (standardizeItems las.well)
  obtain ⟨lc, hlc⟩ := tot .curves (by decide) las.curves
  obtain ⟨lp, hlp⟩ := tot .parameter (by decide) (standardizeItems las.params)
  simp only [secKey] at hlv hlw hlc hlp
  have hsec : ∃ secs las', headerSections version wrap las = .ok (secs, las') := by
    unfold headerSections
    cases wrap with
    | none =>
      obtain ⟨i, hi⟩ := hwk rfl
      simp only [RH.wrapSection] at hlv
      simp only [hi, hv, bind, Except.bind, pure, Except.pure, hlv, hlw, hlc, hlp]
      exact ⟨_, _, rfl⟩
    | some b =>
      simp only [RH.wrapSection] at hlv
      simp only [hv, bind, Except.bind, pure, Except.pure, hlv, hlw, hlc, hlp]
      exact ⟨_, _, rfl⟩
  obtain ⟨secs, las', hs⟩ := hsec
  unfold headerLines
  rw [hs]
  exact ⟨_, _, rfl⟩

theorem headerLines_version (version : String) (wrap : Option Bool) (w : Nat) (las las' : WLas) (lines : List Str)
    (h : headerLines version wrap w las = .ok (lines, las')) : version = "1.2" ∨ version = "2.0" :=
  (RH.headerLines_ok version wrap w las las' lines h).1

theorem filter_inGroup_of_map (o : Rd.ReadOpts) (key : Str) (l1 l2 : List WItem) (x : WItem)
    (hm : l1.map (rdExpected o) = l2.map (rdExpected o)) (h : l2.filter (inGroup o key) = [x]) :
    ∃ x1, l1.filter (inGroup o key) = [x1] ∧ rdExpected o x1 = rdExpected o x := by
  have hP : (fun r : Rd.RItem => Rd.mcmp (o.mnemonicCase != .preserve) (Rd.U r) key) ∘ rdExpected o = inGroup o key := rfl
  have e1 : (l1.filter (inGroup o key)).map (rdExpected o) = [rdExpected o x] := by
    rw [← hP, ← List.filter_map, hm, List.filter_map, hP, h]; rfl
  cases hl : l1.filter (inGroup o key) with
  | nil => rw [hl] at e1; cases e1
  | cons a t =>
    rw [hl] at e1
    cases t with
    | nil =>
      simp only [List.map_cons, List.map_nil, List.cons.injEq, and_true] at e1
      exact ⟨a, rfl, e1⟩
    | cons b t => simp at e1

/-- the extra hypotheses of the fixed-point theorem -/
structure CycleConf (o : Rd.ReadOpts) (version : String) (wrap : Option Bool) (las : WLas) : Prop where
  hwrap : WrapOK o (RH.versionCopy version wrap las)
  hvw : ∀ it ∈ standardizeItems las.well, ValueShown it
  hvp : ∀ it ∈ standardizeItems las.params, ValueShown it
  hol : OtherLast las.other

theorem valueShown_itemsOfRead (o : Rd.ReadOpts) {rv : Str → WVal} (tr : Bool)
    (items : List WItem) (hs : ∀ it ∈ items, Spelt rv it.value.text) (h : ∀ it ∈ items, ValueShown it) :
    ∀ z ∈ itemsOfRead rv tr (items.map (rdExpected o)), ValueShown z :=
  forall_itemsOfRead o rv tr items (fun it hit => And.intro (hs it hit) (h it hit)) fun s it hp => by
    have := hp.1
    unfold Spelt at this
    simpa [ValueShown, mkRead, rdExpected, this] using hp.2

theorem spelt_itemsOfRead (o : Rd.ReadOpts) {rv : Str → WVal} (tr : Bool)
    (items : List WItem) (hs : ∀ it ∈ items, Spelt rv it.value.text) :
    ∀ z ∈ itemsOfRead rv tr (items.map (rdExpected o)), Spelt rv z.value.text :=
  forall_itemsOfRead o rv tr items hs fun s it hp => by
    unfold Spelt at hp ⊢
    simp only [mkRead, rdExpected, hp]

/-- the items `write` formats -/
def writtenItems (version : String) (wrap : Option Bool) (las : WLas) : List WItem :=
  RH.versionCopy version wrap las ++ standardizeItems las.well ++ las.curves ++ standardizeItems las.params

/-- every value `write` prints is spelt as the re-typed re-read value prints (`str(num(t)) = t`) -/
def SpeltConf (rv : Str → WVal) (version : String) (wrap : Option Bool) (las : WLas) : Prop :=
  ∀ it ∈ writtenItems version wrap las, Spelt rv it.value.text

theorem speltConf_str (version : String) (wrap : Option Bool) (las : WLas) : SpeltConf WVal.str version wrap las :=
  fun _ _ => rfl

end Lasio.Cy

/-! ## the steering values of a written section; a DLM item -/

-- under `Fr` / `Fd` (whole-file round trip, without / with a DLM item): FileRoundTrip continues these two namespaces
namespace Lasio.Fr
open Lasio

/-- the value the reader's steering code finds for `key` in a written section: the value text of the item of that group when
there is exactly one (`"KEY" in section` is False for duplicates, whose session mnemonics carry suffixes) -/
def steerVal (o : Rd.ReadOpts) (key : String) (items : List Wr.WItem) : Option Str :=
  match items.filter (Cy.inGroup o key.toList) with
  | [x] => some x.value.text
  | _ => none

theorem steerVal_dlm_none (o : Rd.ReadOpts) (V : List Wr.WItem) (h : ∀ it ∈ V, upper it.orig ≠ "DLM".toList) :
    steerVal o "DLM" V = none := by
  unfold steerVal
  have : V.filter (Cy.inGroup o "DLM".toList) = [] := by
    apply List.filter_eq_nil_iff.mpr
    intro it hit
    have := RH.mcmp_dlm_false o it.orig (h it hit)
    unfold Cy.inGroup
    rw [this]; simp
  rw [this]

theorem steerVal_eq (o : Rd.ReadOpts) (key : String) (l : List Wr.WItem) :
    steerVal o key l =
      (match (l.map (Wr.rdExpected o)).filter (fun r => Rd.mcmp (o.mnemonicCase != .preserve) (Rd.U r) key.toList) with
       | [r] => some r.value
       | _ => none) := by
  have hP : (fun r : Rd.RItem => Rd.mcmp (o.mnemonicCase != .preserve) (Rd.U r) key.toList) ∘ Wr.rdExpected o =
      Cy.inGroup o key.toList := rfl
  unfold steerVal
  rw [List.filter_map, hP]
  cases l.filter (Cy.inGroup o key.toList) with
  | nil => rfl
  | cons a t =>
    cases t with
    | nil => rfl
    | cons b t => rfl

theorem steerVal_of_map (o : Rd.ReadOpts) (key : String) (l1 l2 : List Wr.WItem)
    (h : l1.map (Wr.rdExpected o) = l2.map (Wr.rdExpected o)) : steerVal o key l1 = steerVal o key l2 := by
  rw [steerVal_eq, steerVal_eq, h]

end Lasio.Fr

namespace Lasio.Fd
open Lasio Lasio.Wr Lasio.Cy

/-- **the delimiter the reader derives from the written ~Version section is SPACE**: when exactly one item of that section is DLM
for the reader (`Fr.steerVal`: several DLM items make `"DLM" in section` False and are ignored, like none), its value text is
`SPACE` — the writer separates the data with blanks -/
def DlmOK (o : Rd.ReadOpts) (version : String) (wrap : Option Bool) (las : WLas) : Prop :=
  ∀ d, Fr.steerVal o "DLM" (RH.versionCopy version wrap las) = some d → d = "SPACE".toList

theorem dlmOK_of_single (o : Rd.ReadOpts) (version : String) (wrap : Option Bool) (las : WLas)
    (h : ∀ x, (RH.versionCopy version wrap las).filter (Cy.inGroup o "DLM".toList) = [x] → x.value.text = "SPACE".toList) :
    DlmOK o version wrap las := by
  intro d hd
  unfold Fr.steerVal at hd
  split at hd
  · rename_i x hx
    simp only [Option.some.injEq] at hd
    rw [← hd]; exact h x hx
  · cases hd

/-- no DLM item at all (the hypothesis `hdlm` of `C03_file` / `Cy.FileConf`) is a special case -/
theorem dlmOK_of_none (o : Rd.ReadOpts) (version : String) (wrap : Option Bool) (las : WLas)
    (h : ∀ it ∈ RH.versionCopy version wrap las, upper it.orig ≠ "DLM".toList) : DlmOK o version wrap las := by
  intro d hd
  rw [Fr.steerVal_dlm_none o _ h] at hd
  cases hd

/-- the hypotheses of `C03_file`, with `DlmOK` in place of "no DLM item" -/
structure FileConfD (o : Rd.ReadOpts) (version : String) (wrap : Option Bool) (las : WLas) : Prop where
  hcv : ∀ it ∈ RH.versionCopy version wrap las, TextConf .version it
  hcw : ∀ it ∈ standardizeItems las.well, TextConf .well it
  hcc : ∀ it ∈ las.curves, TextConf .curves it
  hcp : ∀ it ∈ standardizeItems las.params, TextConf .parameter it
  hmv : ∀ it ∈ RH.versionCopy version wrap las, it.orig.head? ≠ some '#' ∧ it.orig.head? ≠ some '~'
  hmw : ∀ it ∈ las.well, it.orig.head? ≠ some '#' ∧ it.orig.head? ≠ some '~'
  hmc : ∀ it ∈ las.curves, it.orig.head? ≠ some '#' ∧ it.orig.head? ≠ some '~'
  hmp : ∀ it ∈ las.params, it.orig.head? ≠ some '#' ∧ it.orig.head? ≠ some '~'
  hvers : VersOK o version (RH.versionCopy version wrap las)
  ho : OtherOK las.other
  hdlm : DlmOK o version wrap las

theorem FileConf.toD {o : Rd.ReadOpts} {version : String} {wrap : Option Bool} {las : WLas}
    (h : FileConf o version wrap las) : FileConfD o version wrap las :=
  ⟨h.hcv, h.hcw, h.hcc, h.hcp, h.hmv, h.hmw, h.hmc, h.hmp, h.hvers, h.ho, dlmOK_of_none o version wrap las h.hdlm⟩

theorem FileConf.ofD {o : Rd.ReadOpts} {version : String} {wrap : Option Bool} {las : WLas}
    (h : FileConfD o version wrap las) (hdlm : ∀ it ∈ RH.versionCopy version wrap las, upper it.orig ≠ "DLM".toList) :
    FileConf o version wrap las :=
  ⟨h.hcv, h.hcw, h.hcc, h.hcp, h.hmv, h.hmw, h.hmc, h.hmp, h.hvers, h.ho, hdlm⟩

/-- `FileConfD` of a concrete object: `h` is closed, `hvers` and `hdlm` speak of the written ~Version section -/
theorem fileConfD_of_check (o : Rd.ReadOpts) (version : String) (wrap : Option Bool) (las : WLas)
    (h : (∀ it ∈ las.version ++ (standardizeItems las.well ++ (las.curves ++ standardizeItems las.params)), TextOK it) ∧
      (∀ it ∈ las.version ++ (las.well ++ (las.curves ++ las.params)),
        it.orig.head? ≠ some '#' ∧ it.orig.head? ≠ some '~') ∧
      ∀ l ∈ splitlines las.other, (strip l).head? ≠ some '~')
    (hvers : VersOK o version (RH.versionCopy version wrap las)) (hdlm : DlmOK o version wrap las) :
    FileConfD o version wrap las := by
  obtain ⟨hc, hm, ho⟩ := h
  simp only [List.forall_mem_append] at hc hm
  obtain ⟨hcv, hmv⟩ := C03_versionCopy_conf version wrap las (fun it hit => (hc.1 it hit).conf _) hm.1
  exact ⟨hcv, fun it hit => (hc.2.1 it hit).conf _, fun it hit => (hc.2.2.1 it hit).conf _,
    fun it hit => (hc.2.2.2 it hit).conf _, hmv, hm.2.1, hm.2.2.1, hm.2.2.2, hvers, ho, hdlm⟩

theorem fileConf_of_check (o : Rd.ReadOpts) (version : String) (wrap : Option Bool) (las : WLas)
    (h : (∀ it ∈ las.version ++ (standardizeItems las.well ++ (las.curves ++ standardizeItems las.params)), TextOK it) ∧
      (∀ it ∈ las.version ++ (las.well ++ (las.curves ++ las.params)),
        it.orig.head? ≠ some '#' ∧ it.orig.head? ≠ some '~') ∧
      ∀ l ∈ splitlines las.other, (strip l).head? ≠ some '~')
    (hvers : VersOK o version (RH.versionCopy version wrap las))
    (hdlm : ∀ it ∈ RH.versionCopy version wrap las, upper it.orig ≠ "DLM".toList) : FileConf o version wrap las :=
  FileConf.ofD (fileConfD_of_check o version wrap las h hvers (dlmOK_of_none o version wrap las hdlm)) hdlm

/-! ## the load/save cycle -/

/-- **The cycle.**  `las` satisfies the hypotheses of `C03_file` (a DLM item of value SPACE allowed) and the four extra ones; `las1`
is the LASFile of the first re-read.  Then `las1` satisfies all of them again, `write` succeeds on it, and what the reader returns
for its header is what it returned for the header of `las`. -/
theorem cycle_core_dlm (o : Rd.ReadOpts) {rv : Str → WVal} (hrv : Retype rv) (version : String) (wrap : Option Bool)
    (las : WLas) (hver : version = "1.2" ∨ version = "2.0")
    (hc : FileConfD o version wrap las) (hx : CycleConf o version wrap las) (hsp : SpeltConf rv version wrap las) :
    FileConfD o version wrap (lasOfRead rv o (firstRead o version wrap las)) ∧
    CycleConf o version wrap (lasOfRead rv o (firstRead o version wrap las)) ∧
    SpeltConf rv version wrap (lasOfRead rv o (firstRead o version wrap las)) ∧
    firstRead o version wrap (lasOfRead rv o (firstRead o version wrap las)) = firstRead o version wrap las ∧
    (∀ w, ∃ lines las', headerLines version wrap w (lasOfRead rv o (firstRead o version wrap las)) = .ok (lines, las')) := by
  -- the re-read object as a variable `las1` known only through its six fields (`e1`…`e6`): with the term itself in the goal,
  -- every `rw`/`exact` below would have `lasOfRead` and `firstRead` to unfold when it compares a field
  generalize hl1 : lasOfRead rv o (firstRead o version wrap las) = las1
  have hl := hl1.symm.trans (lasOfRead_firstRead rv o version wrap las)
  have e1 := congrArg WLas.version hl
  have e2 := congrArg WLas.versionTr hl
  have e3 := congrArg WLas.well hl
  have e4 := congrArg WLas.curves hl
  have e5 := congrArg WLas.params hl
  have e6 := congrArg WLas.other hl
  -- reduces `WLas.version ⟨…⟩` etc. to the field, so that `rw [e3]` finds `las1.well`
  simp only [] at e1 e2 e3 e4 e5 e6
  have hsV : ∀ it ∈ RH.versionCopy version wrap las, Spelt rv it.value.text :=
    fun it h => hsp it (by simp [writtenItems, h])
  have hsW : ∀ it ∈ standardizeItems las.well, Spelt rv it.value.text :=
    fun it h => hsp it (by simp [writtenItems, h])
  have hsC : ∀ it ∈ las.curves, Spelt rv it.value.text :=
    fun it h => hsp it (by simp [writtenItems, h])
  have hsP : ∀ it ∈ standardizeItems las.params, Spelt rv it.value.text :=
    fun it h => hsp it (by simp [writtenItems, h])
  obtain ⟨vers, hvi⟩ := versItem_some version hver
  obtain ⟨xv, hgv, hxvv⟩ := (versOK_iff o version _).mp hc.hvers
  obtain ⟨xw, hgw⟩ := hx.hwrap
  -- the ~Version section
  obtain ⟨hS, hfind⟩ := versionCopy_reread o version wrap (RH.versionCopy version wrap las) las1 vers xv xw hsV hvi e1 e2
    hgv hgw (versionCopy_has_vers version wrap las vers hvi)
    (by intro w hw; subst hw; exact versionCopy_has_wrap version w las)
  -- ~Well / ~Parameter are not touched by the normalisation
  have sw : standardizeItems las1.well = las1.well := by
    rw [e3]; exact standardizeItems_itemsOfRead o hrv _ _ hx.hvw
  have sp : standardizeItems las1.params = las1.params := by
    rw [e5]; exact standardizeItems_itemsOfRead o hrv _ _ hx.hvp
  have hmw' := standardizeItems_orig las.well (fun o => o.head? ≠ some '#' ∧ o.head? ≠ some '~') hc.hmw
  have hmp' := standardizeItems_orig las.params (fun o => o.head? ≠ some '#' ∧ o.head? ≠ some '~') hc.hmp
  obtain ⟨hcv1, hmv1⟩ := C03_versionCopy_conf version wrap las1
    (by rw [e1]; exact conf_itemsOfRead o .version _ _ hsV hc.hcv)
    (by rw [e1]; exact mark_itemsOfRead o rv _ _ hc.hmv)
  obtain ⟨x1, hx1, hx1r⟩ := filter_inGroup_of_map o "VERS".toList _ _ xv hS hgv
  obtain ⟨xw1, hxw1, _⟩ := filter_inGroup_of_map o "WRAP".toList _ _ xw hS hgw
  refine ⟨⟨hcv1, ?_, ?_, ?_, hmv1, ?_, ?_, ?_, ?_, ?_, ?_⟩, ⟨⟨xw1, hxw1⟩, ?_, ?_, ?_⟩, ?_, ?_, ?_⟩
  · rw [sw, e3]; exact conf_itemsOfRead o .well _ _ hsW hc.hcw
  · rw [e4]; exact conf_itemsOfRead o .curves _ _ hsC hc.hcc
  · rw [sp, e5]; exact conf_itemsOfRead o .parameter _ _ hsP hc.hcp
  · rw [e3]; exact mark_itemsOfRead o rv _ _ hmw'
  · rw [e4]; exact mark_itemsOfRead o rv _ _ hc.hmc
  · rw [e5]; exact mark_itemsOfRead o rv _ _ hmp'
  · refine (versOK_iff o version _).mpr ⟨x1, hx1, ?_⟩
    have := congrArg (·.value) hx1r
    simp only [rdExpected] at this
    rw [this, hxvv]
  · rw [e6]; exact otherOK_otherRead _ hx.hol hc.ho
  · intro d hd
    rw [Fr.steerVal_of_map o "DLM" _ _ hS] at hd
    exact hc.hdlm d hd
  · rw [sw, e3]; exact valueShown_itemsOfRead o _ _ hsW hx.hvw
  · rw [sp, e5]; exact valueShown_itemsOfRead o _ _ hsP hx.hvp
  · rw [e6]; exact otherLast_otherRead _ hx.hol
  · intro it hit
    simp only [writtenItems, List.mem_append] at hit
    rcases hit with ((hit | hit) | hit) | hit
    · have : rdExpected o it ∈ (RH.versionCopy version wrap las).map (rdExpected o) := by
        rw [← hS]; exact List.mem_map_of_mem hit
      obtain ⟨x, hxm, hxe⟩ := List.mem_map.mp this
      have hv := congrArg (·.value) hxe
      simp only [rdExpected] at hv
      unfold Spelt
      rw [← hv]
      exact hsV x hxm
    · rw [sw, e3] at hit; exact spelt_itemsOfRead o _ _ hsW it hit
    · rw [e4] at hit; exact spelt_itemsOfRead o _ _ hsC it hit
    · rw [sp, e5] at hit; exact spelt_itemsOfRead o _ _ hsP it hit
  · unfold firstRead
    rw [hS, sw, sp, e3, e4, e5, e6, map_rdExpected_itemsOfRead o _ _ hsW, map_rdExpected_itemsOfRead o _ _ hsC,
      map_rdExpected_itemsOfRead o _ _ hsP, otherRead_idem _ hx.hol]
  · intro w
    exact headerLines_total version wrap w las1 hver (fun _ => hfind)

end Lasio.Fd

namespace Lasio.Cy
open Lasio Lasio.Wr

/-- the cycle without a DLM item: none comes in -/
theorem cycle_core (o : Rd.ReadOpts) {rv : Str → WVal} (hrv : Retype rv) (version : String) (wrap : Option Bool)
    (las : WLas) (hver : version = "1.2" ∨ version = "2.0")
    (hc : FileConf o version wrap las) (hx : CycleConf o version wrap las) (hsp : SpeltConf rv version wrap las) :
    FileConf o version wrap (lasOfRead rv o (firstRead o version wrap las)) ∧
    CycleConf o version wrap (lasOfRead rv o (firstRead o version wrap las)) ∧
    SpeltConf rv version wrap (lasOfRead rv o (firstRead o version wrap las)) ∧
    firstRead o version wrap (lasOfRead rv o (firstRead o version wrap las)) = firstRead o version wrap las ∧
    (∀ w, ∃ lines las', headerLines version wrap w (lasOfRead rv o (firstRead o version wrap las)) = .ok (lines, las')) := by
  obtain ⟨hc1, hx1, hs1, hfix, htot⟩ := Fd.cycle_core_dlm o hrv version wrap las hver (Fd.FileConf.toD hc) hx hsp
  refine ⟨Fd.FileConf.ofD hc1 ?_, hx1, hs1, hfix, htot⟩
  intro it hit
  have hS := hfix
  simp only [firstRead, List.cons.injEq, Prod.mk.injEq, Rd.SecVal.items.injEq, true_and] at hS
  have : rdExpected o it ∈ (RH.versionCopy version wrap las).map (rdExpected o) := by
    rw [← hS.1]; exact List.mem_map_of_mem hit
  obtain ⟨x, hxm, hxe⟩ := List.mem_map.mp this
  have ho := congrArg (fun r => upper r.orig) hxe
  simp only [rdExpected, upper_caseMap] at ho
  rw [← ho]
  exact hc.hdlm x hxm

end Lasio.Cy
