import LasioModel.Transform
import LasioProofs.Lemmas.CycleLemmas
import LasioProofs.Lemmas.WriteObjLemmas
import LasioProofs.Props.C01
import LasioProofs.Props.C06
/-
The whole-file reader `Tf.readFull` on the text of one `write` call = header lines (`Wr.headerLines`) ++ data-section lines
(`Dw.dataLines`: the `~A` line and the body), each followed by "\n".  `Fr`: a whitespace line end changes nothing for the
header-level reader; the written data lines are no title lines and the `~A` line is a data title; `readData` on the written
window.  `Fd`: the state of the reader after the five written sections when ~Version may hold a `DLM SPACE` item, and from it
`readLines` / `readFull` on the whole written file (`Cy.FileConf`, no DLM item, is the case `Fd.FileConf.toD` of it).
-/
namespace Lasio.Fr
open Lasio

/-! ## a whitespace line end changes nothing for the header-level reader -/

theorem isTitle_eol (l eol : Str) (h : ∀ c ∈ eol, isPySpace c = true) : Rd.isTitle (l ++ eol) = Rd.isTitle l := by
  rw [Rd.isTitle_eq, Rd.isTitle_eq, strip_pad_right l eol h]

theorem lineRes_eol (o : Rd.ReadOpts) (p : Rd.Parser) (l eol : Str) (h : ∀ c ∈ eol, isPySpace c = true) :
    Rd.lineRes o p (l ++ eol) = Rd.lineRes o p l := by
  simp only [Rd.lineRes, Rd.lineStrip_eq_strip, strip_pad_right l eol h]

theorem bodyRun_eol (o : Rd.ReadOpts) (p : Rd.Parser) (body : List Str) (eol : Str) (h : ∀ c ∈ eol, isPySpace c = true)
    (n : Nat) : Rd.bodyRun o p (body.map (· ++ eol)) n = Rd.bodyRun o p body n := by
  induction body generalizing n with
  | nil => rfl
  | cons b bs ih => simp only [List.map_cons, Rd.bodyRun, lineRes_eol o p b eol h, ih]

def eolSecs (eol : Str) (secs : List (Str × List Str)) : List (Str × List Str) :=
  secs.map fun tb => (tb.1 ++ eol, tb.2.map (· ++ eol))

theorem docSection_eol (o : Rd.ReadOpts) (n : Nat) (t : Str) (body : List Str) (eol : Str)
    (h : ∀ c ∈ eol, isPySpace c = true) (st : Rd.RState) :
    Rd.docSection o n (t ++ eol, body.map (· ++ eol)) st = Rd.docSection o n (t, body) st := by
  have hm : (body.map (· ++ eol)).map Rd.lineStrip = body.map Rd.lineStrip := by
    rw [List.map_map]
    apply List.map_congr_left
    intro b _
    simp only [Function.comp, Rd.lineStrip_eq_strip, strip_pad_right b eol h]
  simp only [Rd.docSection, Rd.sline_eq_strip, Rd.lineStrip_eq_strip, strip_pad_right t eol h, bodyRun_eol o _ body eol h,
    List.length_map]
  rw [hm]

theorem docSections_eol (o : Rd.ReadOpts) (secs : List (Str × List Str)) (eol : Str) (h : ∀ c ∈ eol, isPySpace c = true)
    (n : Nat) (st : Rd.RState) : Rd.docSections o (eolSecs eol secs) n st = Rd.docSections o secs n st := by
  induction secs generalizing n st with
  | nil => rfl
  | cons tb rest ih =>
    obtain ⟨t, b⟩ := tb
    simp only [eolSecs, List.map_cons, Rd.docSections, docSection_eol o n t b eol h, List.length_map]
    cases Rd.docSection o n (t, b) st with
    | error e => rfl
    | ok st' => exact ih _ _

theorem flat_eol (eol : Str) (secs : List (Str × List Str)) : Rd.flat (eolSecs eol secs) = (Rd.flat secs).map (· ++ eol) := by
  induction secs with
  | nil => rfl
  | cons tb rest ih =>
    obtain ⟨t, b⟩ := tb
    simp only [eolSecs, List.map_cons, Rd.flat] at ih ⊢
    rw [ih]; simp

theorem wellFormed_eol (eol : Str) (h : ∀ c ∈ eol, isPySpace c = true) (secs : List (Str × List Str))
    (hw : Rd.WellFormed secs) : Rd.WellFormed (eolSecs eol secs) := by
  intro tb htb
  obtain ⟨tb0, h0, rfl⟩ := List.mem_map.mp htb
  obtain ⟨h1, h2⟩ := hw tb0 h0
  refine ⟨by rw [isTitle_eol _ _ h]; exact h1, ?_⟩
  intro b hb
  obtain ⟨b0, hb0, rfl⟩ := List.mem_map.mp hb
  rw [isTitle_eol _ _ h]; exact h2 b0 hb0

/-! ## sections one after the other -/

theorem flat_append (a b : List (Str × List Str)) : Rd.flat (a ++ b) = Rd.flat a ++ Rd.flat b := by
  induction a with
  | nil => rfl
  | cons tb rest ih => obtain ⟨t, x⟩ := tb; simp [Rd.flat, ih]

theorem docSections_append (o : Rd.ReadOpts) (a b : List (Str × List Str)) (n : Nat) (st : Rd.RState) :
    Rd.docSections o (a ++ b) n st =
      match Rd.docSections o a n st with
      | .error e => .error e
      | .ok st' => Rd.docSections o b (n + Rd.size a) st' := by
  induction a generalizing n st with
  | nil => rfl
  | cons tb rest ih =>
    obtain ⟨t, x⟩ := tb
    simp only [List.cons_append, Rd.docSections]
    cases Rd.docSection o n (t, x) st with
    | error e => rfl
    | ok st' =>
      simp only [ih, Rd.size]
      rw [show n + 1 + x.length + Rd.size rest = n + (1 + x.length + Rd.size rest) by omega]

/-! ## the steering values of a written header -/

/-- the reader's lookup of a steering key among the items read back from a written section is `steerVal` -/
theorem lookup_steerVal (o : Rd.ReadOpts) (key : String) (hk : key.toList ∈ Rd.steerKeys) (items : List Wr.WItem) :
    (Rd.lookupItem (o.mnemonicCase != .preserve) (items.map (Wr.rdExpected o)) key.toList).map (·.value) =
      steerVal o key items := by
  rw [Rd.lookupItem_eq _ _ (Rd.steerKey_nocolon _ _ hk), steerVal_eq]
  cases (items.map (Wr.rdExpected o)).filter (fun r => Rd.mcmp (o.mnemonicCase != .preserve) (Rd.U r) key.toList) with
  | nil => rfl
  | cons a t =>
    cases t with
    | nil => rfl
    | cons b t => rfl

theorem steerVal_of_versOK (o : Rd.ReadOpts) (version : String) (V : List Wr.WItem) (h : Wr.VersOK o version V) :
    steerVal o "VERS" V = some version.toList := by
  obtain ⟨x, hx, hxv⟩ := (Cy.versOK_iff o version V).mp h
  unfold steerVal
  rw [hx]
  simp only [hxv]

/-! ## the data section of the document -/

theorem docSection_data (o : Rd.ReadOpts) (n : Nat) (hdr : Str) (body : List Str) (st : Rd.RState)
    (h : Rd.sectionType (Rd.sline hdr) = .data) :
    Rd.docSection o n (hdr, body) st = .ok { st with data := st.data ++ [(n, n + body.length, Rd.sline hdr)] } := by
  unfold Rd.docSection
  simp only [h]

/-! ## the written data lines are no title lines; the `~A` line is a data title -/

theorem fmtFixed_no_tilde (N : Nat) (x : Dw.F64) : ∀ ch ∈ Dw.fmtFixed N x, ch ≠ '~' := by
  cases x with
  | nan => exact (by decide : ∀ c ∈ ['n', 'a', 'n'], c ≠ '~')
  | inf neg =>
    cases neg
    · exact (by decide : ∀ c ∈ ['i', 'n', 'f'], c ≠ '~')
    · exact (by decide : ∀ c ∈ ['-', 'i', 'n', 'f'], c ≠ '~')
  | finite neg m e =>
    intro ch hch e'
    subst e'
    exact absurd (Dw.fmtFixed_plain N neg m e _ hch) (by decide)

theorem cellToken_head (null : Str) (hn : null.head? ≠ some '~') (f : Dw.Fmt) (x : Dw.F64) :
    (Dw.cellToken null f x).head? ≠ some '~' := by
  unfold Dw.cellToken
  split
  · exact hn
  · intro h
    have := List.mem_of_mem_head? h
    exact fmtFixed_no_tilde _ _ _ this rfl

theorem rowTokensFrom_mem (c : Dw.RowCfg) (null : Str) (j : Nat) (cells : List Dw.F64) :
    ∀ t ∈ Dw.rowTokensFrom c null j cells, ∃ k x, t = Dw.cellToken null (c.colFmt k) x := by
  induction cells generalizing j with
  | nil => intro t ht; cases ht
  | cons x xs ih =>
    intro t ht
    simp only [Dw.rowTokensFrom, List.mem_cons] at ht
    rcases ht with rfl | ht
    · exact ⟨j, x, rfl⟩
    · exact ih (j + 1) t ht

theorem core_head {toks : List Str} {s : Str} (h : Dt.Core toks s) : ∃ t ts, toks = t :: ts ∧ s.head? = t.head? := by
  cases h with
  | one ht => exact ⟨_, [], rfl, rfl⟩
  | @cons t sep rest ts ht _ _ _ =>
    refine ⟨t, ts, rfl, ?_⟩
    cases t with
    | nil => exact absurd rfl ht.ne
    | cons a as => rfl

/-- **no body line of a written data section is taken for a section title**, when the NULL text does not start with '~' -/
theorem body_notitle {cfg : Dw.DataCfg} {null : Str} {mn : List Str} {rows : List (List Dw.F64)} {c : Dw.RowCfg} {n : Nat}
    {hdr : Str} {body : List Str} (w : Rt.Written cfg null mn rows c n hdr body) (hn : null.head? ≠ some '~') :
    ∀ b ∈ body, Rd.isTitle b = false := by
  intro b hb
  have hq := Rt.body_tokens_quiet w.ok w.nullQuiet _ _ rows body w.body_eq b hb
  rw [Rd.isTitle_eq]
  rcases Rt.line_shape' b hq with ⟨_, hws⟩ | ⟨pre, core, post, hpre, hpost, hcore, hl⟩
  · rw [Rd.strip_allspace b hws]; rfl
  · obtain ⟨a, cs, hc, hca⟩ := Dt.core_head_tok hcore
    obtain ⟨t, ts, htoks, hhead⟩ := core_head hcore
    have hsp := (Dt.tokChar_parts a hca).1
    rw [hl, hc, List.cons_append, Rd.strip_split pre a (cs ++ post) hpre hsp, RH.startsTilde_false_iff]
    -- the first character is the first character of a cell token
    have htb : t ∈ Dw.tokensWs b := by rw [htoks]; simp
    have hmem : t ∈ body.flatMap Dw.tokensWs := List.mem_flatMap.mpr ⟨b, hb, htb⟩
    rw [Dw.dwBodyLines_tokens w.ok _ _ rows body w.body_eq] at hmem
    obtain ⟨row, _, hrow⟩ := List.mem_flatMap.mp hmem
    obtain ⟨k, x, rfl⟩ := rowTokensFrom_mem c null 0 row t hrow
    have := cellToken_head null hn (c.colFmt k) x
    rw [← hhead, hc] at this
    simpa using this

theorem dataHeaderLine_shape (c : Dw.RowCfg) (null : Str) (mh : Bool) (dsh : Str) (hw : Nat) (mn : List Str)
    (fr : Option (List Dw.F64)) (hdr : Str) (h : Dw.dataHeaderLine c null mh dsh hw mn fr = some hdr) :
    ∃ tail, hdr = dsh ++ ' ' :: tail := by
  unfold Dw.dataHeaderLine at h
  cases mh with
  | false =>
    simp only [Bool.false_eq_true, if_false, Option.some.injEq] at h
    subst h
    exact ⟨List.replicate (hw - (dsh ++ [' ']).length) '-', by simp [ljust]⟩
  | true =>
    simp only [if_true] at h
    split at h
    · cases h
    · rename_i widths _
      split at h
      · cases h
      · rename_i hvs _
        cases hvs with
        | nil =>
          simp only [Option.some.injEq] at h
          subst h
          exact ⟨[], by simp⟩
        | cons hv rest =>
          simp only [Option.some.injEq] at h
          subst h
          exact ⟨Dw.trimLoop (dsh ++ [' ']).length 0 hv ++ rest.flatten, by simp⟩

/-- **the `~A` line is a data title**: a `data_section_header` that starts with `~A` / `~a` (the default is `~ASCII`) -/
theorem dataTitle_ok (c : Dw.RowCfg) (null : Str) (mh : Bool) (dsh : Str) (hw : Nat) (mn : List Str)
    (fr : Option (List Dw.F64)) (hdr : Str) (h : Dw.dataHeaderLine c null mh dsh hw mn fr = some hdr)
    (a : Char) (r : Str) (hd : dsh = '~' :: a :: r) (ha : upperC a = 'A') :
    Rd.isTitle hdr = true ∧ Rd.sectionType (Rd.sline hdr) = .data := by
  obtain ⟨tail, rfl⟩ := dataHeaderLine_shape c null mh dsh hw mn fr hdr h
  subst hd
  have hsa : isPySpace a = false := by
    rw [← Cy.letterMap_space Cy.upperC_letterMap a, ha]; decide
  have hst : strip ('~' :: a :: r ++ ' ' :: tail) = '~' :: a :: Rd.rdrop isPySpace (r ++ ' ' :: tail) := by
    have h1 := Rd.strip_split [] '~' (a :: r ++ ' ' :: tail) (by simp) (by decide)
    have h2 := Rd.rdrop_app isPySpace [] a (r ++ ' ' :: tail) hsa
    simp only [List.nil_append, List.cons_append] at h1 h2 ⊢
    rw [h1, h2]
  refine ⟨by rw [Rd.isTitle_eq, hst]; rfl, ?_⟩
  rw [Rd.sline_eq_strip]
  unfold Rd.sectionType
  simp only [Rd.sline_eq_strip, Rd.strip_idem]
  rw [hst]
  have hu : upper (List.take 2 ('~' :: a :: Rd.rdrop isPySpace (r ++ ' ' :: tail))) = "~A".toList := by
    simp only [List.take, upper, List.map_cons, List.map_nil, ha]
    rfl
  rw [hu]
  rfl

/-! ## `Tf.readFull` on the written file -/

theorem allWs_nl : Dt.AllWs Tf.nl := by
  intro c hc
  have : c = '\n' := by simpa [Tf.nl] using hc
  subst this
  decide

theorem declaredCount_firstRead (o : Rd.ReadOpts) (version : String) (wrap : Option Bool) (las : Wr.WLas) :
    Tf.declaredCount (Cy.firstRead o version wrap las) = las.curves.length := by
  have : (Cy.firstRead o version wrap las).lookup Rd.kCurves = some (.items (las.curves.map (Wr.rdExpected o))) := rfl
  unfold Tf.declaredCount
  rw [this]
  simp

/-- the text of one `write` call as the reader sees it: header lines, the `~A` line, the data lines, each followed by "\n" -/
def fileDoc (hlines : List Str) (hdr : Str) (body : List Str) : Tf.Doc := (hlines ++ hdr :: body).map (· ++ Tf.nl)

theorem fileDoc_eq (hlines : List Str) (hdr : Str) (body : List Str) :
    fileDoc hlines hdr body = hlines.map (· ++ Tf.nl) ++ (hdr ++ Tf.nl) :: (body.map (· ++ Tf.nl) ++ []) := by
  simp [fileDoc]

def fileSteer (o : Rd.ReadOpts) (version : String) (wrap : Option Bool) (las : Wr.WLas) : Rd.Steer :=
  ⟨some version.toList, steerVal o "WRAP" (RH.versionCopy version wrap las),
   steerVal o "NULL" (Wr.standardizeItems las.well), none⟩

end Lasio.Fr

namespace Lasio.Fd
open Lasio Lasio.Wr Lasio.Cy

/-- the steering values of the written header, DLM included -/
def fileSteerD (o : Rd.ReadOpts) (version : String) (wrap : Option Bool) (las : WLas) : Rd.Steer :=
  ⟨some version.toList, Fr.steerVal o "WRAP" (RH.versionCopy version wrap las),
   Fr.steerVal o "NULL" (standardizeItems las.well), Fr.steerVal o "DLM" (RH.versionCopy version wrap las)⟩

/-- without a DLM item these are `Fr.fileSteer` -/
theorem fileSteerD_eq (o : Rd.ReadOpts) (version : String) (wrap : Option Bool) (las : WLas)
    (h : ∀ it ∈ RH.versionCopy version wrap las, upper it.orig ≠ "DLM".toList) :
    fileSteerD o version wrap las = Fr.fileSteer o version wrap las := by
  unfold fileSteerD Fr.fileSteer
  rw [Fr.steerVal_dlm_none o _ h]

theorem dlm_accept {o : Rd.ReadOpts} {version : String} {wrap : Option Bool} {las : WLas} (h : DlmOK o version wrap las) :
    ∀ d, Fr.steerVal o "DLM" (RH.versionCopy version wrap las) = some d → Rd.delimiters.contains d = true := by
  intro d hs
  rw [h d hs]; decide

/-! ## the five written sections: the state of the reader after them -/

theorem header_state (o : Rd.ReadOpts) (version : String) (wrap : Option Bool) (w : Nat) (las las' : WLas)
    (hlines : List Str) (hH : headerLines version wrap w las = .ok (hlines, las')) (hc : FileConfD o version wrap las) :
    ∃ secs5 st, hlines = Rd.flat secs5 ∧ Rd.WellFormed secs5 ∧ secs5 ≠ [] ∧
      Rd.docSections o secs5 0 Rd.RState.init = .ok st ∧
      st.sections.filterMap (fun kv => kv.2.map fun v => (kv.1, v)) = firstRead o version wrap las ∧
      st.curvesPlain = false ∧ st.data = [] ∧ st.las3 = [] ∧ st.steer = fileSteerD o version wrap las := by
  obtain ⟨secs, st, hl, hw, hne, hst, hsec, hpl, hdata, hlas3, hsteer⟩ := written_header_state o version wrap w las las'
    hlines hH hc.hcv hc.hcw hc.hcc hc.hcp hc.hmv hc.hmw hc.hmc hc.hmp hc.hvers hc.ho
  rw [Fr.lookup_steerVal o "WRAP" (by decide), Fr.lookup_steerVal o "NULL" (by decide),
    Fr.lookup_steerVal o "DLM" (by decide)] at hsteer
  exact ⟨secs, st, hl, hw, hne, hst, by rw [hsec]; rfl, hpl, hdata, hlas3, hsteer⟩

/-- **`C03_file` with a DLM item**: the header lines alone -/
theorem readLines_header_dlm (o : Rd.ReadOpts) (version : String) (wrap : Option Bool) (w : Nat) (las las' : WLas)
    (hlines : List Str) (hH : headerLines version wrap w las = .ok (hlines, las')) (hc : FileConfD o version wrap las) :
    Rd.readLines o hlines = .ok ⟨firstRead o version wrap las, fileSteerD o version wrap las, []⟩ := by
  obtain ⟨secs5, st, hl, hw, hne, hst, hsec, hpl, hdata, hlas3, hsteer⟩ := header_state o version wrap w las las' hlines hH hc
  rw [hl, RH.readLines_flat o secs5 hw hne, hst]
  simp only []
  rw [RH.finishRead_ok st (by rw [hsteer]; exact dlm_accept hc.hdlm) hpl, hsec, hsteer, hdata, hlas3]
  rfl

/-- **the header-level reader on the whole written file, DLM item allowed** -/
theorem readLines_file_dlm (o : Rd.ReadOpts) (version : String) (wrap : Option Bool) (w : Nat) (las las' : WLas)
    (hlines : List Str) (hH : headerLines version wrap w las = .ok (hlines, las')) (hc : FileConfD o version wrap las)
    (hdr : Str) (body : List Str) (hT : Rd.isTitle hdr = true) (hTd : Rd.sectionType (Rd.sline hdr) = .data)
    (hbt : ∀ b ∈ body, Rd.isTitle b = false) :
    Rd.readLines o (Fr.fileDoc hlines hdr body) = .ok
      ⟨firstRead o version wrap las, fileSteerD o version wrap las,
       [(hlines.length, hlines.length + body.length, Rd.sline hdr)]⟩ := by
  have hnl : ∀ c ∈ Tf.nl, isPySpace c = true := by decide
  obtain ⟨secs5, st, hl5, hw5, _, hst, hsec, hpl, hdata, hlas3, hsteer⟩ := header_state o version wrap w las las' hlines hH hc
  have hw6 : Rd.WellFormed (secs5 ++ [(hdr, body)]) := by
    intro tb htb
    rcases List.mem_append.mp htb with h | h
    · exact hw5 tb h
    · simp only [List.mem_singleton] at h
      subst h
      exact ⟨hT, hbt⟩
  have hdoc : Fr.fileDoc hlines hdr body = Rd.flat (Fr.eolSecs Tf.nl (secs5 ++ [(hdr, body)])) := by
    unfold Fr.fileDoc
    rw [Fr.flat_eol, Fr.flat_append, hl5]
    simp [Rd.flat]
  rw [hdoc, RH.readLines_flat o _ (Fr.wellFormed_eol Tf.nl hnl _ hw6) (by simp [Fr.eolSecs])]
  rw [Fr.docSections_eol o _ Tf.nl hnl, Fr.docSections_append, hst]
  simp only [Rd.docSections, Fr.docSection_data o _ hdr body st hTd]
  have hsz : 0 + Rd.size secs5 = hlines.length := by rw [hl5, Rd.flat_length]; omega
  rw [hsz, RH.finishRead_ok _ (by simp only []; rw [hsteer]; exact dlm_accept hc.hdlm) (by simp only []; exact hpl)]
  simp only [hsec, hsteer, hdata, hlas3, List.nil_append]
  rfl

/-- **`readFull` = the header of `C03_file` + `readData` on the one data window** -/
theorem readFull_file_dlm (opts : Tf.Opts) (nullOf : Option Str → Option Str) (ft : Dt.FloatTable)
    (version : String) (wrap : Option Bool) (w : Nat) (las las' : WLas)
    (hlines : List Str) (hH : headerLines version wrap w las = .ok (hlines, las'))
    (hc : FileConfD opts.hdr version wrap las)
    {cfg : Dw.DataCfg} {null : Str} {mn : List Str} {rows : List (List Dw.F64)} {c : Dw.RowCfg} {n : Nat} {hdr : Str}
    {body : List Str} (wd : Rt.Written cfg null mn rows c n hdr body) (hn : null.head? ≠ some '~')
    (a : Char) (r : Str) (hd : cfg.dataSectionHeader = '~' :: a :: r) (ha : upperC a = 'A') :
    Tf.readFull opts nullOf ft (Fr.fileDoc hlines hdr body) = .ok
      ⟨firstRead opts.hdr version wrap las, fileSteerD opts.hdr version wrap las,
       [⟨hlines.length, hlines.length + body.length,
         Dt.readData opts.dat (Fr.fileDoc hlines hdr body) hlines.length (hlines.length + body.length)
           (Tf.dtSteer nullOf (fileSteerD opts.hdr version wrap las)) las.curves.length ft⟩]⟩ := by
  have hl := wd.lines
  unfold Dw.dataLines at hl
  rw [wd.rowCfg] at hl
  simp only at hl
  split at hl
  · rename_i h0 b0 hh hb
    simp only [Option.some.injEq, List.cons.injEq] at hl
    obtain ⟨rfl, rfl⟩ := hl
    obtain ⟨hT, hTd⟩ := Fr.dataTitle_ok c null _ _ _ _ _ _ hh a r hd ha
    unfold Tf.readFull
    rw [readLines_file_dlm opts.hdr version wrap w las las' hlines hH hc _ _ hT hTd (Fr.body_notitle wd hn)]
    simp only [Fr.declaredCount_firstRead, List.map_cons, List.map_nil]
  · cases hl

theorem dlmOf_ok {o : Rd.ReadOpts} {version : String} {wrap : Option Bool} {las : WLas} (h : DlmOK o version wrap las) :
    Tf.dlmOf (Fr.steerVal o "DLM" (RH.versionCopy version wrap las)) = .space := by
  cases hs : Fr.steerVal o "DLM" (RH.versionCopy version wrap las) with
  | none => rfl
  | some d => rw [h d hs]; decide

theorem dtSteer_file_dlm (nullOf : Option Str → Option Str) (o : Rd.ReadOpts) (version : String) (wrap : Option Bool)
    (las : WLas) (hd : DlmOK o version wrap las) :
    (Tf.dtSteer nullOf (fileSteerD o version wrap las)).delimiter = .space ∧
    (Tf.dtSteer nullOf (fileSteerD o version wrap las)).nullValue = nullOf (Fr.steerVal o "NULL" (standardizeItems las.well)) ∧
    (∀ t, Fr.steerVal o "WRAP" (RH.versionCopy version wrap las) = some t →
      (Tf.dtSteer nullOf (fileSteerD o version wrap las)).wrapDeclared = true ∧
      (Tf.dtSteer nullOf (fileSteerD o version wrap las)).wrapped = t) := by
  refine ⟨dlmOf_ok hd, rfl, ?_⟩
  intro t ht
  simp [Tf.dtSteer, fileSteerD, ht]

end Lasio.Fd

namespace Lasio.Fr
open Lasio

/-- `readData` on the data window of the written file, WRAP = YES in the written header -/
theorem readData_file_wrapYes {cfg : Dw.DataCfg} {null : Str} {mn : List Str} {rows : List (List Dw.F64)} {c : Dw.RowCfg}
    {n : Nat} {hdr : Str} {body : List Str} (wd : Rt.Written cfg null mn rows c n hdr body)
    (hlines : List Str) (e : Dt.Engine) (p : Dt.NullPolicy) (st : Dt.Steer) (ft : Dt.FloatTable)
    (hdlm : st.delimiter = .space) (hwd : st.wrapDeclared = true) (hwy : st.wrapped = Dt.yesTxt) :
    Dt.readData ⟨e, p⟩ (fileDoc hlines hdr body) hlines.length (hlines.length + body.length) st n ft =
      .ok (.normal, Dt.assignCurves n (Dt.applyNull (p == .strict) st.nullValue
        (Dt.matrixColumns ft n (Rt.tokenRows c null rows)))) := by
  have h := Dw.C01_roundtrip_read_wrapYes wd e p st ft Tf.nl allWs_nl (hlines.map (· ++ Tf.nl)) (hdr ++ Tf.nl) []
    hdlm hwd hwy
  rw [fileDoc_eq]
  simpa using h

/-- `readData` on the data window of the written file, written with `wrap=False`, WRAP ≠ YES in the written header -/
theorem readData_file_unwrapped {cfg : Dw.DataCfg} {null : Str} {mn : List Str} {rows : List (List Dw.F64)} {c : Dw.RowCfg}
    {n : Nat} {hdr : Str} {body : List Str} (wd : Rt.Written cfg null mn rows c n hdr body) (hwrap : cfg.wrap = false)
    (hlines : List Str) (e : Dt.Engine) (p : Dt.NullPolicy) (st : Dt.Steer) (d : Nat) (ft : Dt.FloatTable)
    (hdlm : st.delimiter = .space) (hw : st.wrapped ≠ Dt.yesTxt) :
    (Dt.readData ⟨e, p⟩ (fileDoc hlines hdr body) hlines.length (hlines.length + body.length) st d ft).map Prod.snd =
      .ok (Dt.assignCurves d (Dt.applyNull (p == .strict) st.nullValue
        (Dt.matrixColumns ft n (Rt.tokenRows c null rows)))) := by
  have h := Dw.C01_roundtrip_read_unwrapped wd hwrap e p st d ft Tf.nl allWs_nl (hlines.map (· ++ Tf.nl)) (hdr ++ Tf.nl) []
    hdlm hw (Or.inl rfl)
  rw [fileDoc_eq]
  simpa using h

/-! ## the curves, in the words of the property -/

theorem matrixColumns_length (ft : Dt.FloatTable) (n : Nat) (toks : List (List Str)) :
    (Dt.matrixColumns ft n toks).length = n := by
  simp [Dt.matrixColumns]

theorem matrixColumns_col_length (ft : Dt.FloatTable) (n : Nat) (toks : List (List Str)) (j : Nat) (col : Dt.Column)
    (h : (Dt.matrixColumns ft n toks)[j]? = some col) : col.length = toks.length := by
  unfold Dt.matrixColumns at h
  rw [List.getElem?_map] at h
  cases hr : (List.range n)[j]? with
  | none => rw [hr] at h; cases h
  | some k =>
    rw [hr] at h
    simp only [Option.map_some, Option.some.injEq] at h
    subst h
    rw [Dt.typedColumn_length]; simp

/-- `n` columns assigned to `n` declared curves: curve `j` is column `j`, nothing extra, nothing missing -/
theorem assignCurves_square (n : Nat) (cols : List Dt.Column) (h : cols.length = n) :
    (Dt.assignCurves n cols).length = n ∧ (Dt.assignCurves n cols).map Prod.snd = cols ∧
    ∀ j, j < n → ((Dt.assignCurves n cols)[j]?).map Prod.fst = some (.declared j) := by
  have e : Dt.assignCurves n cols = Dt.assignFrom n 0 cols := by
    unfold Dt.assignCurves
    rw [h]; simp
  rw [e]
  refine ⟨by rw [Dt.assignFrom_length, h], Dt.assignFrom_snd n 0 cols, ?_⟩
  intro j hj
  rw [Dt.assignFrom_getElem?]
  have : j < cols.length := by omega
  rw [List.getElem?_eq_getElem this]
  simp [hj]

end Lasio.Fr
