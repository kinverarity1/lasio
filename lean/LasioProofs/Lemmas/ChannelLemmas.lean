import LasioModel.Channel
import LasioProofs.Lemmas.StrLemmas
/-
Helper lemmas for C10: universal-newline translation (`univNL`), line splitting (`splitLF`) under `strip`,
and the well-formedness invariant / non-interference of the object world (`World`).
-/
namespace Lasio

/-- every '\r' is immediately followed by '\n' -/
def NoLoneCR : Str → Prop
  | [] => True
  | c :: t => (c = '\r' → t.head? = some '\n') ∧ NoLoneCR t

instance NoLoneCR.decidable : (t : Str) → Decidable (NoLoneCR t)
  | [] => .isTrue trivial
  | c :: t =>
    have := NoLoneCR.decidable t
    inferInstanceAs (Decidable ((c = '\r' → t.head? = some '\n') ∧ NoLoneCR t))

theorem univNL_nil : univNL [] = [] := univNL.eq_1

theorem univNL_crlf (t : Str) : univNL ('\r' :: '\n' :: t) = '\n' :: univNL t := univNL.eq_2 t

theorem univNL_cr (t : Str) (h : t.head? ≠ some '\n') : univNL ('\r' :: t) = '\n' :: univNL t := by
  apply univNL.eq_3
  intro t' ht
  subst ht
  exact h rfl

theorem univNL_other (c : Char) (t : Str) (h : c ≠ '\r') : univNL (c :: t) = c :: univNL t :=
  univNL.eq_4 c t (fun _ hc _ => h hc) h

theorem univNL_noCR (t : Str) : '\r' ∉ univNL t := by
  fun_induction univNL t with
  | case1 => simp
  | case2 t ih => simpa using ih
  | case3 t _ ih => simpa using ih
  | case4 c t _ hc ih =>
    simp only [List.mem_cons, not_or]
    exact ⟨fun h => hc h.symm, ih⟩

theorem univNL_of_noCR (t : Str) (h : '\r' ∉ t) : univNL t = t := by
  induction t with
  | nil => exact univNL_nil
  | cons c t ih =>
    simp only [List.mem_cons, not_or] at h
    rw [univNL_other c t (fun hc => h.1 hc.symm), ih h.2]

theorem splitLF_ne_nil (t : Str) : splitLF t ≠ [] := by
  cases t with
  | nil => simp [splitLF]
  | cons c t =>
    rw [splitLF]
    split
    · simp
    · split <;> simp

theorem splitLF_lf (t : Str) : splitLF ('\n' :: t) = [] :: splitLF t := by
  rw [splitLF]; simp

theorem splitLF_other (c : Char) (t : Str) (h : c ≠ '\n') :
    ∃ l ls, splitLF t = l :: ls ∧ splitLF (c :: t) = (c :: l) :: ls := by
  cases hs : splitLF t with
  | nil => exact absurd hs (splitLF_ne_nil t)
  | cons l ls =>
    refine ⟨l, ls, rfl, ?_⟩
    rw [splitLF, hs]
    simp [h]

/-- line-wise: equal, or the right one has one extra trailing CR -/
def LinesRel : List Str → List Str → Prop
  | [], [] => True
  | a :: as, b :: bs => (b = a ∨ b = a ++ ['\r']) ∧ LinesRel as bs
  | _, _ => False

theorem LinesRel.map_strip : ∀ (xs ys : List Str), LinesRel xs ys → xs.map strip = ys.map strip
  | [], [], _ => rfl
  | a :: as, b :: bs, h => by
    obtain ⟨hab, hr⟩ := h
    simp only [List.map_cons]
    rw [LinesRel.map_strip as bs hr]
    rcases hab with rfl | rfl
    · rfl
    · rw [strip_pad_right _ ['\r'] (by decide)]
  | [], _ :: _, h => h.elim
  | _ :: _, [], h => h.elim

/-- with CRLF only, universal-newline translation removes exactly the CR at the end of each line -/
theorem splitLF_univNL_rel (t : Str) (h : NoLoneCR t) : LinesRel (splitLF (univNL t)) (splitLF t) := by
  fun_induction univNL t with
  | case1 => simp [splitLF, LinesRel]
  | case2 t ih =>
    have ht : NoLoneCR t := h.2.2
    obtain ⟨l, ls, h1, h2⟩ := splitLF_other '\r' ('\n' :: t) (by decide)
    rw [splitLF_lf] at h1
    obtain ⟨rfl, rfl⟩ := List.cons.inj h1
    rw [h2, splitLF_lf]
    exact ⟨Or.inr rfl, ih ht⟩
  | case3 t hn _ =>
    exfalso
    have := h.1 rfl
    cases t with
    | nil => simp at this
    | cons d t =>
      have hd : d = '\n' := by simpa using this
      exact hn t (by rw [hd])
  | case4 c t _ hc ih =>
    have ih := ih h.2
    by_cases hlf : c = '\n'
    · subst hlf
      rw [splitLF_lf, splitLF_lf]
      exact ⟨Or.inl rfl, ih⟩
    · obtain ⟨l, ls, h1, h2⟩ := splitLF_other c (univNL t) hlf
      obtain ⟨l', ls', h1', h2'⟩ := splitLF_other c t hlf
      rw [h1, h1'] at ih
      rw [h2, h2']
      refine ⟨?_, ih.2⟩
      rcases ih.1 with rfl | rfl
      · exact Or.inl rfl
      · exact Or.inr rfl

/-- well-formed world: every object's section ids are `< heap.length`, the ids within an object are distinct, the ids
of different objects are disjoint (no section object is shared), and the cache is unused -/
def WF (w : World) : Prop :=
  (∀ (i : Nat) (a : LasObj), w.objs[i]? = some a → ∀ id ∈ a.secs, id < w.heap.length) ∧
  (∀ (i : Nat) (a : LasObj), w.objs[i]? = some a → a.secs.Nodup) ∧
  (∀ (i j : Nat) (a b : LasObj), i ≠ j → w.objs[i]? = some a → w.objs[j]? = some b → ∀ id ∈ a.secs, id ∉ b.secs) ∧
  w.cache = none

theorem wf_init : WF World.init := by
  refine ⟨?_, ?_, ?_, rfl⟩ <;> simp [World.init]

/-- one parsed section of `World.read` -/
def World.readStep (o : Nat) (w : World) (p : Nat × SecObj) : World :=
  match w.objs[o]? with
  | some ob =>
    if p.1 < ob.secs.length then
      { w with heap := w.heap ++ [p.2], objs := w.objs.set o ⟨ob.secs.set p.1 w.heap.length⟩ }
    else w
  | none => w

theorem World.read_eq (w : World) (o : Nat) (parsed : List (Nat × SecObj)) :
    w.read o parsed = parsed.foldl (World.readStep o) w := rfl

theorem newLas_true (w : World) :
    w.newLas true =
      { heap := w.heap ++ defaultContents,
        objs := w.objs ++ [⟨(List.range defaultContents.length).map (· + w.heap.length)⟩],
        cache := w.cache } := by
  unfold World.newLas
  split
  · rename_i h _; cases h
  · rfl

theorem getElem?_append_singleton_some {α} (l : List α) (x a : α) (i : Nat) (h : (l ++ [x])[i]? = some a) :
    l[i]? = some a ∨ (i = l.length ∧ a = x) := by
  rcases Nat.lt_trichotomy i l.length with hlt | rfl | hgt
  · exact Or.inl (by rwa [List.getElem?_append_left hlt] at h)
  · exact Or.inr ⟨rfl, by simpa using h.symm⟩
  · rw [List.getElem?_eq_none (by simp; omega)] at h
    cases h

theorem getElem?_set_some {α} (l : List α) (x a : α) (o i : Nat) (h : (l.set o x)[i]? = some a) :
    (i = o ∧ a = x) ∨ (i ≠ o ∧ l[i]? = some a) := by
  rw [List.getElem?_set] at h
  split at h
  · rename_i ho
    split at h
    · exact Or.inl ⟨ho.symm, (Option.some.inj h).symm⟩
    · cases h
  · rename_i ho
    exact Or.inr ⟨fun hh => ho hh.symm, h⟩

theorem nodup_set_fresh (l : List Nat) (k n : Nat) (hl : l.Nodup) (hn : n ∉ l) : (l.set k n).Nodup := by
  induction l generalizing k with
  | nil => simp
  | cons a l ih =>
    rw [List.nodup_cons] at hl
    simp only [List.mem_cons, not_or] at hn
    cases k with
    | zero => rw [List.set_cons_zero, List.nodup_cons]; exact ⟨hn.2, hl.2⟩
    | succ k =>
      rw [List.set_cons_succ, List.nodup_cons]
      refine ⟨fun hm => ?_, ih k hl.2 hn.2⟩
      rcases List.mem_or_eq_of_mem_set hm with h | h
      · exact hl.1 h
      · exact hn.1 h.symm

theorem nodup_range_shift (k n : Nat) : ((List.range k).map (· + n)).Nodup := by
  apply List.Pairwise.map _ _ (List.nodup_range (n := k))
  intro a b hab; omega

theorem wf_newLas (w : World) (h : WF w) : WF (w.newLas true) := by
  obtain ⟨h1, h2, h3, h4⟩ := h
  rw [newLas_true]
  refine ⟨?_, ?_, ?_, h4⟩
  · intro i a hi id hid
    simp only [List.length_append]
    rcases getElem?_append_singleton_some _ _ _ _ hi with hi | ⟨_, rfl⟩
    · have := h1 i a hi id hid; omega
    · simp only [List.mem_map, List.mem_range] at hid
      obtain ⟨j, hj, rfl⟩ := hid; omega
  · intro i a hi
    rcases getElem?_append_singleton_some _ _ _ _ hi with hi | ⟨_, rfl⟩
    · exact h2 i a hi
    · exact nodup_range_shift _ _
  · intro i j a b hij hi hj id hida hidb
    rcases getElem?_append_singleton_some _ _ _ _ hi with hi | ⟨hil, rfl⟩ <;>
    rcases getElem?_append_singleton_some _ _ _ _ hj with hj | ⟨hjl, rfl⟩
    · exact h3 i j a b hij hi hj id hida hidb
    · have := h1 i a hi id hida
      simp only [List.mem_map, List.mem_range] at hidb
      obtain ⟨m, _, rfl⟩ := hidb; omega
    · have := h1 j b hj id hidb
      simp only [List.mem_map, List.mem_range] at hida
      obtain ⟨m, _, rfl⟩ := hida; omega
    · omega

theorem wf_mutate (w : World) (h : WF w) (o k : Nat) (v : SecObj) : WF (w.mutate o k v) := by
  unfold World.mutate
  split
  · split
    · obtain ⟨h1, h2, h3, h4⟩ := h
      refine ⟨?_, h2, h3, h4⟩
      intro i a hi id hid
      simp only [List.length_set]
      exact h1 i a hi id hid
    · exact h
  · exact h

theorem wf_readStep (w : World) (h : WF w) (o : Nat) (p : Nat × SecObj) : WF (w.readStep o p) := by
  unfold World.readStep
  split
  · rename_i ob hob
    split
    · obtain ⟨h1, h2, h3, h4⟩ := h
      have hfresh : ∀ (i : Nat) (a : LasObj), w.objs[i]? = some a → w.heap.length ∉ a.secs :=
        fun i a hi hm => Nat.lt_irrefl _ (h1 i a hi _ hm)
      refine ⟨?_, ?_, ?_, h4⟩
      · intro i a hi id hid
        simp only [List.length_append, List.length_singleton]
        rcases getElem?_set_some _ _ _ _ _ hi with ⟨_, rfl⟩ | ⟨_, hi⟩
        · rcases List.mem_or_eq_of_mem_set hid with hm | rfl
          · have := h1 o ob hob id hm; omega
          · omega
        · have := h1 i a hi id hid; omega
      · intro i a hi
        rcases getElem?_set_some _ _ _ _ _ hi with ⟨_, rfl⟩ | ⟨_, hi⟩
        · exact nodup_set_fresh _ _ _ (h2 o ob hob) (hfresh o ob hob)
        · exact h2 i a hi
      · intro i j a b hij hi hj id hida hidb
        rcases getElem?_set_some _ _ _ _ _ hi with ⟨rfl, rfl⟩ | ⟨hio, hi'⟩ <;>
        rcases getElem?_set_some _ _ _ _ _ hj with ⟨rfl, rfl⟩ | ⟨hjo, hj'⟩
        · exact hij rfl
        · rcases List.mem_or_eq_of_mem_set hida with hm | rfl
          · exact h3 i j ob b hij hob hj' id hm hidb
          · exact hfresh j b hj' hidb
        · rcases List.mem_or_eq_of_mem_set hidb with hm | rfl
          · exact h3 i j a ob hij hi' hob id hida hm
          · exact hfresh i a hi' hida
        · exact h3 i j a b hij hi' hj' id hida hidb
    · exact h
  · exact h

/-- what an object shows only depends on its entry in `objs` and on the heap cells it points to -/
theorem observe_congr (w w' : World) (o : Nat) (hobj : w'.objs[o]? = w.objs[o]?)
    (hheap : ∀ (a : LasObj), w.objs[o]? = some a → ∀ id ∈ a.secs, w'.heap[id]? = w.heap[id]?) :
    w'.observe o = w.observe o := by
  unfold World.observe
  rw [hobj]
  cases ho : w.objs[o]? with
  | none => rfl
  | some a =>
    simp only
    apply List.map_congr_left
    intro id hid
    rw [hheap a ho id hid]

theorem observe_mutate_other (w : World) (h : WF w) (o o' : Nat) (ho : o ≠ o') (k : Nat) (v : SecObj) :
    (w.mutate o k v).observe o' = w.observe o' := by
  unfold World.mutate
  split
  · rename_i ob hob
    split
    · rename_i id hid
      apply observe_congr
      · rfl
      intro a ha id' hid'
      have hne : id ≠ id' := by
        rintro rfl
        exact h.2.2.1 o o' ob a ho hob ha id (List.mem_of_getElem? hid) hid'
      simp only [List.getElem?_set_ne hne]
    · rfl
  · rfl

theorem observe_readStep_other (w : World) (h : WF w) (o o' : Nat) (ho : o ≠ o') (p : Nat × SecObj) :
    (w.readStep o p).observe o' = w.observe o' := by
  unfold World.readStep
  split
  · rename_i ob hob
    split
    · apply observe_congr
      · simp only [List.getElem?_set_ne ho]
      · intro a ha id hid
        have := h.1 o' a ha id hid
        simp only [List.getElem?_append_left this]
    · rfl
  · rfl

theorem observe_newLas_other (w : World) (h : WF w) (o' : Nat) :
    (w.newLas true).observe o' = w.observe o' ∨ w.objs.length ≤ o' := by
  rcases Nat.lt_or_ge o' w.objs.length with hlt | hge
  · left
    rw [newLas_true]
    apply observe_congr
    · simp only [List.getElem?_append_left hlt]
    · intro a ha id hid
      have := h.1 o' a ha id hid
      simp only [List.getElem?_append_left this]
  · exact Or.inr hge

/-- the object an operation acts on -/
def targetOf : WOp → Option Nat
  | .newLas => none
  | .mutate o _ _ => some o
  | .read o _ => some o

theorem length_readStep (w : World) (o : Nat) (p : Nat × SecObj) :
    (w.readStep o p).objs.length = w.objs.length := by
  unfold World.readStep
  split
  · split
    · simp
    · rfl
  · rfl

/-- `read`, section by section: the world stays well-formed, no object is added, and no other object shows a change -/
theorem read_inv (w : World) (h : WF w) (o : Nat) (parsed : List (Nat × SecObj)) :
    WF (w.read o parsed) ∧ (w.read o parsed).objs.length = w.objs.length ∧
    ∀ o', o ≠ o' → (w.read o parsed).observe o' = w.observe o' := by
  rw [World.read_eq]
  induction parsed generalizing w with
  | nil => exact ⟨h, rfl, fun _ _ => rfl⟩
  | cons p ps ih =>
    obtain ⟨h1, h2, h3⟩ := ih _ (wf_readStep w h o p)
    exact ⟨h1, h2.trans (length_readStep w o p),
      fun o' ho => (h3 o' ho).trans (observe_readStep_other w h o o' ho p)⟩

theorem wf_step (w : World) (h : WF w) (op : WOp) : WF (w.step true op) := by
  cases op with
  | newLas => exact wf_newLas w h
  | mutate o k v => exact wf_mutate w h o k v
  | read o parsed => exact (read_inv w h o parsed).1

theorem wf_run_from (ops : List WOp) (w : World) (h : WF w) : WF (World.run true w ops) := by
  unfold World.run
  induction ops generalizing w with
  | nil => exact h
  | cons op ops ih => exact ih _ (wf_step w h op)

theorem length_step (w : World) (h : WF w) (op : WOp) : w.objs.length ≤ (w.step true op).objs.length := by
  cases op with
  | newLas => simp [World.step, newLas_true]
  | mutate o k v =>
    simp only [World.step, World.mutate]
    split
    · split <;> exact Nat.le_refl _
    · exact Nat.le_refl _
  | read o parsed => simp [World.step, (read_inv w h o parsed).2.1]

theorem observe_step_other (w : World) (h : WF w) (op : WOp) (o' : Nat) (ho : o' < w.objs.length)
    (hop : targetOf op ≠ some o') : (w.step true op).observe o' = w.observe o' := by
  cases op with
  | newLas =>
    rcases observe_newLas_other w h o' with h' | h'
    · exact h'
    · omega
  | mutate o k v =>
    exact observe_mutate_other w h o o' (fun e => hop (by rw [targetOf, e])) k v
  | read o parsed =>
    exact (read_inv w h o parsed).2.2 o' (fun e => hop (by rw [targetOf, e]))

theorem observe_run_other (ops : List WOp) (o' : Nat) (w : World) (h : WF w) (ho : o' < w.objs.length)
    (hops : ∀ op ∈ ops, targetOf op ≠ some o') : (World.run true w ops).observe o' = w.observe o' := by
  induction ops generalizing w with
  | nil => rfl
  | cons op ops ih =>
    have hop := hops op (by simp)
    have hrest : ∀ op' ∈ ops, targetOf op' ≠ some o' := fun op' hm => hops op' (by simp [hm])
    have hlen := length_step w h op
    show (World.run true (w.step true op) ops).observe o' = w.observe o'
    rw [ih (w.step true op) (wf_step w h op) (by omega) hrest, observe_step_other w h op o' ho hop]

end Lasio
