import LasioProofs.Props.C09
import LasioProofs.Props.C09Redelim
import LasioProofs.Props.C09RedelimFile
/-
C09, composition with the TAB / COMMA re-padding and the re-delimiting steps: definitions and helper lemmas for
Props/C09Compose.

§1  `RepadOK`, `OK'`: the side condition of C09 extended by `repadLine` on TAB / COMMA data with numeric cells
§2  `RedelimOK`: the side condition of a `.redelim` step (the hypotheses of `C09_redelim_file_replace` / `_insert` on the document)
§3  `ItemsUpToDlm`, `SecsUpToDlm`, `ParsedUpToDlm`: equal up to the DLM item — an equivalence; `JRel` for a DLM item implies it
§4  `StepOK`, `nextSteer`, `ChainAll`: side conditions along a mixed list of transformations
-/
namespace Lasio.Tf
open Lasio Lasio.Dt

/-! ## §1 the extended side condition -/

/-- `repadLine k dlm seps` on a document `d`: line `k` is data line `j` of a data section whose body has numeric cells (`NumBody`),
the separators are admissible, `float()` ignores the blanks around the items met and the items are numbers, the declared
delimiter is `dlm`, and the normal engine is in effect or `dlm` is not COMMA (hypotheses of `C09_repad_delimited_file`) -/
def RepadOK (o : DataOpts) (ft : FloatTable) (st : Steer) (k : Nat) (dlm : Dlm) (seps : List Str) (d : Doc) : Prop :=
  ∃ (pre : List Str) (s₁ s₂ : List (Str × List Str)) (t : Str) (body : List Str) (j c : Nat),
    d = pre ++ Rd.flat (s₁ ++ (t, body) :: s₂) ∧ (∀ x ∈ pre, Rd.isTitle x = false) ∧ Rd.WellFormed (s₁ ++ (t, body) :: s₂) ∧
    k = pre.length + Rd.size s₁ + 1 + j ∧ isDataKind (kindOf t) ∧ j < body.length ∧
    (∀ l, body[j]? = some l → isSkip l = false) ∧ st.delimiter = dlm ∧
    (effectiveEngine o st = .normal ∨ dlm ≠ .comma) ∧ NumBody dlm c body ∧ SepsOK dlm seps ∧
    FtStripOn ft (normalTokens (readSubs dlm) dlm body) ∧
    FtStripOn ft (normalTokens (readSubs dlm) dlm (mapAt j (relayLine1 dlm dlm seps) body)) ∧
    Converts ft (normalTokens (readSubs dlm) dlm body)

/-- the numeric-cells side condition, for `repadLine` only -/
def NumOK (o : DataOpts) (ft : FloatTable) (st : Steer) : Transform → Doc → Prop
  | .repadLine k dlm seps, d => RepadOK o ft st k dlm seps d
  | _, _ => False

/-- EXTENDED SIDE CONDITION: what `OK` allows, and `repadLine` for any delimiter on numeric cells -/
def OK' (o : DataOpts) (ft : FloatTable) (st : Steer) (dc : Nat) (t : Transform) (d : Doc) : Prop :=
  OK st dc t d ∨ NumOK o ft st t d

theorem OK'_of_OK (o : DataOpts) (ft : FloatTable) (st : Steer) (dc : Nat) (t : Transform) (d : Doc) (h : OK st dc t d) :
    OK' o ft st dc t d := Or.inl h

/-- on every constructor other than `repadLine`, `OK'` is `OK` -/
theorem OK'_iff_OK (o : DataOpts) (ft : FloatTable) (st : Steer) (dc : Nat) (t : Transform) (d : Doc)
    (ht : ∀ k dlm seps, t ≠ .repadLine k dlm seps) : OK' o ft st dc t d ↔ OK st dc t d := by
  constructor
  · rintro (h | h)
    · exact h
    · cases t <;> first | exact absurd rfl (ht _ _ _) | exact absurd h (by simp [NumOK])
  · exact Or.inl

/-! ## §2 the side condition of a `.redelim` step -/

/-- `redelim first last vk replace frm to seps` on `d`: the hypotheses of `C09_redelim_file_replace` (`replace = true`) resp.
`C09_redelim_file_insert` (`replace = false`) on the document, the current steering values `st` and declared count `dc` -/
def RedelimOK (o : Opts) (ft : FloatTable) (st : Steer) (dc : Nat) (first last vk : Nat) (replace : Bool) (frm to : Dlm)
    (seps : List Str) (d : Doc) : Prop :=
  ∃ (pre : List Str) (tV : Str) (l₁ l₂ : List Str) (ox : Option Str) (M s₂ : List (Str × List Str)) (t : Str)
    (body : List Str) (c : Nat),
    d = pre ++ Rd.flat ((tV, l₁ ++ ox.toList ++ l₂) :: M ++ (t, body) :: s₂) ∧
    replace = ox.isSome ∧
    first = pre.length + Rd.size ((tV, l₁ ++ ox.toList ++ l₂) :: M) ∧ last = first + body.length ∧
    vk = pre.length + 1 + l₁.length ∧
    (∀ y ∈ pre, Rd.isTitle y = false) ∧ Rd.WellFormed ((tV, l₁ ++ ox.toList ++ l₂) :: M ++ (t, body) :: s₂) ∧
    vTitle tV = true ∧ (ox = none → ∀ y, (tV :: l₁).getLast? = some y → y.getLast? = some '\n') ∧
    OtherSecsOK (M ++ s₂) ∧ isDataKind (kindOf t) ∧
    (∀ x ∈ ox, isDlmLine o.hdr x = true) ∧ (∀ l ∈ l₁ ++ l₂, isDlmLine o.hdr l = false) ∧
    st.delimiter = frm ∧ NumBody frm c body ∧ SepsOK to seps ∧
    FtStripOn ft (normalTokens (readSubs frm) frm body) ∧
    FtStripOn ft (normalTokens (readSubs to) to (relayBody frm to seps body)) ∧
    Converts ft (normalTokens (readSubs frm) frm body) ∧
    AgreeAlone o.dat (withDlm st to) dc ft (relayBody frm to seps body)

/-! ## §3 equal up to the DLM item -/

/-- two item lists that differ at most in their DLM items (mnemonic DLM under the reader's comparison) -/
def ItemsUpToDlm (o : Rd.ReadOpts) (l l' : List Rd.RItem) : Prop :=
  l.filter (fun it => !isDlmItem o it) = l'.filter (fun it => !isDlmItem o it)

/-- the values stored under a key: equal, or — under "Version" — item lists that are equal up to the DLM item -/
def ValUpToDlm (o : Rd.ReadOpts) (k : Rd.RKey) (v v' : Rd.SecVal) : Prop :=
  v = v' ∨ (k = Rd.kVersion ∧ ∃ l l', v = .items l ∧ v' = .items l' ∧ ItemsUpToDlm o l l')

/-- `las.sections` of two reads: the same keys in the same order, the values equal up to the DLM item of "Version" -/
def SecsUpToDlm (o : Rd.ReadOpts) (s s' : List (Rd.RKey × Rd.SecVal)) : Prop :=
  Forall2 (fun kv kv' => kv.1 = kv'.1 ∧ ValUpToDlm o kv.1 kv.2 kv'.2) s s'

/-- PARSED RESULTS EQUAL UP TO THE DLM ITEM: the sections as above, the curves of every data section equal -/
def ParsedUpToDlm (o : Rd.ReadOpts) (p p' : Parsed) : Prop := SecsUpToDlm o p.sections p'.sections ∧ p.data = p'.data

theorem valUpToDlm_refl (o : Rd.ReadOpts) (k : Rd.RKey) (v : Rd.SecVal) : ValUpToDlm o k v v := Or.inl rfl

theorem valUpToDlm_symm (o : Rd.ReadOpts) {k : Rd.RKey} {v v' : Rd.SecVal} (h : ValUpToDlm o k v v') : ValUpToDlm o k v' v := by
  rcases h with h | ⟨hk, l, l', h1, h2, h3⟩
  · exact Or.inl h.symm
  · exact Or.inr ⟨hk, l', l, h2, h1, h3.symm⟩

theorem valUpToDlm_trans (o : Rd.ReadOpts) {k : Rd.RKey} {v v' v'' : Rd.SecVal} (h : ValUpToDlm o k v v')
    (h' : ValUpToDlm o k v' v'') : ValUpToDlm o k v v'' := by
  rcases h with h | ⟨hk, l, l', h1, h2, h3⟩
  · rw [h]; exact h'
  · rcases h' with h' | ⟨_, m, m', g1, g2, g3⟩
    · rw [← h']; exact Or.inr ⟨hk, l, l', h1, h2, h3⟩
    · rw [h2] at g1
      cases g1
      exact Or.inr ⟨hk, l, m', h1, g2, h3.trans g3⟩

theorem forall2_symm' {α} (R : α → α → Prop) (hR : ∀ a b, R a b → R b a) {l l' : List α} (h : Forall2 R l l') : Forall2 R l' l := by
  induction h with
  | nil => exact .nil
  | cons h1 _ ih => exact .cons (hR _ _ h1) ih

theorem forall2_trans' {α} (R : α → α → Prop) (hR : ∀ a b c, R a b → R b c → R a c) {l l' l'' : List α}
    (h : Forall2 R l l') (h' : Forall2 R l' l'') : Forall2 R l l'' := by
  induction h generalizing l'' with
  | nil => cases h'; exact .nil
  | cons h1 _ ih =>
    cases h' with
    | cons g1 g2 => exact .cons (hR _ _ _ h1 g1) (ih g2)

theorem forall2_imp' {α β} (R S : α → β → Prop) (hRS : ∀ a b, R a b → S a b) {l : List α} {l' : List β} (h : Forall2 R l l') :
    Forall2 S l l' := by
  induction h with
  | nil => exact .nil
  | cons h1 _ ih => exact .cons (hRS _ _ h1) ih

theorem secsUpToDlm_refl (o : Rd.ReadOpts) (s : List (Rd.RKey × Rd.SecVal)) : SecsUpToDlm o s s :=
  forall2_refl _ (fun _ => ⟨rfl, valUpToDlm_refl o _ _⟩) s

theorem secsUpToDlm_symm (o : Rd.ReadOpts) {s s' : List (Rd.RKey × Rd.SecVal)} (h : SecsUpToDlm o s s') : SecsUpToDlm o s' s :=
  forall2_symm' _ (fun a b hab => ⟨hab.1.symm, by rw [← hab.1]; exact valUpToDlm_symm o hab.2⟩) h

theorem secsUpToDlm_trans (o : Rd.ReadOpts) {s s' s'' : List (Rd.RKey × Rd.SecVal)} (h : SecsUpToDlm o s s')
    (h' : SecsUpToDlm o s' s'') : SecsUpToDlm o s s'' :=
  forall2_trans' _ (fun a b c hab hbc => ⟨hab.1.trans hbc.1, valUpToDlm_trans o hab.2 (by rw [hab.1]; exact hbc.2)⟩) h h'

/-- the relation the `.redelim` theorems give (`JRel` under "Version" for item lists that differ in a DLM item) implies
`SecsUpToDlm` -/
theorem secsUpToDlm_of_jrel (o : Rd.ReadOpts) (l l' : List Rd.RItem) (hl : ItemsUpToDlm o l l')
    {s s' : List (Rd.RKey × Rd.SecVal)} (h : JRel Rd.kVersion (.items l) (.items l') s s') : SecsUpToDlm o s s' := by
  unfold JRel at h
  apply forall2_imp' _ _ _ h
  intro a b hab
  obtain ⟨h1, h2⟩ := hab
  refine ⟨h1, ?_⟩
  rcases h2 with h2 | ⟨hk, e1, e2⟩
  · exact Or.inl h2
  · exact Or.inr ⟨hk, l, l', e1, e2, hl⟩

/-- replacing / inserting a DLM item among the items of the ~Version body -/
theorem itemsUpToDlm_dlm (o : Rd.ReadOpts) (I₁ I₂ : List Rd.RItem) (oi : Option Rd.RItem) (new : Rd.RItem)
    (hoi : ∀ it ∈ oi, isDlmItem o it = true) (hnew : isDlmItem o new = true) :
    ItemsUpToDlm o (I₁ ++ oi.toList ++ I₂) (I₁ ++ new :: I₂) := by
  unfold ItemsUpToDlm
  have h1 : oi.toList.filter (fun it => !isDlmItem o it) = [] := by
    cases oi with
    | none => rfl
    | some it => simp [hoi it rfl]
  simp [List.filter_append, h1, hnew]

theorem parsedUpToDlm_refl (o : Rd.ReadOpts) (p : Parsed) : ParsedUpToDlm o p p := ⟨secsUpToDlm_refl o _, rfl⟩

theorem parsedUpToDlm_symm (o : Rd.ReadOpts) {p p' : Parsed} (h : ParsedUpToDlm o p p') : ParsedUpToDlm o p' p :=
  ⟨secsUpToDlm_symm o h.1, h.2.symm⟩

theorem parsedUpToDlm_trans (o : Rd.ReadOpts) {p p' p'' : Parsed} (h : ParsedUpToDlm o p p') (h' : ParsedUpToDlm o p' p'') :
    ParsedUpToDlm o p p'' := ⟨secsUpToDlm_trans o h.1 h'.1, h.2.trans h'.2⟩

theorem parsedUpToDlm_of_eq (o : Rd.ReadOpts) {p p' : Parsed} (h : p' = p) : ParsedUpToDlm o p p' := by
  rw [h]; exact parsedUpToDlm_refl o p

/-- the number of declared curves is not touched -/
theorem secsUpToDlm_declaredCount (o : Rd.ReadOpts) {s s' : List (Rd.RKey × Rd.SecVal)} (h : SecsUpToDlm o s s') :
    declaredCount s' = declaredCount s := by
  have hl : s'.lookup Rd.kCurves = s.lookup Rd.kCurves := by
    unfold SecsUpToDlm at h
    induction h with
    | nil => rfl
    | @cons a b l l' hab _ ih =>
      obtain ⟨k, v⟩ := a
      obtain ⟨k', v'⟩ := b
      obtain ⟨h1, h2⟩ := hab
      simp only at h1 h2
      subst h1
      by_cases hk : (Rd.kCurves == k) = true
      · simp only [List.lookup, hk]
        rcases h2 with h2 | ⟨hkv, _⟩
        · rw [h2]
        · have : k = Rd.kCurves := by simpa using (beq_iff_eq.mp hk).symm
          rw [this] at hkv
          exact absurd hkv (by decide)
      · have hk' : (Rd.kCurves == k) = false := by simpa using hk
        simp only [List.lookup, hk']
        exact ih
  unfold declaredCount
  rw [hl]

/-! ## §4 side conditions along a mixed list -/

/-- the side condition of one step, for the current steering values and declared count -/
def StepOK (o : Opts) (ft : FloatTable) (st : Steer) (dc : Nat) : Transform → Doc → Prop
  | .redelim first last vk replace frm to seps, d => RedelimOK o ft st dc first last vk replace frm to seps d
  | t, d => OK' o.dat ft st dc t d

/-- the steering values after a step: a `.redelim` changes the delimiter -/
def nextSteer (st : Steer) : Transform → Steer
  | .redelim _ _ _ _ _ to _ => withDlm st to
  | _ => st

/-- the steering values after a list of steps -/
def finalSteer (st : Steer) : List Transform → Steer
  | [] => st
  | t :: ts => finalSteer (nextSteer st t) ts

/-- the side conditions hold along the way (each for the document and the steering values reached) -/
def ChainAll (o : Opts) (ft : FloatTable) (st : Steer) (dc : Nat) : List Transform → Doc → Prop
  | [], _ => True
  | t :: ts, d => StepOK o ft st dc t d ∧ ChainAll o ft (nextSteer st t) dc ts (t.apply d)

/-- the same for lists without `.redelim` (side condition `OK'`, steering values fixed) -/
def Chain' (o : DataOpts) (ft : FloatTable) (st : Steer) (dc : Nat) : List Transform → Doc → Prop
  | [], _ => True
  | t :: ts, d => OK' o ft st dc t d ∧ Chain' o ft st dc ts (t.apply d)

def isRedelim : Transform → Bool
  | .redelim _ _ _ _ _ _ _ => true
  | _ => false

theorem stepOK_of_not_redelim (o : Opts) (ft : FloatTable) (st : Steer) (dc : Nat) (t : Transform) (d : Doc)
    (h : isRedelim t = false) : StepOK o ft st dc t d = OK' o.dat ft st dc t d := by
  cases t <;> first | rfl | (simp [isRedelim] at h)

theorem nextSteer_of_not_redelim (st : Steer) (t : Transform) (h : isRedelim t = false) : nextSteer st t = st := by
  cases t <;> first | rfl | (simp [isRedelim] at h)

/-- without `.redelim` the mixed chain is the chain of `C09_compose'` -/
theorem chainAll_iff_chain' (o : Opts) (ft : FloatTable) (st : Steer) (dc : Nat) (ts : List Transform) (d : Doc)
    (h : ∀ t ∈ ts, isRedelim t = false) : ChainAll o ft st dc ts d ↔ Chain' o.dat ft st dc ts d := by
  induction ts generalizing d with
  | nil => exact Iff.rfl
  | cons t ts ih =>
    simp only [ChainAll, Chain']
    rw [stepOK_of_not_redelim o ft st dc t d (h t (by simp)), nextSteer_of_not_redelim st t (h t (by simp)),
      ih _ (fun x hx => h x (List.mem_cons_of_mem _ hx))]

end Lasio.Tf
