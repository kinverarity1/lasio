import LasioModel.ReadObj
import LasioProofs.Lemmas.ReaderLemmas
/-
Lemmas about the typed header (`LasioModel/ReadObj.lean`):
  * the key ↦ kind accumulator does not disturb the `Rd` run (`processKinds_fst`, `readObjLines_raw`);
  * the kind of `Rd.mkParser` in closed form (`mkParser_kind`);
  * the windows of `findSections` start at existing lines whose stripped text is the window's title (`findSections_line`);
  * the keys of `las.sections` stay distinct (`processSections_nodup`);
  * PROVENANCE (`readObjLines_prov`): after a successful read, the items stored under a key are the result of `itemsLoop` on one of the
    "Header items" windows, with the parser `mkParser` built for that window's title line under the provisional version of that moment,
    and the kind recorded for the key is that parser's kind.
-/
namespace Lasio.Ro
open Lasio Lasio.Rd

abbrev Win := Nat × Nat × Str

/-! ## the accumulator is a spectator -/

theorem processKinds_fst (o : ReadOpts) (lines : List Str) (ws : List Win) (st : RState) (km : Kinds) :
    (processKinds o lines ws st km).map Prod.fst = processSections o lines ws st := by
  induction ws generalizing st km with
  | nil => rfl
  | cons w ws ih =>
    unfold processKinds processSections
    cases h : processSection o lines w st with
    | error e => rfl
    | ok st' => exact ih st' _

theorem readObjLines_raw (o : ReadOpts) (lines : List Str) :
    (readObjLines o lines).map THeader.raw = readLines o lines := by
  unfold readObjLines readLines
  cases hf : findSections lines with
  | nil => rfl
  | cons w ws =>
    simp only [← processKinds_fst o lines (w :: ws) RState.init []]
    cases processKinds o lines (w :: ws) RState.init [] with
    | error e => rfl
    | ok r =>
      obtain ⟨st, km⟩ := r
      simp only [Except.map]
      cases finishRead st <;> rfl

theorem readObjHeader_raw (o : ReadOpts) (text : Str) :
    (readObjHeader o text).map THeader.raw = readHeader o text := by
  unfold readObjHeader readHeader
  split
  · rfl
  · exact readObjLines_raw o _

theorem readObjLines_of_header (o : ReadOpts) (text : Str) (th : THeader) (h : readObjHeader o text = .ok th) :
    readObjLines o (splitLines text) = .ok th := by
  unfold readObjHeader at h
  split at h
  · cases h
  · exact h

/-- success of the typed read = success of the `Rd` read, with the same raw header -/
theorem readObjLines_ok (o : ReadOpts) (lines : List Str) (th : THeader) (h : readObjLines o lines = .ok th) :
    readLines o lines = .ok th.raw := by
  rw [← readObjLines_raw, h]; rfl

theorem readObjLines_of_readLines (o : ReadOpts) (lines : List Str) (hd : RHeader) (h : readLines o lines = .ok hd) :
    ∃ th, readObjLines o lines = .ok th ∧ th.raw = hd := by
  have := readObjLines_raw o lines
  rw [h] at this
  cases hr : readObjLines o lines with
  | error e => rw [hr] at this; cases this
  | ok th =>
    rw [hr] at this
    exact ⟨th, rfl, by simpa [Except.map] using this⟩

/-! ## the parser kind in closed form -/

theorem mkParser_kind (title v : Str) (p : Parser) (h : mkParser title (.known v) = .ok p) : p.kind = parserKind title v := by
  unfold mkParser at h
  unfold parserKind
  simp only at h
  -- whatever the order table answers, the kind is the first component of the triple chosen by the same tests on the title
  split at h
  all_goals
    cases h
    simp only [apply_ite Prod.fst, ite_self]

/-! ## the windows of `findSections` -/

theorem titleStarts_line (ls : List Str) (no n : Nat) (t : Str) (h : (n, t) ∈ titleStarts ls no) :
    no ≤ n ∧ ∃ l, ls[n - no]? = some l ∧ t = sline l := by
  induction ls generalizing no with
  | nil => simp [titleStarts] at h
  | cons l ls ih =>
    unfold titleStarts at h
    have tail : (n, t) ∈ titleStarts ls (no + 1) → no ≤ n ∧ ∃ l', (l :: ls)[n - no]? = some l' ∧ t = sline l' := by
      intro h
      obtain ⟨hle, l', hl', ht⟩ := ih (no + 1) h
      refine ⟨by omega, l', ?_, ht⟩
      have : n - no = (n - (no + 1)) + 1 := by omega
      rw [this]; simpa using hl'
    split at h
    · rcases List.mem_cons.mp h with h | h
      · cases h
        exact ⟨Nat.le_refl _, l, by simp, rfl⟩
      · exact tail h
    · exact tail h

theorem windows_start (ss : List (Nat × Str)) (last : Nat) (w : Win) (h : w ∈ windows ss last) : (w.1, w.2.2) ∈ ss := by
  fun_induction windows ss last with
  | case1 => simp at h
  | case2 last n t =>
    simp only [List.mem_singleton] at h
    subst h
    simp
  | case3 last n t n2 t2 rest ih =>
    rcases List.mem_cons.mp h with h | h
    · subst h; simp
    · exact List.mem_cons_of_mem _ (ih h)

/-- a window of `find_sections_in_file` starts at an existing line, and its title is that line, stripped -/
theorem findSections_line (lines : List Str) (w : Win) (h : w ∈ findSections lines) :
    ∃ titleLine rest, lines.drop w.1 = titleLine :: rest ∧ w.2.2 = sline titleLine := by
  obtain ⟨_, l, hl, ht⟩ := titleStarts_line lines 0 w.1 w.2.2 (windows_start _ _ w h)
  simp only [Nat.sub_zero] at hl
  obtain ⟨hlt, hget⟩ := List.getElem?_eq_some_iff.mp hl
  refine ⟨l, lines.drop (w.1 + 1), ?_, ht⟩
  rw [← hget]
  exact List.drop_eq_getElem_cons hlt

/-! ## the keys of `las.sections` stay distinct -/

/-- `d[k] = v` on an insertion-ordered dict keeps the keys, or appends the new one -/
theorem assign_keys (k : RKey) (v : SecVal) (m : List (RKey × Option SecVal)) :
    (assign k v m).map Prod.fst = if k ∈ m.map Prod.fst then m.map Prod.fst else m.map Prod.fst ++ [k] := by
  induction m with
  | nil => rfl
  | cons kv rest ih =>
    obtain ⟨k', v'⟩ := kv
    unfold assign
    by_cases hk : k' = k
    · simp [hk]
    · have hk' : ¬ k = k' := fun e => hk e.symm
      simp only [beq_iff_eq, hk, if_false, List.map_cons, ih, List.mem_cons, hk', false_or]
      split <;> rfl

theorem assign_nodup (k : RKey) (v : SecVal) (m : List (RKey × Option SecVal)) (h : (m.map Prod.fst).Nodup) :
    ((assign k v m).map Prod.fst).Nodup := by
  rw [assign_keys]
  split
  · exact h
  · rename_i hk
    exact List.nodup_append.mpr ⟨h, by simp, fun a ha b hb => by rw [List.mem_singleton.mp hb]; exact fun e => hk (e ▸ ha)⟩

theorem processSection_nodup (o : ReadOpts) (lines : List Str) (w : Win) (st st' : RState)
    (h : processSection o lines w st = .ok st') (hn : (st.sections.map Prod.fst).Nodup) : (st'.sections.map Prod.fst).Nodup := by
  unfold processSection at h
  split at h
  · split at h
    · cases h
    · obtain ⟨k, _, _, rfl⟩ := finishItems_ok _ _ _ _ _ h
      exact assign_nodup _ _ _ hn
  · cases h
    exact assign_nodup _ _ _ hn
  · cases h; exact hn
  · cases h; exact hn

theorem processSections_nodup (o : ReadOpts) (lines : List Str) (ws : List Win) (st st' : RState)
    (h : processSections o lines ws st = .ok st') (hn : (st.sections.map Prod.fst).Nodup) : (st'.sections.map Prod.fst).Nodup := by
  induction ws generalizing st with
  | nil => cases h; exact hn
  | cons w ws ih =>
    unfold processSections at h
    cases hp : processSection o lines w st with
    | error e => rw [hp] at h; cases h
    | ok st1 =>
      rw [hp] at h
      exact ih st1 h (processSection_nodup o lines w st st1 hp hn)

theorem lookup_of_mem_nodup {β} (m : List (RKey × β)) (k : RKey) (v : β) (hn : (m.map Prod.fst).Nodup) (h : (k, v) ∈ m) :
    m.lookup k = some v := by
  induction m with
  | nil => cases h
  | cons kv rest ih =>
    obtain ⟨k', v'⟩ := kv
    simp only [List.map_cons, List.nodup_cons] at hn
    rcases List.mem_cons.mp h with h | h
    · cases h; simp [List.lookup]
    · have hne : k ≠ k' := fun e => hn.1 (e ▸ List.mem_map_of_mem (f := Prod.fst) h)
      have : (k == k') = false := by simpa using hne
      simp only [List.lookup, this]
      exact ih hn.2 h

theorem processSections_append (o : ReadOpts) (lines : List Str) (a : List Win) (w : Win) (st0 st st' : RState)
    (h1 : processSections o lines a st0 = .ok st) (h2 : processSection o lines w st = .ok st') :
    processSections o lines (a ++ [w]) st0 = .ok st' := by
  induction a generalizing st0 with
  | nil =>
    cases h1
    simp only [List.nil_append, processSections, h2]
  | cons x a ih =>
    unfold processSections at h1
    simp only [List.cons_append]
    unfold processSections
    cases hp : processSection o lines x st0 with
    | error e => rw [hp] at h1; cases h1
    | ok st1 =>
      rw [hp] at h1
      exact ih st1 h1

/-! ## provenance of the stored items and of the recorded kind -/

theorem parseItemsSection_ok {o : ReadOpts} {ver : VerVal} {titleLine : Str} {rest : List Str} {first last : Nat} {items : List RItem}
    (h : parseItemsSection o ver (titleLine :: rest) first last = .ok items) :
    ∃ p, mkParser (lineStrip titleLine) ver = .ok p ∧ itemsLoop o p last rest first = .ok items := by
  unfold parseItemsSection at h
  simp only at h
  split at h
  · cases h
  · exact ⟨_, ‹_›, h⟩

/-- the items stored under `k` are what `itemsLoop` returned on the body of a "Header items" window `w` of `pre`, parsed by the
`SectionParser` `p` built from `w`'s title line under the provisional version of the state `stB` reached before `w`; `k` is the key that
window was routed to, and the kind recorded for `k` is `p.kind` -/
def Prov (o : ReadOpts) (lines : List Str) (pre : List Win) (km : Kinds) (k : RKey) (items : List RItem) : Prop :=
  ∃ (a : List Win) (w : Win) (b : List Win) (stB : RState) (titleLine : Str) (rest : List Str) (p : Parser),
    pre = a ++ w :: b ∧ processSections o lines a RState.init = .ok stB ∧
    sectionType w.2.2 = .items ∧ lines.drop w.1 = titleLine :: rest ∧
    mkParser (lineStrip titleLine) (classifyVer stB.steer.vers) = .ok p ∧
    itemsLoop o p w.2.1 rest w.1 = .ok items ∧
    routeKey w.2.2 (classifyVer (steer o w.2.2 items stB.steer).vers) = .ok k ∧
    kindAt km k = p.kind

def Inv (o : ReadOpts) (lines : List Str) (pre : List Win) (st : RState) (km : Kinds) : Prop :=
  ∀ k items, lookupSec k st.sections = some (.items items) → Prov o lines pre km k items

theorem kindAt_cons_same (k : RKey) (kind : PKind) (km : Kinds) : kindAt ((k, kind) :: km) k = kind := by
  simp [kindAt, List.lookup]

theorem kindAt_cons_other (k k2 : RKey) (kind : PKind) (km : Kinds) (h : k2 ≠ k) : kindAt ((k, kind) :: km) k2 = kindAt km k2 := by
  have : (k2 == k) = false := by simpa using h
  simp [kindAt, List.lookup, this]

theorem Prov.extend {o : ReadOpts} {lines : List Str} {pre : List Win} {km km' : Kinds} {k : RKey} {items : List RItem}
    (h : Prov o lines pre km k items) (w : Win) (hk : kindAt km' k = kindAt km k) : Prov o lines (pre ++ [w]) km' k items := by
  obtain ⟨a, w0, b, stB, tl, rest, p, e, h1, h2, h3, h4, h5, h6, h7⟩ := h
  exact ⟨a, w0, b ++ [w], stB, tl, rest, p, by simp [e], h1, h2, h3, h4, h5, h6, hk.trans h7⟩

theorem stepKind_not_items {km : Kinds} (o : ReadOpts) (lines : List Str) (w : Win) (st : RState) (h : sectionType w.2.2 ≠ .items) :
    updKinds o lines w st km = km := by
  have hn : stepKind o lines w st = none := by
    unfold stepKind
    split
    · rename_i h'; exact absurd h' h
    · rfl
  unfold updKinds
  rw [hn]

/-- one iteration keeps the invariant -/
theorem inv_step (o : ReadOpts) (lines : List Str) (pre : List Win) (w : Win) (st st' : RState) (km : Kinds)
    (hpre : processSections o lines pre RState.init = .ok st) (hinv : Inv o lines pre st km)
    (hw : lines.drop w.1 ≠ []) (h : processSection o lines w st = .ok st') :
    Inv o lines (pre ++ [w]) st' (updKinds o lines w st km) := by
  intro k2 items2 hl
  unfold processSection at h
  split at h
  · -- "Header items"
    rename_i hty
    split at h
    · cases h
    · rename_i items hpi
      cases hd : lines.drop w.1 with
      | nil => exact absurd hd hw
      | cons titleLine rest =>
        rw [hd] at hpi
        obtain ⟨p, hp, hi⟩ := parseItemsSection_ok hpi
        obtain ⟨k, _, hr, rfl⟩ := finishItems_ok _ _ _ _ _ h
        have hu : updKinds o lines w st km = (k, p.kind) :: km := by
          unfold updKinds stepKind
          simp only [hty, hd, hp, hi, hr]
        rw [hu]
        simp only at hl
        by_cases hk : k2 = k
        · subst hk
          rw [lookupSec_assign_same] at hl
          cases hl
          exact ⟨pre, w, [], st, titleLine, rest, p, rfl, hpre, hty, hd, hp, hi, hr, kindAt_cons_same _ _ _⟩
        · rw [lookupSec_assign_other _ _ _ _ hk] at hl
          exact (hinv k2 items2 hl).extend w (kindAt_cons_other _ _ _ _ hk)
  -- the other three kinds of window record no kind
  all_goals
    rename_i hty
    rw [stepKind_not_items o lines w st (by rw [hty]; intro e; cases e)]
    cases h
  · -- "Header (other)"
    simp only [finishOther] at hl
    by_cases hk : k2 = routeKeyOther w.2.2
    · subst hk
      rw [lookupSec_assign_same] at hl
      cases hl
    · rw [lookupSec_assign_other _ _ _ _ hk] at hl
      exact (hinv k2 items2 hl).extend w rfl
  · exact (hinv k2 items2 hl).extend w rfl
  · exact (hinv k2 items2 hl).extend w rfl

theorem inv_run (o : ReadOpts) (lines : List Str) (ws pre : List Win) (st st' : RState) (km km' : Kinds)
    (hpre : processSections o lines pre RState.init = .ok st) (hinv : Inv o lines pre st km)
    (hw : ∀ w ∈ ws, lines.drop w.1 ≠ []) (h : processKinds o lines ws st km = .ok (st', km')) :
    Inv o lines (pre ++ ws) st' km' := by
  induction ws generalizing pre st km with
  | nil =>
    cases h
    simpa using hinv
  | cons w ws ih =>
    unfold processKinds at h
    cases hp : processSection o lines w st with
    | error e => rw [hp] at h; cases h
    | ok st1 =>
      rw [hp] at h
      have := ih (pre ++ [w]) st1 (updKinds o lines w st km) (processSections_append o lines pre w _ st st1 hpre hp)
        (inv_step o lines pre w st st1 km hpre hinv (hw w (by simp)) hp) (fun x hx => hw x (by simp [hx])) h
      simpa using this

theorem inv_init (o : ReadOpts) (lines : List Str) : Inv o lines [] RState.init [] := by
  intro k items h
  exfalso
  revert h
  simp only [RState.init, initSections, lookupSec, List.lookup]
  repeat' split
  all_goals simp

theorem ite_err_ok {ε α} {c : Prop} [Decidable c] {e : ε} {x : Except ε α} {y : α}
    (h : (if c then Except.error e else x) = .ok y) : x = .ok y := by
  by_cases hc : c
  · rw [if_pos hc] at h; cases h
  · rw [if_neg hc] at h; exact h

theorem finishRead_sections (st : RState) (hd : RHeader) (h : finishRead st = .ok hd) :
    hd.sections = st.sections.filterMap (fun kv => kv.2.map fun v => (kv.1, v)) := by
  unfold finishRead at h
  have h2 := ite_err_ok (ite_err_ok h)
  injection h2 with h2
  rw [← h2]

/-- **Provenance.**  After a successful typed read, whatever items are stored under a key come from one "Header items" window of the file,
and the kind recorded for the key is the kind of the parser that read that window. -/
theorem readObjLines_prov (o : ReadOpts) (lines : List Str) (th : THeader) (h : readObjLines o lines = .ok th)
    (k : RKey) (items : List RItem) (hm : (k, SecVal.items items) ∈ th.raw.sections) :
    Prov o lines (findSections lines) th.kinds k items := by
  unfold readObjLines at h
  split at h
  · cases h
  · split at h
    · cases h
    · rename_i st km hk
      split at h
      · cases h
      · rename_i hd hfin
        cases h
        have hps : processSections o lines (findSections lines) RState.init = .ok st := by
          rw [← processKinds_fst o lines _ RState.init [], hk]
          rfl
        have hnd := processSections_nodup o lines _ _ st hps (by decide)
        have hinv := inv_run o lines (findSections lines) [] RState.init st [] km rfl (inv_init o lines)
          (fun w hw => by
            obtain ⟨tl, rest, e, _⟩ := findSections_line lines w hw
            rw [e]; exact List.cons_ne_nil _ _) hk
        simp only [List.nil_append] at hinv
        apply hinv k items
        -- the stored pair comes from an assigned entry of `st.sections`
        have hsec := finishRead_sections st hd hfin
        simp only [typedHeader] at hm
        rw [hsec] at hm
        obtain ⟨kv, hkv, e⟩ := List.mem_filterMap.mp hm
        obtain ⟨k', v'⟩ := kv
        cases v' with
        | none => simp at e
        | some v =>
          simp only [Option.map_some, Option.some.injEq, Prod.mk.injEq] at e
          obtain ⟨e1, e2⟩ := e
          subst e1 e2
          unfold lookupSec
          rw [lookup_of_mem_nodup _ _ _ hnd hkv]
          rfl

end Lasio.Ro
