import LasioModel.Views
import LasioProofs.Lemmas.CaseLemmas
/-
For C18 (Views): insertion-ordered dict construction, `set`-of-matches reasoning.
-/
namespace Lasio

theorem mem_dictSet {V} (d : List (Str × V)) (k : Str) (v : V) (p : Str × V) (h : p ∈ dictSet d k v) :
    p ∈ d ∨ p = (k, v) := by
  induction d with
  | nil => simp [dictSet] at h; exact Or.inr h
  | cons a r ih =>
    obtain ⟨k', v'⟩ := a
    unfold dictSet at h
    split at h
    · next hk =>
      rcases List.mem_cons.mp h with h | h
      · right; rw [h, hk]
      · left; exact List.mem_cons_of_mem _ h
    · rcases List.mem_cons.mp h with h | h
      · left; rw [h]; exact List.mem_cons_self
      · rcases ih h with h | h
        · left; exact List.mem_cons_of_mem _ h
        · right; exact h

theorem mem_foldl_dictSet {V} (ps acc : List (Str × V)) (p : Str × V)
    (h : p ∈ ps.foldl (fun d kv => dictSet d kv.1 kv.2) acc) : p ∈ acc ∨ p ∈ ps := by
  induction ps generalizing acc with
  | nil => exact Or.inl h
  | cons a r ih =>
    rcases ih _ h with h | h
    · rcases mem_dictSet _ _ _ _ h with h | h
      · exact Or.inl h
      · right; rw [h]; exact List.mem_cons_self
    · exact Or.inr (List.mem_cons_of_mem _ h)

/-- a dict only holds pairs that were put into it -/
theorem mem_dictOf {V} (ps : List (Str × V)) (p : Str × V) (h : p ∈ dictOf ps) : p ∈ ps := by
  rcases mem_foldl_dictSet ps [] p h with h | h
  · cases h
  · exact h

theorem dictSet_of_not_mem {V} (d : List (Str × V)) (k : Str) (v : V) (h : k ∉ d.map (·.1)) :
    dictSet d k v = d ++ [(k, v)] := by
  induction d with
  | nil => rfl
  | cons a r ih =>
    obtain ⟨k', v'⟩ := a
    simp only [List.map_cons, List.mem_cons, not_or] at h
    unfold dictSet
    rw [if_neg (fun e => h.1 e.symm), ih h.2]
    rfl

theorem foldl_dictSet_nodup {V} (ps acc : List (Str × V)) (h : ((acc ++ ps).map (·.1)).Nodup) :
    ps.foldl (fun d kv => dictSet d kv.1 kv.2) acc = acc ++ ps := by
  induction ps generalizing acc with
  | nil => simp
  | cons a r ih =>
    have hk : a.1 ∉ acc.map (·.1) := by
      intro hm
      rw [List.map_append, List.map_cons] at h
      have := (List.nodup_append.mp h).2.2 a.1 hm a.1 List.mem_cons_self
      exact this rfl
    simp only [List.foldl_cons]
    rw [dictSet_of_not_mem _ _ _ hk, ih]
    · simp
    · simpa using h

/-- with pairwise distinct keys the dict is the list of pairs itself, in order -/
theorem dictOf_nodup {V} (ps : List (Str × V)) (h : (ps.map (·.1)).Nodup) : dictOf ps = ps := by
  have := foldl_dictSet_nodup ps [] (by simpa using h)
  simpa [dictOf] using this

theorem unitMatches_eq (u : Str) (ps : List Str) : unitMatches u ps = ps.any (fun p => upper u == upper p) := by
  unfold unitMatches
  cases h : ps.any (fun p => u == p) with
  | false => simp
  | true =>
    simp only [Bool.true_or]
    obtain ⟨p, hp, he⟩ := List.any_eq_true.mp h
    have : u = p := by simpa using he
    symm
    exact List.any_eq_true.mpr ⟨p, hp, by simp [this]⟩

theorem unitMatches_congr (u u' : Str) (ps : List Str) (h : upper u = upper u') :
    unitMatches u ps = unitMatches u' ps := by
  rw [unitMatches_eq, unitMatches_eq, h]

theorem unitMatchList_upper (table : List (Str × List Str)) (units : List Str) :
    unitMatchList unitMatches table units =
      table.flatMap fun r => (units.map upper).filterMap fun w =>
        if r.2.any (fun p => w == upper p) then some r.1 else none := by
  unfold unitMatchList
  congr 1
  funext r
  rw [List.filterMap_map]
  congr 1
  funext u
  simp [unitMatches_eq]

theorem mem_unitMatchList (mt : Str → List Str → Bool) (table : List (Str × List Str)) (units : List Str) (k : Str) :
    k ∈ unitMatchList mt table units ↔ ∃ r ∈ table, r.1 = k ∧ ∃ u ∈ units, mt u r.2 = true := by
  unfold unitMatchList
  simp only [List.mem_flatMap, List.mem_filterMap]
  constructor
  · rintro ⟨r, hr, u, hu, h⟩
    split at h
    · next hm => exact ⟨r, hr, by simpa using h, u, hu, hm⟩
    · cases h
  · rintro ⟨r, hr, hk, u, hu, hm⟩
    exact ⟨r, hr, u, hu, by simp [hm, hk]⟩

theorem uniqueKey_eq_some (ms : List Str) (k : Str) :
    uniqueKey ms = some k ↔ ms ≠ [] ∧ ∀ x ∈ ms, x = k := by
  unfold uniqueKey
  constructor
  · intro h
    split at h
    next k' heq =>
      cases h
      refine ⟨fun e => by simp [e] at heq, fun x hx => ?_⟩
      have := List.mem_eraseDups.mpr hx
      rw [heq] at this
      simpa using this
    next => cases h
  · rintro ⟨hne, hall⟩
    cases ms with
    | nil => exact absurd rfl hne
    | cons a as =>
      have ha : a = k := hall a List.mem_cons_self
      subst ha
      have hf : (as.filter fun b => !b == a) = [] :=
        List.filter_eq_nil_iff.mpr fun x hx => by simp [hall x (List.mem_cons_of_mem _ hx)]
      rw [List.eraseDups_cons, hf]
      rfl

theorem uniqueKey_none_of_two (ms : List Str) (a b : Str) (ha : a ∈ ms) (hb : b ∈ ms) (hab : a ≠ b) :
    uniqueKey ms = none := by
  cases h : uniqueKey ms with
  | none => rfl
  | some k =>
    obtain ⟨_, hall⟩ := (uniqueKey_eq_some ms k).mp h
    exact absurd ((hall a ha).trans (hall b hb).symm) hab

theorem length_csvDecorate (a b : Char) (ms us : List Str) :
    (csvDecorate a b ms us).length = min ms.length us.length := by
  simp [csvDecorate]

theorem csvMnemonicRow_eq (o : CsvOpts) (origs units : List Str) :
    csvMnemonicRow o origs units =
      if (o.mnemonics.resolve origs).isEmpty then none
      else match o.unitsLoc.brackets with
        | some (a, b) => if (o.units.resolve units).isEmpty then some (o.mnemonics.resolve origs)
                         else some (csvDecorate a b (o.mnemonics.resolve origs) (o.units.resolve units))
        | none => some (o.mnemonics.resolve origs) := rfl

theorem csvUnitRow_eq (o : CsvOpts) (units : List Str) :
    csvUnitRow o units =
      if (o.units.resolve units).isEmpty then none
      else if o.unitsLoc = .line then some (o.units.resolve units) else none := rfl

theorem csvMnemonicRow_some (o : CsvOpts) (origs units r : List Str) (h : csvMnemonicRow o origs units = some r) :
    r = o.mnemonics.resolve origs ∨
      ∃ a b, r = csvDecorate a b (o.mnemonics.resolve origs) (o.units.resolve units) := by
  rw [csvMnemonicRow_eq] at h
  split at h
  · cases h
  · split at h
    next a b _ =>
      split at h
      · cases h; exact Or.inl rfl
      · cases h; exact Or.inr ⟨a, b, rfl⟩
    next => cases h; exact Or.inl rfl

theorem csvUnitRow_some (o : CsvOpts) (units r : List Str) (h : csvUnitRow o units = some r) :
    r = o.units.resolve units ∧ o.unitsLoc = .line := by
  rw [csvUnitRow_eq] at h
  split at h
  · cases h
  · split at h
    next hl => cases h; exact ⟨rfl, hl⟩
    next => cases h

end Lasio
