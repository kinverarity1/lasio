import LasioModel.Copy
import LasioProofs.Lemmas.SectionInv
/-
Helper lemmas for C17: `renumber` over an append, prefixes of canonical sections, and a decidable
characterisation of `Canonical`.
-/
namespace Lasio

theorem copyItem_id (it : Item) : copyItem it = it := by
  cases it; rfl

theorem map_copyItem (l : List Item) : l.map copyItem = l := by
  induction l with
  | nil => rfl
  | cons a as ih => rw [List.map_cons, copyItem_id, ih]

theorem renumber_append (tr : Bool) (t : Str) (l1 l2 : List Item) (k : Nat) :
    renumber tr t (l1 ++ l2) k = renumber tr t l1 k ++ renumber tr t l2 (k + countGroup tr t l1) := by
  induction l1 generalizing k with
  | nil => simp [renumber, countGroup]
  | cons a as ih =>
    rw [List.cons_append, countGroup_cons]
    by_cases hg : cmpStr tr (useful a.orig) t = true
    · rw [if_pos hg, renumber_cons_in _ _ _ _ _ hg, renumber_cons_in _ _ _ _ _ hg, ih (k + 1), Nat.add_assoc]
      rfl
    · rw [if_neg hg, renumber_cons_out _ _ _ _ _ hg, renumber_cons_out _ _ _ _ _ hg, ih k, Nat.zero_add]
      rfl

/-- `assign_duplicate_suffixes(t)` changes nothing exactly when the group of `t` is small or already numbered -/
theorem assign_fix_iff (s : Section) (t : Str) :
    s.assignSuffixes t = s ↔ (1 < countGroup s.tr t s.items → renumber s.tr t s.items 0 = s.items) := by
  unfold Section.assignSuffixes
  split
  next hc => exact ⟨fun h _ => congrArg Section.items h, fun h => by rw [h hc]⟩
  next hc => exact ⟨fun _ h => absurd h hc, fun _ => rfl⟩

/-- a prefix of a canonical section is canonical -/
theorem canonical_prefix (tr : Bool) (l1 l2 : List Item) (h : Canonical ⟨l1 ++ l2, tr⟩) : Canonical ⟨l1, tr⟩ := by
  intro t
  rw [assign_fix_iff]
  intro hc
  simp only [] at hc ⊢
  have hi := (assign_fix_iff _ t).mp (h t) (by simp only []; rw [countGroup_append]; omega)
  simp only [] at hi
  rw [renumber_append] at hi
  exact (List.append_inj hi (renumber_length _ _ _ _)).1

/-- rebuilding a canonical list with lasio's `append`, item by item, reproduces it -/
theorem foldl_append_canonical_from (tr : Bool) (l1 l2 : List Item) (h : Canonical ⟨l1 ++ l2, tr⟩) :
    l2.foldl Section.append ⟨l1, tr⟩ = ⟨l1 ++ l2, tr⟩ := by
  induction l2 generalizing l1 with
  | nil => simp
  | cons a l2 ih =>
    have e : l1 ++ a :: l2 = (l1 ++ [a]) ++ l2 := by simp
    rw [e] at h ⊢
    have hp : Canonical ⟨l1 ++ [a], tr⟩ := canonical_prefix tr _ _ h
    have ha : (⟨l1, tr⟩ : Section).append a = ⟨l1 ++ [a], tr⟩ := hp (useful a.orig)
    rw [List.foldl_cons, ha]
    exact ih _ h

/-- the members of the group of `t`, numbered from `k`, carry the session names `useful:k+1`, `useful:k+2`, … -/
def GroupNumbered (tr : Bool) (t : Str) (l : List Item) (k : Nat) : Prop :=
  ∀ p ∈ (l.filter (inGroup tr t)).zipIdx k, p.1.session = useful p.1.orig ++ ':' :: natToStr (p.2 + 1)

theorem item_session_ext (a : Item) (x : Str) : ({ a with session := x } : Item) = a ↔ a.session = x := by
  cases a
  simp [eq_comm]

theorem renumber_fix_iff (tr : Bool) (t : Str) (l : List Item) (k : Nat) :
    renumber tr t l k = l ↔ GroupNumbered tr t l k := by
  induction l generalizing k with
  | nil => simp [renumber, GroupNumbered]
  | cons a rest ih =>
    by_cases hg : cmpStr tr (useful a.orig) t = true
    · have hin : inGroup tr t a = true := hg
      rw [renumber_cons_in _ _ _ _ _ hg]
      unfold GroupNumbered
      rw [List.filter_cons, if_pos hin, List.zipIdx_cons]
      simp only [List.cons.injEq, List.mem_cons, forall_eq_or_imp]
      rw [ih (k + 1), item_session_ext]
      rfl
    · have hin : ¬ inGroup tr t a = true := hg
      rw [renumber_cons_out _ _ _ _ _ hg]
      unfold GroupNumbered
      rw [List.filter_cons, if_neg hin]
      simp only [List.cons.injEq, true_and]
      rw [ih k]
      rfl

theorem canonical_iff (s : Section) :
    Canonical s ↔ ∀ t, 1 < countGroup s.tr t s.items → GroupNumbered s.tr t s.items 0 := by
  unfold Canonical
  simp only [assign_fix_iff, renumber_fix_iff]

theorem renumber_filter_other (tr : Bool) (t u : Str) (h : ckey tr t ≠ ckey tr u) (l : List Item) (k : Nat) :
    (renumber tr u l k).filter (inGroup tr t) = l.filter (inGroup tr t) :=
  renumber_filter_of_not tr u _ (fun _ _ hg => Bool.eq_false_iff.mpr fun hx =>
    h (((cmpStr_true_iff _ _ _).mp hx).symm.trans ((cmpStr_true_iff _ _ _).mp hg))) l k

theorem groupNumbered_of_zipIdx (F : List Item) (k : Nat) :
    ∀ p ∈ ((F.zipIdx k).map (fun p => withSuffix p.1 (p.2 + 1))).zipIdx k,
      p.1.session = useful p.1.orig ++ ':' :: natToStr (p.2 + 1) := by
  induction F generalizing k with
  | nil => simp
  | cons a rest ih =>
    rw [List.zipIdx_cons, List.map_cons, List.zipIdx_cons]
    intro p hp
    rcases List.mem_cons.mp hp with rfl | hp
    · rfl
    · exact ih (k + 1) p hp

/-- putting ANY item between two halves of a canonical section and re-suffixing its group gives a canonical
section (the common core of `append` and `insert`) -/
theorem canonical_insert_assign (s : Section) (l1 l2 : List Item) (it : Item) (hl : s.items = l1 ++ l2)
    (h : Canonical s) : Canonical ((⟨l1 ++ it :: l2, s.tr⟩ : Section).assignSuffixes (useful it.orig)) := by
  obtain ⟨l, tr⟩ := s
  subst hl
  rw [canonical_iff] at h ⊢
  simp only [] at h
  rw [assign_tr]
  simp only []
  intro t hc
  rw [countGroup_congr tr t _ (l1 ++ it :: l2) (assign_origs ⟨l1 ++ it :: l2, tr⟩ (useful it.orig))] at hc
  by_cases hk : ckey tr t = ckey tr (useful it.orig)
  · -- the group that was re-suffixed
    have hgrp := inGroup_ckey tr t _ hk
    have hcu : countGroup tr (useful it.orig) (l1 ++ it :: l2) > 1 := by
      rw [← countGroup_ckey tr t _ _ hk]
      exact hc
    unfold Section.assignSuffixes
    simp only [hcu, if_true]
    unfold GroupNumbered
    rw [hgrp, renumber_filter_in]
    exact groupNumbered_of_zipIdx _ 0
  · -- another group: untouched, and the new item does not belong to it
    have hnot : ¬ inGroup tr t it = true := fun hx => hk ((cmpStr_true_iff _ _ _).mp hx).symm
    have hins : (l1 ++ it :: l2).filter (inGroup tr t) = (l1 ++ l2).filter (inGroup tr t) := by
      rw [List.filter_append, List.filter_append, List.filter_cons, if_neg hnot]
    have hc2 : 1 < countGroup tr t (l1 ++ l2) := by
      have e : countGroup tr t (l1 ++ it :: l2) = countGroup tr t (l1 ++ l2) := congrArg List.length hins
      rwa [e] at hc
    unfold GroupNumbered Section.assignSuffixes
    split
    · simp only []
      rw [renumber_filter_other tr t _ hk, hins]
      exact h t hc2
    · rw [hins]
      exact h t hc2

end Lasio
