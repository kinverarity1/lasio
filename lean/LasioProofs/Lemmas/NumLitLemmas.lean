import Mathlib.Tactic.FieldSimp
import Mathlib.Tactic.Ring
import Mathlib.Tactic.NormNum
import Mathlib.Algebra.Field.Rat
import LasioModel.NumLit
import LasioProofs.Lemmas.StrLemmas
/-
Specification of plain decimal literals (independent of the parser of LasioModel/NumLit.lean) and the lemmas that
tie the parser, the value computation and the finiteness shortcut to it.  Used by Props/C08.lean.
-/
namespace Lasio

/-! ### the grammar, as rendering of a syntax tree with side conditions -/

def AllDig (s : Str) : Prop := ∀ c ∈ s, isDigit c = true

def Sign.str : Sign → Str
  | .none => []
  | .plus => ['+']
  | .minus => ['-']

/-- text of an exponent part -/
def expStr : Option (Char × Sign × Str) → Str
  | none => []
  | some (c, sg, ds) => c :: (sg.str ++ ds)

/-- the text a syntax tree stands for: sign, integer digits, optional '.', fraction digits, exponent part -/
def Lit.render (l : Lit) : Str :=
  l.sign.str ++ (l.ip ++ ((if l.dot then '.' :: l.fp else l.fp) ++ expStr l.exp))

/-- side conditions of the grammar  sign? (digits+ ('.' digits*)? | '.' digits+) ([eE] sign? digits+)?  -/
structure Lit.WF (l : Lit) : Prop where
  ip : AllDig l.ip
  fp : AllDig l.fp
  nodot : l.dot = false → l.fp = []
  nonempty : l.ip ≠ [] ∨ (l.dot = true ∧ l.fp ≠ [])
  exp : ∀ c sg ds, l.exp = some (c, sg, ds) → (c = 'e' ∨ c = 'E') ∧ ds ≠ [] ∧ AllDig ds

/-- plain decimal literal -/
inductive PlainDec : Str → Prop
  | mk (l : Lit) (h : l.WF) : PlainDec l.render

/-- positional value of a digit string: d₀·10^(n-1) + … + d_{n-1} -/
def decVal : Str → Nat
  | [] => 0
  | c :: t => (c.toNat - 48) * 10 ^ t.length + decVal t

def Sign.toInt : Sign → Int
  | .minus => -1
  | _ => 1

/-- the exponent as written (0 when there is no exponent part) -/
def Lit.writtenExp (l : Lit) : Int :=
  match l.exp with
  | none => 0
  | some (_, sg, ds) => sg.toInt * (decVal ds : Int)

/-- denotation: the literal stands for `(if neg then -1 else 1) * mant * 10 ^ exp10` where `mant` is the value of all
digits of the mantissa read as one integer and `exp10` = written exponent − number of fraction digits -/
def Lit.denote (l : Lit) : Bool × Nat × Int :=
  (decide (l.sign = .minus), decVal (l.ip ++ l.fp), l.writtenExp - (l.fp.length : Int))

/-- `mant * 10 ^ e` is below the binary64 overflow threshold (both sides scaled to naturals) -/
def FiniteDec (mant : Nat) (e : Int) : Prop :=
  mant * 10 ^ e.toNat < (2 ^ 1024 - 2 ^ 970) * 10 ^ (-e).toNat

/-! ### characters -/

theorem digit_ne_of {c d : Char} (h : isDigit c = true) (hd : isDigit d = false) : c ≠ d := by
  intro e; subst e; simp [h] at hd

theorem digit_ne_dot {c : Char} (h : isDigit c = true) : c ≠ '.' := digit_ne_of h (by decide)
theorem digit_ne_e {c : Char} (h : isDigit c = true) : c ≠ 'e' := digit_ne_of h (by decide)
theorem digit_ne_E {c : Char} (h : isDigit c = true) : c ≠ 'E' := digit_ne_of h (by decide)

theorem AllDig.nil : AllDig [] := by intro c h; cases h
theorem AllDig.cons {c : Char} {t : Str} : AllDig (c :: t) ↔ isDigit c = true ∧ AllDig t := by
  simp [AllDig]
theorem AllDig.append {a b : Str} : AllDig (a ++ b) ↔ AllDig a ∧ AllDig b := by
  simp only [AllDig, List.mem_append]
  constructor
  · intro h; exact ⟨fun c hc => h c (Or.inl hc), fun c hc => h c (Or.inr hc)⟩
  · rintro ⟨h1, h2⟩ c (hc | hc)
    · exact h1 c hc
    · exact h2 c hc

theorem allDig_takeWhile (s : Str) : AllDig (s.takeWhile isDigit) :=
  fun c hc => List.all_eq_true.mp List.all_takeWhile c hc

/-- a string does not start with a digit -/
def NoDigitHead (s : Str) : Prop := ∀ c t, s = c :: t → isDigit c = false

theorem takeWhile_digits_append {a r : Str} (ha : AllDig a) (hr : NoDigitHead r) :
    (a ++ r).takeWhile isDigit = a := by
  rw [List.takeWhile_append_of_pos ha]
  cases r with
  | nil => simp
  | cons c t => simp [hr c t rfl]

theorem dropWhile_digits_append {a r : Str} (ha : AllDig a) (hr : NoDigitHead r) :
    (a ++ r).dropWhile isDigit = r := by
  rw [List.dropWhile_append_of_pos ha]
  cases r with
  | nil => simp
  | cons c t => simp [hr c t rfl]

theorem noDigitHead_dropWhile (s : Str) : NoDigitHead (s.dropWhile isDigit) := by
  intro c t h
  have := List.head?_dropWhile_not isDigit s
  rw [h] at this
  exact this

/-! ### sign -/

theorem takeSign_spec (s : Str) : (takeSign s).1.str ++ (takeSign s).2 = s := by
  cases s with
  | nil => rfl
  | cons c t =>
    unfold takeSign
    by_cases h1 : c = '+'
    · simp [h1, Sign.str]
    · by_cases h2 : c = '-'
      · simp [h2, Sign.str]
      · simp [h1, h2, Sign.str]

/-- the rest does not start with a sign character -/
def NoSignHead (s : Str) : Prop := ∀ c t, s = c :: t → c ≠ '+' ∧ c ≠ '-'

theorem takeSign_render (sg : Sign) {r : Str} (hr : NoSignHead r) : takeSign (sg.str ++ r) = (sg, r) := by
  cases sg with
  | plus => simp [Sign.str, takeSign]
  | minus => simp [Sign.str, takeSign]
  | none =>
    cases r with
    | nil => rfl
    | cons c t =>
      have := hr c t rfl
      simp [Sign.str, takeSign, this.1, this.2]

theorem noSignHead_takeSign (s : Str) : (takeSign s).1 = .none → NoSignHead (takeSign s).2 := by
  cases s with
  | nil => intro _ c t h; simp [takeSign] at h
  | cons c t =>
    unfold takeSign
    by_cases h1 : c = '+'
    · simp [h1]
    · by_cases h2 : c = '-'
      · simp [h2]
      · simp only [h1, h2, if_false]
        intro _ c' t' h
        cases h
        exact ⟨h1, h2⟩

theorem noSignHead_of_digits {a r : Str} (ha : AllDig a) (hne : a ≠ []) : NoSignHead (a ++ r) := by
  intro c t h
  cases a with
  | nil => exact absurd rfl hne
  | cons x xs =>
    simp at h
    have hx := (AllDig.cons.mp ha).1
    rw [h.1] at hx
    exact ⟨digit_ne_of hx (by decide), digit_ne_of hx (by decide)⟩

/-! ### exponent part -/

/-- well-formedness of an exponent part -/
def ExpWF (e : Option (Char × Sign × Str)) : Prop :=
  ∀ c sg ds, e = some (c, sg, ds) → (c = 'e' ∨ c = 'E') ∧ ds ≠ [] ∧ AllDig ds

theorem parseExp_expStr {e : Option (Char × Sign × Str)} (h : ExpWF e) : parseExp (expStr e) = some e := by
  cases e with
  | none => rfl
  | some v =>
    obtain ⟨c, sg, ds⟩ := v
    obtain ⟨hc, hne, hd⟩ := h c sg ds rfl
    have hts : takeSign (sg.str ++ ds) = (sg, ds) := by
      have := takeSign_render sg (r := ds ++ []) (noSignHead_of_digits hd hne)
      simpa using this
    have hall : ds.all isDigit = true := List.all_eq_true.mpr hd
    simp [expStr, parseExp, hc, hts, hne, hall]

theorem parseExp_sound {r : Str} {e : Option (Char × Sign × Str)} (h : parseExp r = some e) :
    expStr e = r ∧ ExpWF e := by
  cases r with
  | nil =>
    simp [parseExp] at h
    subst h
    exact ⟨rfl, by intro c sg ds h; cases h⟩
  | cons c t =>
    simp only [parseExp] at h
    by_cases hc : c = 'e' ∨ c = 'E'
    · rw [if_pos hc] at h
      by_cases h2 : (takeSign t).2 ≠ [] ∧ (takeSign t).2.all isDigit = true
      · rw [if_pos h2] at h
        cases h
        refine ⟨?_, ?_⟩
        · simp [expStr, takeSign_spec]
        · intro c' sg ds heq
          cases heq
          exact ⟨hc, h2.1, List.all_eq_true.mp h2.2⟩
      · rw [if_neg h2] at h; cases h
    · rw [if_neg hc] at h; cases h

/-- an exponent part starts with its letter -/
theorem expStr_head {e : Option (Char × Sign × Str)} (h : ExpWF e) : ∀ c t, expStr e = c :: t → c = 'e' ∨ c = 'E' := by
  intro c t heq
  cases e with
  | none => cases heq
  | some v =>
    obtain ⟨c', sg, ds⟩ := v
    simp [expStr] at heq
    exact heq.1 ▸ (h c' sg ds rfl).1

theorem noDigitHead_expStr {e : Option (Char × Sign × Str)} (h : ExpWF e) : NoDigitHead (expStr e) := by
  intro c t heq
  rcases expStr_head h c t heq with rfl | rfl <;> decide

/-! ### the parser is exactly the grammar -/

theorem parseDec_eq (sg : Sign) (ip rest : Str) (hip : AllDig ip) (hnd : NoDigitHead rest)
    (hns : NoSignHead (ip ++ rest)) :
    parseDec (sg.str ++ (ip ++ rest)) = parseTail sg ip rest := by
  unfold parseDec
  simp only [takeSign_render sg hns, takeWhile_digits_append hip hnd, dropWhile_digits_append hip hnd]

theorem parseDec_render {l : Lit} (h : l.WF) : parseDec l.render = some l := by
  obtain ⟨sg, ip, dot, fp, ex⟩ := l
  obtain ⟨hip, hfp, hnodot, hne, hex⟩ := h
  simp only at hip hfp hnodot hne hex
  have hexwf : ExpWF ex := hex
  cases dot with
  | true =>
    have hrest : NoDigitHead ('.' :: (fp ++ expStr ex)) := by
      intro c t heq; cases heq; decide
    have hns : NoSignHead (ip ++ ('.' :: (fp ++ expStr ex))) := by
      cases ip with
      | nil => intro c t heq; simp at heq; rw [← heq.1]; decide
      | cons x xs => exact noSignHead_of_digits hip (by simp)
    have htw2 : (fp ++ expStr ex).takeWhile isDigit = fp := takeWhile_digits_append hfp (noDigitHead_expStr hexwf)
    have hdw2 : (fp ++ expStr ex).dropWhile isDigit = expStr ex :=
      dropWhile_digits_append hfp (noDigitHead_expStr hexwf)
    have hcond : ¬ (ip = [] ∧ fp = []) := by
      rintro ⟨h1, h2⟩
      rcases hne with h | ⟨-, h⟩
      · exact h h1
      · exact h h2
    have hr : (⟨sg, ip, true, fp, ex⟩ : Lit).render = sg.str ++ (ip ++ ('.' :: (fp ++ expStr ex))) := by
      simp [Lit.render]
    rw [hr, parseDec_eq sg ip _ hip hrest hns]
    simp only [parseTail, if_true, htw2, hdw2, if_neg hcond, parseExp_expStr hexwf, Option.map_some]
  | false =>
    have hfp0 : fp = [] := hnodot rfl
    subst hfp0
    have hipne : ip ≠ [] := by
      rcases hne with h | ⟨h, -⟩
      · exact h
      · cases h
    have hns : NoSignHead (ip ++ expStr ex) := noSignHead_of_digits hip hipne
    have hnd : NoDigitHead (expStr ex) := noDigitHead_expStr hexwf
    have hr : (⟨sg, ip, false, [], ex⟩ : Lit).render = sg.str ++ (ip ++ expStr ex) := by
      simp [Lit.render]
    rw [hr, parseDec_eq sg ip _ hip hnd hns]
    have hpe := parseExp_expStr hexwf
    cases hes : expStr ex with
    | nil =>
      cases ex with
      | none => simp [parseTail, hipne]
      | some v => obtain ⟨c, sg', ds⟩ := v; simp [expStr] at hes
    | cons c t =>
      have hcd : c ≠ '.' := by rcases expStr_head hexwf c t hes with rfl | rfl <;> decide
      rw [hes] at hpe
      simp [parseTail, hcd, hipne, hpe]

theorem parseTail_sound {sg : Sign} {ip rest : Str} {l : Lit} (hipd : AllDig ip)
    (h : parseTail sg ip rest = some l) : l.WF ∧ l.render = sg.str ++ (ip ++ rest) := by
  cases rest with
  | nil =>
    simp only [parseTail] at h
    by_cases hip : ip = []
    · rw [if_pos hip] at h; cases h
    · rw [if_neg hip] at h
      cases h
      exact ⟨⟨hipd, AllDig.nil, fun _ => rfl, Or.inl hip, (by intro c sg ds h; cases h)⟩, by simp [Lit.render, expStr]⟩
  | cons c r2 =>
    simp only [parseTail] at h
    by_cases hc : c = '.'
    · rw [if_pos hc] at h
      by_cases hcond : ip = [] ∧ r2.takeWhile isDigit = []
      · rw [if_pos hcond] at h; cases h
      · rw [if_neg hcond] at h
        cases hpe : parseExp (r2.dropWhile isDigit) with
        | none => rw [hpe] at h; cases h
        | some e =>
          rw [hpe, Option.map_some] at h
          cases h
          obtain ⟨hes, hew⟩ := parseExp_sound hpe
          refine ⟨⟨hipd, allDig_takeWhile r2, (by intro h; cases h), ?_, hew⟩, ?_⟩
          · by_cases h1 : ip = []
            · right; exact ⟨rfl, fun h2 => hcond ⟨h1, h2⟩⟩
            · left; exact h1
          · simp only [Lit.render, if_true]
            rw [hes, List.cons_append, List.takeWhile_append_dropWhile, ← hc]
    · rw [if_neg hc] at h
      by_cases hip : ip = []
      · rw [if_pos hip] at h; cases h
      · rw [if_neg hip] at h
        cases hpe : parseExp (c :: r2) with
        | none => rw [hpe] at h; cases h
        | some e =>
          rw [hpe, Option.map_some] at h
          cases h
          obtain ⟨hes, hew⟩ := parseExp_sound hpe
          refine ⟨⟨hipd, AllDig.nil, fun _ => rfl, Or.inl hip, hew⟩, ?_⟩
          simp only [Lit.render]
          rw [hes]
          simp

theorem parseDec_sound {s : Str} {l : Lit} (h : parseDec s = some l) : l.WF ∧ l.render = s := by
  have hs := takeSign_spec s
  have hsplit := List.takeWhile_append_dropWhile (p := isDigit) (l := (takeSign s).2)
  obtain ⟨hw, hr⟩ := parseTail_sound (allDig_takeWhile (takeSign s).2) h
  refine ⟨hw, ?_⟩
  rw [hr, hsplit, hs]

theorem isPlainDec_iff (s : Str) : isPlainDec s = true ↔ PlainDec s := by
  unfold isPlainDec
  constructor
  · intro h
    cases hp : parseDec s with
    | none => rw [hp] at h; cases h
    | some l =>
      obtain ⟨hw, hr⟩ := parseDec_sound hp
      rw [← hr]; exact PlainDec.mk l hw
  · rintro ⟨l, hw⟩
    rw [parseDec_render hw]; rfl

/-! ### values -/

theorem foldl_digits (s : Str) (a : Nat) :
    s.foldl (fun a c => 10 * a + (c.toNat - 48)) a = a * 10 ^ s.length + decVal s := by
  induction s generalizing a with
  | nil => simp [decVal]
  | cons c t ih =>
    simp only [List.foldl_cons, ih, decVal, List.length_cons]
    ring

theorem digitsVal_eq_decVal (s : Str) : digitsVal s = decVal s := by
  unfold digitsVal; rw [foldl_digits]; simp

theorem decVal_append (a b : Str) : decVal (a ++ b) = decVal a * 10 ^ b.length + decVal b := by
  induction a with
  | nil => simp [decVal]
  | cons c t ih =>
    simp only [List.cons_append, decVal, ih, List.length_append]
    ring

theorem digit_toNat_le {c : Char} (h : isDigit c = true) : c.toNat - 48 ≤ 9 := by
  have := (isDigit_iff c).mp h
  omega

theorem decVal_lt (s : Str) (h : AllDig s) : decVal s < 10 ^ s.length := by
  induction s with
  | nil => simp [decVal]
  | cons c t ih =>
    have hc := digit_toNat_le (AllDig.cons.mp h).1
    have ht := ih (AllDig.cons.mp h).2
    simp only [decVal, List.length_cons, Nat.pow_succ]
    have : (c.toNat - 48) * 10 ^ t.length ≤ 9 * 10 ^ t.length := Nat.mul_le_mul_right _ hc
    omega

theorem sign_apply_eq (sg : Sign) (n : Nat) : sg.apply n = sg.toInt * (n : Int) := by
  cases sg <;> simp [Sign.apply, Sign.toInt]

/-- the model's (neg, mant, exp10) is the specification's denotation -/
theorem model_value_eq_denote (l : Lit) : (l.neg, l.mant, l.exp10) = l.denote := by
  unfold Lit.denote Lit.neg Lit.mant Lit.exp10 Lit.expVal Lit.writtenExp
  rw [digitsVal_eq_decVal]
  have h1 : (l.sign == Sign.minus) = decide (l.sign = Sign.minus) := by
    cases l.sign <;> rfl
  rw [h1]
  cases l.exp with
  | none => rfl
  | some v =>
    obtain ⟨c, sg, ds⟩ := v
    simp only [sign_apply_eq, digitsVal_eq_decVal]

/-! ### finiteness shortcut -/

theorem overflowThreshold_eq : overflowThreshold = 2 ^ 1024 - 2 ^ 970 := by
  decide +kernel

theorem overflowThreshold_lt : overflowThreshold < 10 ^ 311 := by
  decide +kernel

theorem overflowThreshold_pos : 1 ≤ overflowThreshold := by
  decide +kernel

set_option exponentiation.threshold 400 in
theorem finiteDec_iff (nd mant : Nat) (e : Int) (hm : mant < 10 ^ nd) :
    finiteDec nd mant e = true ↔ FiniteDec mant e := by
  unfold finiteDec FiniteDec
  rw [← overflowThreshold_eq]
  by_cases h0 : mant = 0
  · subst h0
    simp only [if_true, Nat.zero_mul, true_iff]
    exact Nat.mul_pos overflowThreshold_pos (Nat.pow_pos (by decide))
  · rw [if_neg h0]
    cases e with
    | ofNat k =>
      have e1 : (Int.ofNat k).toNat = k := rfl
      have e2 : (-Int.ofNat k).toNat = 0 := by simp
      rw [e1, e2]
      simp only [Nat.pow_zero, Nat.mul_one]
      by_cases hk : k > 310
      · rw [if_pos hk]
        simp only [Bool.false_eq_true, false_iff, Nat.not_lt]
        have h1 : 10 ^ 311 ≤ 10 ^ k := Nat.pow_le_pow_right (by decide) hk
        have h2 : 10 ^ k ≤ mant * 10 ^ k := Nat.le_mul_of_pos_left _ (Nat.pos_of_ne_zero h0)
        exact Nat.le_of_lt (Nat.lt_of_lt_of_le overflowThreshold_lt (Nat.le_trans h1 h2))
      · rw [if_neg hk]; simp
    | negSucc k =>
      have e1 : (Int.negSucc k).toNat = 0 := rfl
      have e2 : (-Int.negSucc k).toNat = k + 1 := by simp [Int.neg_negSucc]
      rw [e1, e2]
      simp only [Nat.pow_zero, Nat.mul_one]
      by_cases hk : k + 1 ≥ nd
      · rw [if_pos hk]
        simp only [true_iff]
        have h1 : 10 ^ nd ≤ 10 ^ (k + 1) := Nat.pow_le_pow_right (by decide) hk
        have h2 : 10 ^ (k + 1) ≤ overflowThreshold * 10 ^ (k + 1) :=
          Nat.le_mul_of_pos_left _ overflowThreshold_pos
        exact Nat.lt_of_lt_of_le hm (Nat.le_trans h1 h2)
      · rw [if_neg hk]; simp

/-! ### the comma substitution -/

theorem commaSubWith_length (isD : Char → Bool) (s : Str) : (commaSubWith isD s).length = s.length := by
  fun_induction commaSubWith isD s <;> simp_all

theorem commaSubWith_no_comma (isD : Char → Bool) (s : Str) (h : ',' ∉ s) : commaSubWith isD s = s := by
  fun_induction commaSubWith isD s with
  | case1 => rfl
  | case2 => rfl
  | case3 => rfl
  | case4 a c b rest hc ih =>
    simp only [Bool.and_eq_true, beq_iff_eq] at hc
    simp [hc.1.2] at h
  | case5 a c b rest hc ih =>
    simp only [List.mem_cons, not_or] at h
    rw [ih (by simp only [List.mem_cons, not_or]; exact ⟨h.2.1, h.2.2.1, h.2.2.2⟩)]

theorem commaSubWith_congr (p q : Char → Bool) (s : Str) (h : ∀ c ∈ s, p c = q c) :
    commaSubWith p s = commaSubWith q s := by
  fun_induction commaSubWith p s with
  | case1 => rfl
  | case2 => rfl
  | case3 => rfl
  | case4 a c b rest hc ih =>
    have ha := h a (by simp)
    have hb := h b (by simp)
    rw [ha, hb] at hc
    rw [commaSubWith, if_pos hc, ih (fun x hx => h x (by simp [hx]))]
  | case5 a c b rest hc ih =>
    have ha := h a (by simp)
    have hb := h b (by simp)
    rw [ha, hb] at hc
    rw [commaSubWith, if_neg hc, ih (fun x hx => h x (List.mem_cons_of_mem _ hx))]

theorem commaSubWith_cons_of_ne (isD : Char → Bool) (a c : Char) (rest : Str) (hc : c ≠ ',') :
    commaSubWith isD (a :: c :: rest) = a :: commaSubWith isD (c :: rest) := by
  cases rest with
  | nil => rw [commaSubWith, commaSubWith]
  | cons b r => rw [commaSubWith, if_neg (by simp [hc])]

/-- a string with exactly one comma: it becomes '.' exactly when it stands between two digits -/
theorem commaSubWith_single (isD : Char → Bool) (a b : Str) (ha : ',' ∉ a) (hb : ',' ∉ b) :
    commaSubWith isD (a ++ ',' :: b) =
      if (a.getLast?.any isD && b.head?.any isD) = true then a ++ '.' :: b else a ++ ',' :: b := by
  induction a with
  | nil =>
    cases b with
    | nil => rfl
    | cons y b' =>
      rw [List.nil_append, commaSubWith_cons_of_ne _ _ _ _ (fun e => hb (e ▸ List.mem_cons_self)),
        commaSubWith_no_comma _ _ hb]
      rfl
  | cons x a' ih =>
    have ih' := ih (fun h => ha (List.mem_cons_of_mem _ h))
    cases a' with
    | nil =>
      cases b with
      | nil => simp [commaSubWith]
      | cons y b' =>
        simp only [List.cons_append, List.nil_append, List.getLast?_singleton, Option.any_some, List.head?_cons,
          List.getLast?_nil, Option.any_none, Bool.false_and, Bool.false_eq_true, if_false] at ih' ⊢
        rw [commaSubWith, ih', commaSubWith_no_comma isD b' (fun h => hb (List.mem_cons_of_mem _ h))]
        simp only [beq_self_eq_true, Bool.and_true]
        rfl
    | cons x' a'' =>
      have hx' : x' ≠ ',' := fun e => ha (e ▸ List.mem_cons_of_mem _ List.mem_cons_self)
      rw [List.cons_append, List.cons_append, commaSubWith_cons_of_ne _ _ _ _ hx', ← List.cons_append, ih',
        List.getLast?_cons_cons]
      split <;> rfl

/-- the substitution changes nothing but commas that stand between two digits, and those become '.' -/
theorem commaSubWith_pointwise (isD : Char → Bool) (s : Str) (i : Nat) :
    (commaSubWith isD s)[i]? = s[i]? ∨
    ∃ j d1 d2, i = j + 1 ∧ s[j]? = some d1 ∧ isD d1 = true ∧ s[j + 1]? = some ',' ∧ s[j + 2]? = some d2 ∧
      isD d2 = true ∧ (commaSubWith isD s)[j + 1]? = some '.' := by
  -- `(x :: l)[n + 1]?` reduces to `l[n]?`, so what the induction hypothesis says of `rest` serves as it is
  fun_induction commaSubWith isD s generalizing i with
  | case1 => exact .inl rfl
  | case2 => exact .inl rfl
  | case3 => exact .inl rfl
  | case4 a c b rest hc ih =>
    simp only [Bool.and_eq_true, beq_iff_eq] at hc
    obtain ⟨⟨ha, rfl⟩, hb⟩ := hc
    rcases i with _ | _ | _ | k
    · exact .inl rfl
    · exact .inr ⟨0, a, b, rfl, rfl, ha, rfl, rfl, hb, rfl⟩
    · exact .inl rfl
    · rcases ih k with h | ⟨j, d1, d2, rfl, h1, h2, h3, h4, h5, h6⟩
      · exact .inl h
      · exact .inr ⟨j + 3, d1, d2, rfl, h1, h2, h3, h4, h5, h6⟩
  | case5 a c b rest hc ih =>
    rcases i with _ | k
    · exact .inl rfl
    · rcases ih k with h | ⟨j, d1, d2, rfl, h1, h2, h3, h4, h5, h6⟩
      · exact .inl h
      · exact .inr ⟨j + 1, d1, d2, rfl, h1, h2, h3, h4, h5, h6⟩

theorem uniDigitZeros_split : ∀ z ∈ uniDigitZeros, z = 48 ∨ 0x660 ≤ z := by decide

/-- below U+0660 (in particular on ASCII and Latin-1) the regex class `\d` is `[0-9]` -/
theorem isUniDigit_ascii (c : Char) (h : c.toNat < 0x660) : isUniDigit c = isDigit c := by
  have e1 : isDigit c = (decide (48 ≤ c.toNat) && decide (c.toNat ≤ 57)) := rfl
  rw [e1, Bool.eq_iff_iff]
  unfold isUniDigit
  simp only [List.any_eq_true, Bool.and_eq_true, decide_eq_true_eq]
  constructor
  · rintro ⟨z, hz, h1, h2⟩
    rcases uniDigitZeros_split z hz with e | e
    · omega
    · omega
  · rintro ⟨h1, h2⟩
    exact ⟨48, by decide, h1, by omega⟩

theorem mem_commaSubWith (isD : Char → Bool) (s : Str) (c : Char) (h : c ∈ commaSubWith isD s) : c ∈ s ∨ c = '.' := by
  fun_induction commaSubWith isD s with
  | case1 => simp at h
  | case2 => left; exact h
  | case3 => left; exact h
  | case4 a c' b rest hc ih =>
    simp only [List.mem_cons] at h ⊢
    rcases h with h | h | h | h
    · left; left; exact h
    · right; exact h
    · left; right; right; left; exact h
    · rcases ih h with h' | h'
      · left; right; right; right; exact h'
      · right; exact h'
  | case5 a c' b rest hc ih =>
    simp only [List.mem_cons] at h ⊢
    rcases h with h | h
    · left; left; exact h
    · rcases ih h with h' | h'
      · left; right; simpa using h'
      · right; exact h'

/-! ### white space accepted by `int()` / `float()` -/

theorem dropWhile_congr_mem {p q : Char → Bool} (l : Str) (h : ∀ c ∈ l, p c = q c) :
    l.dropWhile p = l.dropWhile q := by
  induction l with
  | nil => rfl
  | cons x xs ih =>
    rw [List.dropWhile_cons, List.dropWhile_cons, h x (by simp), ih (fun c hc => h c (List.mem_cons_of_mem _ hc))]

theorem numStrip_eq_strip (x : Str) (h : ∀ c ∈ x, isNumSpace c = isPySpace c) : numStrip x = strip x := by
  unfold numStrip strip rstrip lstrip
  rw [dropWhile_congr_mem x h]
  rw [dropWhile_congr_mem _ (fun c hc => h c ((List.dropWhile_sublist _).subset (List.mem_reverse.mp hc)))]

theorem isNumSpace_eq (c : Char) (h : ¬ (0x1C ≤ c.toNat ∧ c.toNat ≤ 0x1F)) : isNumSpace c = isPySpace c := by
  unfold isNumSpace
  have : (decide (0x1C ≤ c.toNat) && decide (c.toNat ≤ 0x1F)) = false := by
    simp only [Bool.and_eq_false_iff, decide_eq_false_iff_not]
    by_cases h1 : 0x1C ≤ c.toNat
    · right; exact fun h2 => h ⟨h1, h2⟩
    · left; exact h1
  rw [this]; simp

/-! ### the denotation as a rational number -/

/-- the usual reading of a decimal literal as a rational number:
sign · (integer digits + fraction digits / 10^(number of fraction digits)) · 10^(written exponent) -/
def Lit.valueQ (l : Lit) : ℚ :=
  (l.sign.toInt : ℚ) * ((decVal l.ip : ℚ) + (decVal l.fp : ℚ) / (10 : ℚ) ^ l.fp.length) * (10 : ℚ) ^ l.writtenExp

/-- rational value of a (neg, mant, exp10) triple -/
def tripleQ (t : Bool × Nat × Int) : ℚ := (if t.1 then -1 else 1) * (t.2.1 : ℚ) * (10 : ℚ) ^ t.2.2

/-! ### vocabulary of the C08 statements and the unfolding of `num` on a literal -/

/-- the text the guard looks at: comma substitution, then `str.strip()` -/
def litText (s : Str) : Str := strip (commaSub s)

/-- `int()` / `float()` accept the white space around the literal (no U+001C..U+001F in it) -/
def PadOK (s : Str) : Prop := numStrip (commaSub s) = litText s

instance (s : Str) : Decidable (PadOK s) := by unfold PadOK; infer_instance

def Int64 (v : Int) : Prop := -(2 : Int) ^ 63 ≤ v ∧ v ≤ (2 : Int) ^ 63 - 1

instance (v : Int) : Decidable (Int64 v) := by unfold Int64; infer_instance
instance (t : Str) : Decidable (AllDig t) := by unfold AllDig; infer_instance

/-- the literal is `sign? digits+` of at most 4300 digits with a value in the int64 range -/
def IsInt64Lit (l : Lit) : Prop :=
  l.dot = false ∧ l.exp = none ∧ l.ip.length ≤ 4300 ∧ Int64 (l.sign.toInt * (decVal l.ip : Int))

theorem inInt64_iff (v : Int) : inInt64 v = true ↔ Int64 v := by
  simp [inInt64, Int64]

theorem num_of_lit {s : Str} {l : Lit} (hw : l.WF) (hr : l.render = litText s) :
    num s =
      if ¬ PadOK s then .str s
      else if l.isIntLit = true ∧ l.ip.length ≤ intMaxStrDigits ∧ inInt64 l.intVal = true then .int l.intVal
      else if finiteDec (l.ip.length + l.fp.length) l.mant l.exp10 = true then .flt l.neg l.mant l.exp10
      else .str s := by
  unfold num PadOK
  simp only [litText] at hr ⊢
  simp only [← hr, parseDec_render hw, ne_eq]

theorem intCond_iff (l : Lit) :
    (l.isIntLit = true ∧ l.ip.length ≤ intMaxStrDigits ∧ inInt64 l.intVal = true) ↔ IsInt64Lit l := by
  unfold IsInt64Lit Lit.isIntLit Lit.intVal intMaxStrDigits
  rw [inInt64_iff, sign_apply_eq, digitsVal_eq_decVal]
  cases l.dot <;> cases l.exp <;> simp

theorem mant_lt (l : Lit) (hw : l.WF) : l.mant < 10 ^ (l.ip.length + l.fp.length) := by
  unfold Lit.mant
  rw [digitsVal_eq_decVal, ← List.length_append]
  exact decVal_lt _ (AllDig.append.mpr ⟨hw.ip, hw.fp⟩)

theorem finite_iff (l : Lit) (hw : l.WF) :
    finiteDec (l.ip.length + l.fp.length) l.mant l.exp10 = true ↔ FiniteDec l.denote.2.1 l.denote.2.2 := by
  rw [finiteDec_iff _ _ _ (mant_lt l hw), ← model_value_eq_denote]

theorem plainDec_iff_exists (t : Str) : PlainDec t ↔ ∃ l : Lit, l.WF ∧ l.render = t := by
  constructor
  · rintro ⟨l, hw⟩; exact ⟨l, hw, rfl⟩
  · rintro ⟨l, hw, rfl⟩; exact PlainDec.mk l hw

/-- an int64 integer literal is finite, so the two numeric clauses and the next one partition the literals -/
theorem int64Lit_finite (l : Lit) (hw : l.WF) (h : IsInt64Lit l) : FiniteDec l.denote.2.1 l.denote.2.2 := by
  obtain ⟨hdot, hexp, -, hr⟩ := h
  have hfp := hw.nodot hdot
  have hv : decVal l.ip ≤ 2 ^ 63 := by
    unfold Int64 at hr
    cases hs : l.sign <;> simp only [hs, Sign.toInt] at hr <;> omega
  have he : l.writtenExp = 0 := by simp [Lit.writtenExp, hexp]
  have h2 : (2 : Nat) ^ 63 < overflowThreshold := by decide +kernel
  unfold FiniteDec Lit.denote
  rw [← overflowThreshold_eq]
  simp only [hfp, he, List.append_nil, List.length_nil]
  simp
  omega

/-- no U+001C..U+001F anywhere in the text is enough for `PadOK` -/
theorem padOK_of_no_separators (s : Str) (h : ∀ c ∈ s, ¬ (0x1C ≤ c.toNat ∧ c.toNat ≤ 0x1F)) : PadOK s := by
  unfold PadOK litText
  apply numStrip_eq_strip
  intro c hc
  apply isNumSpace_eq
  rcases mem_commaSubWith _ _ _ hc with h' | h'
  · exact h c h'
  · subst h'; decide

theorem litText_zeros (n : Nat) : litText (List.replicate (n + 1) '0') = List.replicate (n + 1) '0' := by
  have hc : commaSub (List.replicate (n + 1) '0') = List.replicate (n + 1) '0' :=
    commaSubWith_no_comma _ _ (by intro h; have := List.eq_of_mem_replicate h; exact absurd this (by decide))
  have h0 : isPySpace '0' = false := by decide
  unfold litText strip rstrip lstrip
  rw [hc, List.replicate_succ, List.dropWhile_cons_of_neg (by simp [h0]), ← List.replicate_succ,
    List.reverse_replicate, List.replicate_succ, List.dropWhile_cons_of_neg (by simp [h0]), ← List.replicate_succ,
    List.reverse_replicate]

theorem decVal_zeros (n : Nat) : decVal (List.replicate n '0') = 0 := by
  induction n with
  | zero => rfl
  | succ k ih => rw [List.replicate_succ, decVal, ih]; simp

theorem padOK_zeros (n : Nat) : PadOK (List.replicate n '0') :=
  padOK_of_no_separators _ (by intro c hc; rw [List.eq_of_mem_replicate hc]; decide)

theorem allDig_zeros (n : Nat) : AllDig (List.replicate n '0') := by
  intro c hc; rw [List.eq_of_mem_replicate hc]; decide

end Lasio
