import LasioProofs.Lemmas.JunkLemmas
import LasioProofs.Lemmas.RedelimHeaderLemmas
/-
C05, last clause, whole file: an item line planted in a header section whose title does not consult that item's mnemonic.
Helper lemmas for Props/C05File, which instantiates the whole-file theorem for an inserted line (Lemmas/JunkLemmas.lean, the
argument of `C19_file`) with "not a mnemonic THIS section consults" in place of "not a steering mnemonic", and without
`ignore_header_errors`: the decidable side condition `plantSafe` on the title and the line, and what it implies.
-/
namespace Lasio.Tf
open Lasio Lasio.Dt

/-- an item whose mnemonic the title does not consult is invisible to the steering code of that section -/
theorem steer_insert (o : Rd.ReadOpts) (T : Str) (a b : List Rd.RItem) (it : Rd.RItem) (s : Rd.Steer)
    (h : ∀ k ∈ consulted T, Rd.mcmp (trOf o) (Rd.U it) k = false) :
    Rd.steer o T (a ++ it :: b) s = Rd.steer o T (a ++ b) s :=
  Rd.steer_congr o T _ _ s fun k hk => Rd.lookupItem_insert _ k (consulted_steerKeys T k hk) a b it (h k hk)

/-- whatever section name `read_header_line` is called with, the line parses, and the mnemonic it gets (in the requested case)
is none of those the title `t` consults -/
def plantSafe (mc : Rd.MCase) (t j : Str) : Bool :=
  Rd.allSecNames.all fun sec =>
    match parseHeaderLine sec (Rd.lineStrip j) with
    | none => false
    | some f => (consulted (Rd.sline t)).all fun k =>
        !Rd.mcmp (mc != .preserve) (Rd.usefulMn (Rd.applyCase mc f.name)) k

theorem plantSafe_not_bad (o : Rd.ReadOpts) (p : Rd.Parser) (t j : Str) (h : plantSafe o.mnemonicCase t j = true) :
    Rd.lineRes o p j ≠ .bad := by
  have := List.all_eq_true.mp h p.sec (Rd.mem_allSecNames p.sec)
  intro hb
  unfold Rd.lineRes at hb
  simp only at hb
  split at hb
  · cases hb
  · split at hb
    · cases hb
    · split at hb
      · cases hb
      · split at hb
        · rename_i hn
          rw [hn] at this
          cases this
        · cases hb

theorem plantSafe_item (o : Rd.ReadOpts) (p : Rd.Parser) (t j : Str) (it : Rd.RItem) (h : plantSafe o.mnemonicCase t j = true)
    (hit : Rd.lineItem o p j = some it) : ∀ k ∈ consulted (Rd.sline t), Rd.mcmp (trOf o) (Rd.U it) k = false := by
  obtain ⟨f, hf, hn⟩ := Rd.lineItem_orig o p j it hit
  have := List.all_eq_true.mp h p.sec (Rd.mem_allSecNames p.sec)
  simp only [hf] at this
  intro k hk
  have hk' := List.all_eq_true.mp this k hk
  unfold Rd.U
  rw [hn]
  simpa using hk'

theorem mcmp_false_of_upper_ne (tr : Bool) (a b : Str) (h : upper a ≠ upper b) : Rd.mcmp tr a b = false := by
  cases tr
  · simp only [Rd.mcmp, Bool.false_eq_true, if_false, beq_eq_false_iff_ne]
    intro e; exact h (by rw [e])
  · simp only [Rd.mcmp, if_true, beq_eq_false_iff_ne]
    exact h

/-- the named form: every section parser reads the line as an item whose mnemonic, upper-cased, is `K`, and `K` is none of the
mnemonics the title consults -/
theorem plantSafe_of_name (mc : Rd.MCase) (t j : Str) (K : Str)
    (hparse : ∀ sec ∈ Rd.allSecNames, ∃ f, parseHeaderLine sec (Rd.lineStrip j) = some f ∧ upper (Rd.applyCase mc f.name) = K ∧
      (strip (Rd.applyCase mc f.name)).isEmpty = false)
    (hK : ∀ k ∈ consulted (Rd.sline t), K ≠ upper k) : plantSafe mc t j = true := by
  unfold plantSafe
  rw [List.all_eq_true]
  intro sec hsec
  obtain ⟨f, hf, hu, hne⟩ := hparse sec hsec
  simp only [hf]
  rw [List.all_eq_true]
  intro k hk
  have : Rd.usefulMn (Rd.applyCase mc f.name) = Rd.applyCase mc f.name := by
    unfold Rd.usefulMn; rw [hne]; rfl
  rw [this, mcmp_false_of_upper_ne _ _ _ (by rw [hu]; exact hK k hk)]
  rfl

end Lasio.Tf
