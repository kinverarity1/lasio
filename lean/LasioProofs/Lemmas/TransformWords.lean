import LasioProofs.Lemmas.TransformLemmas
/-
C09, §3: for the whitespace splitter a quote-free data line is read through its words (`pySplit` = `str.split()`) only.
-/
namespace Lasio.Tf
open Lasio Lasio.Dt

/-! ### generic list facts -/

theorem length_takeWhile_le' (p : Char → Bool) (l : Str) : (l.takeWhile p).length ≤ l.length :=
  (List.takeWhile_sublist p).length_le

/-! ### quote-free strings -/

theorem quoteFree_nil : QuoteFree [] := fun _ h => by cases h

theorem quoteFree_append {a b : Str} (ha : QuoteFree a) (hb : QuoteFree b) : QuoteFree (a ++ b) := by
  intro c hc
  rcases List.mem_append.mp hc with h | h
  · exact ha c h
  · exact hb c h

theorem quoteFree_sublist {a b : Str} (h : a.Sublist b) (hb : QuoteFree b) : QuoteFree a :=
  fun c hc => hb c (h.subset hc)

theorem quoteFree_left {a b : Str} (h : QuoteFree (a ++ b)) : QuoteFree a :=
  fun c hc => h c (List.mem_append_left b hc)

theorem quoteFree_right {a b : Str} (h : QuoteFree (a ++ b)) : QuoteFree b :=
  fun c hc => h c (List.mem_append_right a hc)

theorem quoteFree_of_cons {c : Char} {s : Str} (h : QuoteFree (c :: s)) : (c ≠ '"' ∧ c ≠ '\'') ∧ QuoteFree s :=
  ⟨h c (by simp), fun x hx => h x (by simp [hx])⟩

theorem quoteFree_cons {c : Char} {s : Str} (hc : c ≠ '"' ∧ c ≠ '\'') (hs : QuoteFree s) : QuoteFree (c :: s) := by
  intro x hx
  rcases List.mem_cons.mp hx with rfl | h
  · exact hc
  · exact hs x h

theorem quoteFree_allWs {s : Str} (h : AllWs s) : QuoteFree s := by
  intro c hc
  have := ws_not_quote c (h c hc)
  simpa using this

theorem digit_not_quote (c : Char) (h : isUDigit c = true) : c ≠ '"' ∧ c ≠ '\'' := by
  constructor <;> (intro e; subst e; revert h; decide)

/-! ### the matchers: bounded, quote-free replacements -/

/-- a match lies within the string -/
def Bounded (m : Str → Option (Str × Nat)) : Prop := ∀ s rep k, m s = some (rep, k) → k < s.length

/-- the replacement text has no quote -/
def RepQF (m : Str → Option (Str × Nat)) : Prop := ∀ s rep k, m s = some (rep, k) → QuoteFree rep

structure Good (m : Str → Option (Str × Nat)) : Prop where
  loc : Local m
  bnd : Bounded m
  ws : ∀ w r, isPySpace w = true → m (w :: r) = none
  qf : RepQF m

/-- the three-character matchers of `window3_facts` whose replacement text has no quote -/
theorem good_window3 (m : Str → Option (Str × Nat)) (p : Char) (out : Char → Char → Str × Nat)
    (h0 : m [] = none) (h1 : ∀ a, m [a] = none) (h2 : ∀ a q, m [a, q] = none)
    (h3 : ∀ a q b r, m (a :: q :: b :: r) = if q == p && isUDigit a && isUDigit b then some (out a b) else none)
    (hp : isPySpace p = false) (hk : ∀ a b, (out a b).2 = 2)
    (hq : ∀ a b, isUDigit a = true → isUDigit b = true → QuoteFree (out a b).1) : Good m := by
  obtain ⟨hl, hws⟩ := window3_facts m p out h0 h1 h2 h3 hp
  have spec : ∀ s rep k, m s = some (rep, k) →
      ∃ a q b r, s = a :: q :: b :: r ∧ isUDigit a = true ∧ isUDigit b = true ∧ out a b = (rep, k) := by
    intro s rep k h
    match s with
    | [] => rw [h0] at h; cases h
    | [a] => rw [h1] at h; cases h
    | [a, q] => rw [h2] at h; cases h
    | a :: q :: b :: r =>
      rw [h3] at h
      split at h
      · rename_i hc
        simp only [Bool.and_eq_true] at hc
        exact ⟨a, q, b, r, rfl, hc.1.2, hc.2, Option.some.inj h⟩
      · cases h
  refine ⟨hl, fun s rep k h => ?_, hws, fun s rep k h => ?_⟩
  · obtain ⟨a, q, b, r, rfl, _, _, e⟩ := spec s rep k h
    have hk2 : k = 2 := by have := hk a b; rw [e] at this; exact this
    simp only [List.length_cons]
    omega
  · obtain ⟨a, q, b, r, rfl, ha, hb, e⟩ := spec s rep k h
    have := hq a b ha hb
    rwa [e] at this

theorem good_mComma : Good mComma :=
  good_window3 mComma ',' (fun a b => ([a, '.', b], 2)) rfl (fun _ => rfl) (fun _ _ => rfl) (fun _ _ _ _ => rfl) (by decide)
    (fun _ _ => rfl) fun a b ha hb =>
      quoteFree_cons (digit_not_quote a ha) (quoteFree_cons (by decide) (quoteFree_cons (digit_not_quote b hb) quoteFree_nil))

theorem good_mHyphen : Good mHyphen :=
  good_window3 mHyphen '-' (fun a b => ([a, ' ', '-', b], 2)) rfl (fun _ => rfl) (fun _ _ => rfl) (fun _ _ _ _ => rfl) (by decide)
    (fun _ _ => rfl) fun a b ha hb =>
      quoteFree_cons (digit_not_quote a ha)
        (quoteFree_cons (by decide) (quoteFree_cons (by decide) (quoteFree_cons (digit_not_quote b hb) quoteFree_nil)))

theorem digitsThenDot_len (s : Str) (n : Nat) (r : Str) (h : digitsThenDot s = some (n, r)) :
    s.length = n + 1 + r.length := by
  induction s generalizing n with
  | nil => simp [digitsThenDot] at h
  | cons c cs ih =>
    simp only [digitsThenDot] at h
    split at h
    · simp only [Option.some.injEq, Prod.mk.injEq] at h
      obtain ⟨rfl, rfl⟩ := h
      simp only [List.length_cons]; omega
    · split at h
      · cases hd : digitsThenDot cs with
        | none => simp [hd] at h
        | some nr =>
          simp only [hd, Option.map_some, Option.some.injEq, Prod.mk.injEq] at h
          obtain ⟨rfl, rfl⟩ := h
          have := ih nr.1 (by rw [hd])
          simp only [List.length_cons]
          omega
      · cases h

theorem dotTail_le (neg : Nat) (s : Str) (n : Nat) (h : dotTail neg s = some n) : n ≤ neg + s.length := by
  unfold dotTail at h
  split at h
  · rename_i d1 s3 h1
    split at h
    · rename_i d2 s5 h2
      simp only [Option.some.injEq] at h
      have a := digitsThenDot_len s d1 s3 h1
      have b := digitsThenDot_len s3 d2 s5 h2
      have c := length_takeWhile_le' isUDigit s5
      omega
    · cases h
  · cases h

theorem mDotAlt1_le (s : Str) (n : Nat) (h : mDotAlt1 s = some n) : n ≤ s.length := by
  cases s with
  | nil => simp [mDotAlt1] at h
  | cons c cs =>
    simp only [mDotAlt1] at h
    split at h
    · have := dotTail_le 1 cs n h
      simp only [List.length_cons]; omega
    · have := dotTail_le 0 (c :: cs) n h
      omega

theorem mDotAlt2_le (s : Str) (n : Nat) (h : mDotAlt2 s = some n) : n ≤ s.length := by
  match s with
  | [] | [_] | [_, _] | [_, _, _] | [_, _, _, _] => simp [mDotAlt2] at h
  | c1 :: c2 :: c3 :: p :: d :: rest =>
    simp only [mDotAlt2] at h
    split at h
    · simp only [Option.some.injEq] at h
      have c := length_takeWhile_le' isUDigit rest
      simp only [List.length_cons]; omega
    · cases h

theorem nanNan_eq : nanNan = [' ', 'N', 'a', 'N', ' ', 'N', 'a', 'N', ' '] := by decide

theorem quoteFree_nanNan : QuoteFree nanNan := by
  rw [nanNan_eq]; unfold QuoteFree; decide

theorem mDot_spec (s rep : Str) (k : Nat) (h : mDot s = some (rep, k)) : rep = nanNan ∧ k < s.length := by
  cases s with
  | nil => simp [mDot, mDotAlt1, mDotAlt2] at h
  | cons c cs =>
    unfold mDot at h
    split at h
    · rename_i n h1
      simp only [Option.some.injEq, Prod.mk.injEq] at h
      have := mDotAlt1_le _ n h1
      simp only [List.length_cons] at this ⊢
      exact ⟨h.1.symm, by omega⟩
    · split at h
      · rename_i n h2
        simp only [Option.some.injEq, Prod.mk.injEq] at h
        have := mDotAlt2_le _ n h2
        simp only [List.length_cons] at this ⊢
        exact ⟨h.1.symm, by omega⟩
      · cases h

theorem good_mDot : Good mDot where
  loc := mDot_local
  ws := mDot_ws
  bnd := fun s rep k h => (mDot_spec s rep k h).2
  qf := fun s rep k h => by rw [(mDot_spec s rep k h).1]; exact quoteFree_nanNan

/-! ### `re.sub` over a blank-separated text -/

theorem reSub_nil (m : Str → Option (Str × Nat)) (k : Nat) : reSub m k [] = [] := by
  simp only [reSub]

theorem reSub_append (m : Str → Option (Str × Nat)) (hg : Good m) (tail : Str) (ht : WsHead tail) (x : Str) :
    ∀ k, k ≤ x.length → reSub m k (x ++ tail) = reSub m k x ++ reSub m 0 tail := by
  induction x with
  | nil =>
    intro k hk
    have : k = 0 := by simpa using hk
    subst this
    rw [reSub_nil]; rfl
  | cons c cs ih =>
    intro k hk
    cases k with
    | succ k =>
      simp only [List.cons_append, reSub]
      exact ih k (by simpa using hk)
    | zero =>
      have hl : m (c :: (cs ++ tail)) = m (c :: cs) := hg.loc (c :: cs) tail ht
      cases hm : m (c :: cs) with
      | none =>
        simp only [List.cons_append, reSub, hl, hm]
        rw [ih 0 (Nat.zero_le _)]
      | some rk =>
        obtain ⟨rep, k2⟩ := rk
        have hb := hg.bnd _ _ _ hm
        simp only [List.cons_append, reSub, hl, hm, List.append_assoc]
        rw [ih k2 (by simp only [List.length_cons] at hb; omega)]

theorem reSub_allWs (m : Str → Option (Str × Nat)) (hws : ∀ w r, isPySpace w = true → m (w :: r) = none)
    (a r : Str) (ha : AllWs a) : reSub m 0 (a ++ r) = a ++ reSub m 0 r := by
  induction a with
  | nil => rfl
  | cons w a ih =>
    obtain ⟨hw, ha'⟩ := allWs_of_cons ha
    simp only [List.cons_append, reSub, hws w (a ++ r) hw]
    rw [ih ha']

theorem reSub_quoteFree (m : Str → Option (Str × Nat)) (hq : RepQF m) (s : Str) :
    ∀ k, QuoteFree s → QuoteFree (reSub m k s) := by
  induction s with
  | nil => intro k _; rw [reSub_nil]; exact quoteFree_nil
  | cons c cs ih =>
    intro k h
    obtain ⟨hc, hcs⟩ := quoteFree_of_cons h
    cases k with
    | succ k => simp only [reSub]; exact ih k hcs
    | zero =>
      cases hm : m (c :: cs) with
      | none => simp only [reSub, hm]; exact quoteFree_cons hc (ih 0 hcs)
      | some rk =>
        obtain ⟨rep, k2⟩ := rk
        simp only [reSub, hm]
        exact quoteFree_append (hq _ _ _ hm) (ih k2 hcs)

/-! ### string functions that respect blank runs -/

/-- `f` works on each blank-separated piece on its own, keeps the blanks, creates no quote -/
structure SepHom (f : Str → Str) : Prop where
  nil : f [] = []
  ws : ∀ a r, AllWs a → f (a ++ r) = a ++ f r
  sep : ∀ x sep rest, sep ≠ [] → AllWs sep → f (x ++ (sep ++ rest)) = f x ++ (sep ++ f rest)
  qf : ∀ s, QuoteFree s → QuoteFree (f s)

theorem sepHom_id : SepHom (fun s => s) where
  nil := rfl
  ws := fun _ _ _ => rfl
  sep := fun _ _ _ _ _ => rfl
  qf := fun _ h => h

theorem sepHom_comp {f g : Str → Str} (hf : SepHom f) (hg : SepHom g) : SepHom (fun s => g (f s)) where
  nil := by rw [hf.nil, hg.nil]
  ws := fun a r ha => by rw [hf.ws a r ha, hg.ws a _ ha]
  sep := fun x sep rest hne hs => by rw [hf.sep x sep rest hne hs, hg.sep _ sep _ hne hs]
  qf := fun s h => hg.qf _ (hf.qf s h)

theorem sepHom_reSub (m : Str → Option (Str × Nat)) (hg : Good m) : SepHom (reSub m 0) where
  nil := rfl
  ws := fun a r ha => reSub_allWs m hg.ws a r ha
  sep := fun x sep rest hne hs => by
    rw [reSub_append m hg (sep ++ rest) (wsHead_of_allWs_append sep rest hs hne) x 0 (Nat.zero_le _),
      reSub_allWs m hg.ws sep rest hs]
  qf := fun s h => reSub_quoteFree m hg.qf s 0 h

theorem sepHom_ite (b : Bool) {f : Str → Str} (hf : SepHom f) : SepHom (fun s => if b then f s else s) := by
  cases b
  · exact sepHom_id
  · exact hf

theorem filter_ctrlZ_allWs (a : Str) (ha : AllWs a) : a.filter (· != ctrlZ) = a := by
  rw [List.filter_eq_self]
  intro c hc
  simp [bne, ws_ne_ctrlZ c (ha c hc)]

theorem sepHom_filter : SepHom (fun s => s.filter (· != ctrlZ)) where
  nil := rfl
  ws := fun a r ha => by rw [List.filter_append, filter_ctrlZ_allWs a ha]
  sep := fun x sep rest _ hs => by rw [List.filter_append, List.filter_append, filter_ctrlZ_allWs sep hs]
  qf := fun s h => quoteFree_sublist List.filter_sublist h

theorem sepHom_applySubs (sb : Subs) : SepHom (applySubs sb) := by
  have h1 := sepHom_ite sb.comma (sepHom_reSub mComma good_mComma)
  have h2 := sepHom_ite sb.hyphen (sepHom_reSub mHyphen good_mHyphen)
  have h3 := sepHom_ite sb.dot (sepHom_reSub mDot good_mDot)
  have h := sepHom_comp (sepHom_comp h1 h2) h3
  exact h

theorem sepHom_lineText (sb : Subs) : SepHom (fun s => (applySubs sb s).filter (· != ctrlZ)) :=
  sepHom_comp (sepHom_applySubs sb) sepHom_filter

/-! ### the whitespace splitter on quote-free text -/

abbrev nsq (x : Char) : Bool := !(isPySpace x || x == '"' || x == '\'')

theorem mSplit_qf_cons (c : Char) (cs : Str) (hc : c ≠ '"' ∧ c ≠ '\'') :
    mSplit isPySpace (c :: cs) =
      if isPySpace c then none else some (c :: cs.takeWhile nsq, (cs.takeWhile nsq).length) := by
  have e1 : (c == '"') = false := by simp [hc.1]
  have e2 : (c == '\'') = false := by simp [hc.2]
  simp only [mSplit, e1, e2, Bool.or_self, Bool.false_eq_true, if_false]

theorem mSplit_local_qf (x tail : Str) (hx : QuoteFree x) (ht : WsHead tail) :
    mSplit isPySpace (x ++ tail) = mSplit isPySpace x := by
  cases x with
  | nil =>
    rcases ht with rfl | ⟨w, r, rfl, hw⟩
    · rfl
    · rw [List.nil_append, mSplit_ws w r hw]; rfl
  | cons c cs =>
    obtain ⟨hc, _⟩ := quoteFree_of_cons hx
    rw [List.cons_append, mSplit_qf_cons c _ hc, mSplit_qf_cons c _ hc]
    rw [(span_append_stop nsq cs tail (ht.stops fun w hw => by simp [nsq, hw])).1]

theorem mSplit_bounded_qf (x tok : Str) (k : Nat) (hx : QuoteFree x) (h : mSplit isPySpace x = some (tok, k)) :
    k < x.length := by
  cases x with
  | nil => simp [mSplit] at h
  | cons c cs =>
    obtain ⟨hc, _⟩ := quoteFree_of_cons hx
    rw [mSplit_qf_cons c _ hc] at h
    split at h
    · cases h
    · simp only [Option.some.injEq, Prod.mk.injEq] at h
      have := length_takeWhile_le' nsq cs
      simp only [List.length_cons]
      omega

theorem scanTok_nil (m : Str → Option (Str × Nat)) (k : Nat) : scanTok m k [] = [] := by
  simp only [scanTok]

theorem scanSplit_append (tail : Str) (ht : WsHead tail) (x : Str) :
    ∀ k, k ≤ x.length → QuoteFree x →
      scanTok (mSplit isPySpace) k (x ++ tail) = scanTok (mSplit isPySpace) k x ++ scanTok (mSplit isPySpace) 0 tail := by
  induction x with
  | nil =>
    intro k hk _
    have : k = 0 := by simpa using hk
    subst this
    rw [scanTok_nil]; rfl
  | cons c cs ih =>
    intro k hk hq
    obtain ⟨_, hcs⟩ := quoteFree_of_cons hq
    cases k with
    | succ k =>
      simp only [List.cons_append, scanTok]
      exact ih k (by simpa using hk) hcs
    | zero =>
      have hl : mSplit isPySpace (c :: (cs ++ tail)) = mSplit isPySpace (c :: cs) := mSplit_local_qf (c :: cs) tail hq ht
      cases hm : mSplit isPySpace (c :: cs) with
      | none =>
        simp only [List.cons_append, scanTok, hl, hm]
        exact ih 0 (Nat.zero_le _) hcs
      | some rk =>
        obtain ⟨tok, k2⟩ := rk
        have hb := mSplit_bounded_qf _ _ _ hq hm
        simp only [List.cons_append, scanTok, hl, hm]
        rw [ih k2 (by simp only [List.length_cons] at hb; omega) hcs]

theorem splitWs_append (x tail : Str) (hx : QuoteFree x) (ht : WsHead tail) :
    splitWs (x ++ tail) = splitWs x ++ splitWs tail :=
  scanSplit_append tail ht x 0 (Nat.zero_le _) hx

theorem splitWs_allWs (a r : Str) (ha : AllWs a) : splitWs (a ++ r) = splitWs r :=
  scanTok_allWs (mSplit isPySpace) mSplit_ws a r ha

/-- the items of a quote-free text are the items of its words -/
theorem splitWs_words (f : Str → Str) (hf : SepHom f) (s : Str) :
    QuoteFree s → splitWs (f s) = (pySplit s).flatMap (fun w => splitWs (f w)) := by
  induction s using words_induction with
  | nil => intro _; rw [hf.nil]; rfl
  | ws c cs hc ih =>
    intro hq
    have h1 : f (c :: cs) = [c] ++ f cs := hf.ws [c] cs (allWs_cons hc allWs_nil)
    rw [h1, splitWs_allWs [c] _ (allWs_cons hc allWs_nil), pySplit_ws c cs hc]
    exact ih (quoteFree_of_cons hq).2
  | word w tail hw ht hsp ih =>
    intro hq
    rw [hsp, List.flatMap_cons]
    rcases ht with rfl | ⟨b, r, rfl, hb⟩
    · simp [pySplit_nil]
    · have hsep : AllWs [b] := allWs_cons hb allWs_nil
      have e : w ++ b :: r = w ++ ([b] ++ r) := rfl
      rw [e, hf.sep w [b] r (by simp) hsep,
        splitWs_append (f w) _ (hf.qf w (quoteFree_left hq)) (wsHead_of_allWs_append [b] _ hsep (by simp)),
        splitWs_allWs [b] _ hsep]
      have ih' := ih (quoteFree_right hq)
      have h2 : f (b :: r) = [b] ++ f r := hf.ws [b] r hsep
      rw [h2, splitWs_allWs [b] _ hsep, pySplit_ws b r hb] at ih'
      rw [ih', pySplit_ws b r hb]

theorem lineToks_words (sb : Subs) (s : Str) (hq : QuoteFree s) :
    lineToks sb s = (pySplit s).flatMap (lineToks sb) :=
  splitWs_words _ (sepHom_lineText sb) s hq

/-! ### `strip` keeps the words -/

/-- a string is blanks, its stripped form, blanks -/
theorem strip_decomp (l : Str) : ∃ pre post, AllWs pre ∧ AllWs post ∧ l = pre ++ (strip l ++ post) := by
  obtain ⟨pre, post, hpre, hpost, e⟩ := Lasio.strip_decomp l
  exact ⟨pre, post, hpre, hpost, by rw [← List.append_assoc]; exact e⟩

theorem strip_head (l : Str) : strip l = [] ∨ ∃ c cs, strip l = c :: cs ∧ isPySpace c = false := by
  cases h : strip l with
  | nil => exact .inl rfl
  | cons c cs => exact .inr ⟨c, cs, rfl, strip_head_nospace l c (by rw [h]; rfl)⟩

theorem pySplit_strip (l : Str) : pySplit (strip l) = pySplit l := by
  obtain ⟨pre, post, hpre, hpost, e⟩ := Tf.strip_decomp l
  have : pySplit l = pySplit (pre ++ (strip l ++ post)) := congrArg pySplit e
  rw [this, pySplit_ws_left pre _ hpre, pySplit_ws_right _ post hpost]

theorem quoteFree_strip (l : Str) (hq : QuoteFree l) : QuoteFree (strip l) :=
  fun c hc => hq c (mem_strip l c hc)

theorem isComment_strip (l : Str) : isComment (strip l) = firstHash (pySplit l) := by
  rw [← pySplit_strip l]
  rcases strip_head l with h | ⟨c, cs, h, hc⟩
  · rw [h]; rfl
  · rw [h, pySplit_word c cs hc, isComment_cons]
    simp only [firstHash]
    exact BEq.comm

theorem isEmpty_strip (l : Str) : (strip l).isEmpty = (pySplit l).isEmpty := by
  rw [← pySplit_strip l]
  rcases strip_head l with h | ⟨c, cs, h, hc⟩
  · rw [h]; rfl
  · rw [h, pySplit_word c cs hc]; rfl

/-! ### the normal engine -/

theorem lineTokens_space_eq (sb : Subs) (l : Str) :
    lineTokens sb .space l = if isComment (strip l) then [] else lineToks sb (strip l) := by
  unfold lineTokens lineToks
  rw [cleanLine_eq_strip]
  simp only [splitLine]
  split
  · rfl
  · split
    · rename_i h; rw [List.isEmpty_iff.mp h]; rfl
    · rfl

/-- the normal engine reads a quote-free line word by word -/
theorem lineTokens_space_words (sb : Subs) (l : Str) (hq : QuoteFree l) :
    lineTokens sb .space l = if firstHash (pySplit l) then [] else (pySplit l).flatMap (lineToks sb) := by
  rw [lineTokens_space_eq, isComment_strip, lineToks_words sb (strip l) (quoteFree_strip l hq), pySplit_strip]

/-! ### the sniffer -/

/-- what the sniffer records of a line, from its words -/
def sniffWords (sb : Subs) (ws : List Str) : Option (Nat × Bool) :=
  if ws.isEmpty || firstHash ws then none
  else some ((ws.flatMap (fun w => splitWs (applySubs sb w))).length, ws.any (fun w => w.contains '-'))

theorem contains_words (d : Char) (hd : isPySpace d = false) (s : Str) :
    s.contains d = (pySplit s).any (fun w => w.contains d) := by
  induction s using words_induction with
  | nil => rfl
  | ws c cs hc ih =>
    have hne : (d == c) = false := by
      rw [beq_eq_false_iff_ne]; intro e; subst e; rw [hc] at hd; cases hd
    rw [pySplit_ws c cs hc, ← ih, List.contains_cons, hne, Bool.false_or]
  | word w tail hw ht hsp ih =>
    rw [hsp, List.any_cons, ← ih]
    simp only [List.contains_eq_mem, List.mem_append, Bool.decide_or]

theorem sampleLine_words (sb : Subs) (l : Str) (hq : QuoteFree l) :
    (sampleLine l).map (sniffInfo sb .space) = sniffWords sb (pySplit l) := by
  unfold sampleLine sniffWords
  rw [cleanLine_eq_strip]
  simp only []
  rw [isEmpty_strip, isComment_strip]
  split
  · rfl
  · simp only [Option.map_some, sniffInfo, splitLine]
    rw [splitWs_words (applySubs sb) (sepHom_applySubs sb) (strip l) (quoteFree_strip l hq),
      contains_words '-' (by decide) (strip l), pySplit_strip]

/-! ### `genfromtxt` -/

abbrev nh (c : Char) : Bool := c != '#'

/-- the words before the first `#` -/
def cutHash : List Str → List Str
  | [] => []
  | w :: ws =>
    if w.all nh then w :: cutHash ws
    else if (w.takeWhile nh).isEmpty then [] else [w.takeWhile nh]

theorem takeWhile_append_if (p : Char → Bool) (w t : Str) :
    (w ++ t).takeWhile p = if w.all p then w ++ t.takeWhile p else w.takeWhile p := by
  induction w with
  | nil => simp
  | cons c w ih =>
    simp only [List.cons_append, List.takeWhile_cons, List.all_cons]
    cases hc : p c
    · simp
    · rw [ih]
      cases w.all p <;> simp

theorem wsHead_takeWhile_nh (tail : Str) (ht : WsHead tail) : WsHead (tail.takeWhile nh) := by
  rcases ht with rfl | ⟨b, r, rfl, hb⟩
  · exact Or.inl rfl
  · have : nh b = true := by simp [nh, bne, ws_ne_hash b hb]
    exact Or.inr ⟨b, r.takeWhile nh, by rw [List.takeWhile_cons, this]; rfl, hb⟩

theorem npTokens_eq (l : Str) : npTokens l = pySplit (l.takeWhile nh) := rfl

theorem npTokens_words (l : Str) : npTokens l = cutHash (pySplit l) := by
  induction l using words_induction with
  | nil => rfl
  | ws c cs hc ih =>
    have : nh c = true := by simp [nh, bne, ws_ne_hash c hc]
    rw [npTokens_eq, List.takeWhile_cons, this, if_pos rfl, pySplit_ws c _ hc, pySplit_ws c _ hc, ← npTokens_eq, ih]
  | word w tail hw ht hsp ih =>
    rw [npTokens_eq, takeWhile_append_if, hsp]
    simp only [cutHash]
    split
    · rw [pySplit_word_append hw (wsHead_takeWhile_nh tail ht), ← npTokens_eq, ih]
    · split
      · rename_i h; rw [List.isEmpty_iff.mp h]; rfl
      · rename_i h
        apply pySplit_isWord
        refine ⟨fun e => h (by rw [e]; rfl), fun c hc => hw.2 c ((List.takeWhile_sublist nh).subset hc)⟩

/-- two quote-free lines with the same words are the same line for the data reader (SPACE delimiter) -/
theorem dataEq_of_words (a b : Str) (ha : QuoteFree a) (hb : QuoteFree b) (h : pySplit a = pySplit b) :
    DataEq .space a b where
  toks := fun sb => by rw [lineTokens_space_words sb a ha, lineTokens_space_words sb b hb, h]
  sniff := fun sb => by rw [sampleLine_words sb a ha, sampleLine_words sb b hb, h]
  np := by rw [npTokens_words, npTokens_words, h]

end Lasio.Tf

#print axioms Lasio.Tf.lineTokens_space_words
#print axioms Lasio.Tf.dataEq_of_words
