import LasioModel.Curves
import LasioProofs.Lemmas.SectionInv
import LasioProofs.Props.C15
/-
Helper lemmas for C14: `zipWith` under list surgery, the part of an item that `assign_duplicate_suffixes`
never touches (`Item.core`), Python index arithmetic, and the closed form of re-suffixing several groups
(which shows that the iteration order over the Python `set` of useful mnemonics is irrelevant).
-/
namespace Lasio

theorem zipWith_insertAt {α β γ} (f : α → β → γ) (l1 : List α) (l2 : List β) (n : Nat) (a : α) (b : β)
    (h : l1.length = l2.length) :
    List.zipWith f (insertAt l1 n a) (insertAt l2 n b) = insertAt (List.zipWith f l1 l2) n (f a b) := by
  unfold insertAt
  rw [List.zipWith_append (by simp [h])]
  simp [List.take_zipWith, List.drop_zipWith]

theorem zipWith_eraseIdx {α β γ} (f : α → β → γ) (l1 : List α) (l2 : List β) (j : Nat) :
    List.zipWith f (l1.eraseIdx j) (l2.eraseIdx j) = (List.zipWith f l1 l2).eraseIdx j := by
  apply List.ext_getElem?
  intro n
  simp only [List.getElem?_zipWith, List.getElem?_eraseIdx]
  by_cases hn : n < j <;> simp only [hn, ↓reduceIte]

theorem zipWith_modify {α β γ} (f : α → β → γ) (g : α → α) (h : β → β) (k : γ → γ)
    (hk : ∀ a b, f (g a) (h b) = k (f a b)) (l1 : List α) (l2 : List β) (j : Nat) :
    List.zipWith f (l1.modify j g) (l2.modify j h) = (List.zipWith f l1 l2).modify j k := by
  induction l1 generalizing l2 j with
  | nil => simp
  | cons a as ih =>
    cases l2 with
    | nil => cases j <;> simp
    | cons b bs =>
      cases j with
      | zero => simp [hk]
      | succ j => simp [ih]

theorem cvMapIdx_length {α β} (f : Nat → α → β) (i : Nat) (l : List α) : (cvMapIdx f i l).length = l.length := by
  induction l generalizing i with
  | nil => rfl
  | cons a as ih => simp [cvMapIdx, ih]

theorem cvMapIdx_getElem? {α β} (f : Nat → α → β) (i : Nat) (l : List α) (n : Nat) :
    (cvMapIdx f i l)[n]? = (l[n]?).map (f (i + n)) := by
  induction l generalizing i n with
  | nil => simp [cvMapIdx]
  | cons a as ih =>
    cases n with
    | zero => simp [cvMapIdx]
    | succ n => simp [cvMapIdx, ih, Nat.add_assoc, Nat.add_comm 1 n]

theorem zipWith_cvMapIdx {α β γ} (f : α → β → γ) (g : Nat → α → α) (h : Nat → β → β) (k : Nat → γ → γ)
    (hk : ∀ i a b, f (g i a) (h i b) = k i (f a b)) (i : Nat) (l1 : List α) (l2 : List β) :
    List.zipWith f (cvMapIdx g i l1) (cvMapIdx h i l2) = cvMapIdx k i (List.zipWith f l1 l2) := by
  apply List.ext_getElem?
  intro n
  simp only [List.getElem?_zipWith, cvMapIdx_getElem?]
  cases l1[n]? <;> cases l2[n]? <;> simp [hk]

theorem insertAt_length {α} (l : List α) (n : Nat) (a : α) : (insertAt l n a).length = l.length + 1 := by
  unfold insertAt
  simp
  omega

theorem insertAt_len_eq_append {α} (l : List α) (a : α) : insertAt l l.length a = l ++ [a] := by
  simp [insertAt]

theorem insertAt_eraseIdx_eq_set {α} (l : List α) (j : Nat) (a : α) (h : j < l.length) :
    insertAt (l.eraseIdx j) j a = l.set j a := by
  induction l generalizing j with
  | nil => simp at h
  | cons b bs ih =>
    cases j with
    | zero => simp [insertAt]
    | succ j =>
      have := ih j (by simpa using h)
      simp only [insertAt] at this ⊢
      simp [this]

theorem pyInsertPos_le (len : Nat) (i : Int) : pyInsertPos len i ≤ len := by
  unfold pyInsertPos
  split <;> omega

theorem pyInsertPos_ofNat_len (len : Nat) : pyInsertPos len (Int.ofNat len) = len := by
  unfold pyInsertPos
  simp

theorem pyInsertPos_ofNat (len j : Nat) (h : j ≤ len) : pyInsertPos len (Int.ofNat j) = j := by
  unfold pyInsertPos
  simp
  omega

theorem pyIndex_ofNat (len j : Nat) (h : j < len) : pyIndex len (Int.ofNat j) = some j := by
  unfold pyIndex
  simp [h]

theorem keyIndex_lt {keys : List Str} {m : Str} {j : Nat} (h : keyIndex keys m = some j) : j < keys.length :=
  findFirst_lt _ _ _ h

/-- original mnemonic, unit, value, descr -/
def Item.core (it : Item) : Str × Str × Str × Str := (it.orig, it.unit, it.value, it.descr)

def specOfCore (c : Str × Str × Str × Str) (d : List Cell) : SpecCurve := ⟨c.1, c.2.1, c.2.2.1, c.2.2.2, d⟩

theorem specOf_eq (it : Item) (d : List Cell) : specOf it d = specOfCore it.core d := rfl

theorem abs_eq_core (L : LasCurves) : L.abs = List.zipWith specOfCore (L.sec.items.map Item.core) L.data := by
  unfold LasCurves.abs
  rw [List.zipWith_map_left]
  rfl

theorem abs_congr (L L' : LasCurves) (hi : L'.sec.items.map Item.core = L.sec.items.map Item.core)
    (hd : L'.data = L.data) : L'.abs = L.abs := by
  rw [abs_eq_core, abs_eq_core, hi, hd]

theorem assign_core (s : Section) (t : Str) :
    (s.assignSuffixes t).items.map Item.core = s.items.map Item.core :=
  assign_map Item.core (fun _ _ => rfl) s t

theorem assign_length (s : Section) (t : Str) : (s.assignSuffixes t).items.length = s.items.length := by
  have := congrArg List.length (assign_core s t)
  simpa using this

theorem assignMany_core (s : Section) (ts : List Str) :
    (assignMany s ts).items.map Item.core = s.items.map Item.core := by
  induction ts generalizing s with
  | nil => rfl
  | cons t ts ih =>
    unfold assignMany at ih ⊢
    rw [List.foldl_cons, ih, assign_core]

theorem assignMany_tr (s : Section) (ts : List Str) : (assignMany s ts).tr = s.tr := by
  induction ts generalizing s with
  | nil => rfl
  | cons t ts ih =>
    unfold assignMany at ih ⊢
    rw [List.foldl_cons, ih, assign_tr]

theorem assignAll_core (s : Section) : s.assignAll.items.map Item.core = s.items.map Item.core :=
  assignMany_core s _

theorem assignAll_length (s : Section) : s.assignAll.items.length = s.items.length := by
  have := congrArg List.length (assignAll_core s)
  simpa using this

theorem origs_eq_core (s : Section) : s.origs = (s.items.map Item.core).map (·.1) := by
  simp [Section.origs, Item.core]

theorem countGroup_of_inGroup (tr : Bool) (t : Str) (it : Item) (h : inGroup tr t it = true) (l : List Item) :
    countGroup tr t l = countGroup tr (useful it.orig) l :=
  countGroup_ckey tr _ _ l ((cmpStr_true_iff _ _ _).mp h).symm

/-- some test mnemonic of `ts` selects the group of `it`, and that group has more than one member -/
def suffixHit (tr : Bool) (ts : List Str) (l : List Item) (it : Item) : Bool :=
  ts.any fun t => inGroup tr t it && decide (1 < countGroup tr t l)

/-- the item at position `i` after `assign_duplicate_suffixes(t)` for every `t ∈ ts` (in any order) -/
def finalItem (tr : Bool) (ts : List Str) (l : List Item) (i : Nat) (it : Item) : Item :=
  if suffixHit tr ts l it then withSuffix it (countGroup tr (useful it.orig) (l.take i) + 1) else it

theorem suffixHit_congr (tr : Bool) (ts : List Str) (l l' : List Item) (it it' : Item)
    (hl : l.map (·.orig) = l'.map (·.orig)) (hi : it.orig = it'.orig) :
    suffixHit tr ts l it = suffixHit tr ts l' it' := by
  unfold suffixHit
  congr 1
  funext t
  rw [countGroup_congr tr t l l' hl]
  simp [inGroup, hi]

theorem withSuffix_session (it : Item) (x : Str) (n : Nat) :
    withSuffix { it with session := x } n = withSuffix it n := rfl

/-- when every useful mnemonic of `l` is a test mnemonic, an item of `l` is hit exactly when its own group has more than
one member -/
theorem suffixHit_all (tr : Bool) (l : List Item) (it : Item) (h : it ∈ l) :
    suffixHit tr (l.map fun it => useful it.orig) l it = decide (1 < countGroup tr (useful it.orig) l) := by
  unfold suffixHit
  rw [Bool.eq_iff_iff, List.any_eq_true, decide_eq_true_eq]
  constructor
  · rintro ⟨t, _, ht⟩
    rw [Bool.and_eq_true, decide_eq_true_eq] at ht
    rw [← countGroup_of_inGroup tr t it ht.1]
    exact ht.2
  · intro hc
    exact ⟨_, List.mem_map.mpr ⟨it, h, rfl⟩, by rw [Bool.and_eq_true, decide_eq_true_eq]; exact ⟨cmpStr_refl _ _, hc⟩⟩

theorem assignMany_getElem? (s : Section) (ts : List Str) (i : Nat) :
    (assignMany s ts).items[i]? = (s.items[i]?).map (finalItem s.tr ts s.items i) := by
  induction ts generalizing s with
  | nil =>
    show s.items[i]? = _
    cases s.items[i]? <;> rfl
  | cons t ts ih =>
    show (assignMany (s.assignSuffixes t) ts).items[i]? = _
    rw [ih, assign_getElem?, Option.map_map, assign_tr]
    congr 1
    funext it
    have ho : (s.assignSuffixes t).items.map (·.orig) = s.items.map (·.orig) := assign_origs s t
    -- after the step for `t` the item is `it` or `withSuffix it _`: same original, and the later steps only look at
    -- originals, which the step has left alone
    have key : ∀ x : Item, x.orig = it.orig → (∀ n, withSuffix x n = withSuffix it n) →
        finalItem s.tr ts (s.assignSuffixes t).items i x =
          if suffixHit s.tr ts s.items it then
            withSuffix it (countGroup s.tr (useful it.orig) (s.items.take i) + 1) else x := by
      intro x hx hw
      unfold finalItem
      rw [suffixHit_congr _ _ _ s.items x it ho hx, hx, hw,
        countGroup_congr _ _ _ (s.items.take i) (by rw [List.map_take, List.map_take, ho])]
    have hcons : finalItem s.tr (t :: ts) s.items i it =
        if (inGroup s.tr t it && decide (1 < countGroup s.tr t s.items) || suffixHit s.tr ts s.items it) = true then
          withSuffix it (countGroup s.tr (useful it.orig) (s.items.take i) + 1) else it := by
      unfold finalItem suffixHit
      rw [List.any_cons]
    simp only [Function.comp]
    rw [hcons]
    by_cases hA : (inGroup s.tr t it && decide (1 < countGroup s.tr t s.items)) = true
    · rw [if_pos hA, key (withSuffix it _) rfl (fun _ => rfl), hA, Bool.true_or, if_pos rfl,
        countGroup_of_inGroup s.tr t it (Bool.and_eq_true _ _ ▸ hA).1]
      split <;> rfl
    · rw [if_neg hA, key it rfl (fun _ => rfl), Bool.eq_false_iff.mpr hA, Bool.false_or]

theorem suffixHit_set (tr : Bool) (ts ts' : List Str) (l : List Item) (it : Item)
    (h : ∀ t, t ∈ ts ↔ t ∈ ts') : suffixHit tr ts l it = suffixHit tr ts' l it := by
  unfold suffixHit
  rw [Bool.eq_iff_iff, List.any_eq_true, List.any_eq_true]
  constructor
  · rintro ⟨t, ht, hp⟩; exact ⟨t, (h t).mp ht, hp⟩
  · rintro ⟨t, ht, hp⟩; exact ⟨t, (h t).mpr ht, hp⟩

theorem cvSection_ext (a b : Section) (hi : a.items = b.items) (ht : a.tr = b.tr) : a = b := by
  cases a; cases b; simp_all

/-- the result of re-suffixing the groups of a collection of test mnemonics depends only on the SET of test
mnemonics: neither the order of iteration nor repetitions matter -/
theorem assignMany_set_indep (s : Section) (ts ts' : List Str) (h : ∀ t, t ∈ ts ↔ t ∈ ts') :
    assignMany s ts = assignMany s ts' := by
  apply cvSection_ext
  · apply List.ext_getElem?
    intro i
    rw [assignMany_getElem?, assignMany_getElem?]
    congr 1
    funext it
    unfold finalItem
    rw [suffixHit_set s.tr ts ts' s.items it h]
  · rw [assignMany_tr, assignMany_tr]

theorem abs_length (L : LasCurves) (h : L.WF) : L.abs.length = L.sec.items.length := by
  unfold LasCurves.abs LasCurves.WF at *
  simp [h]

theorem keys_length (L : LasCurves) : L.keys.length = L.sec.items.length := by
  simp [LasCurves.keys, Section.keys]

theorem abs_assign (s : Section) (t : Str) (d : List (List Cell)) :
    LasCurves.abs ⟨s.assignSuffixes t, d⟩ = LasCurves.abs ⟨s, d⟩ :=
  abs_congr _ _ (assign_core s t) rfl

theorem abs_assignAll (s : Section) (d : List (List Cell)) :
    LasCurves.abs ⟨s.assignAll, d⟩ = LasCurves.abs ⟨s, d⟩ :=
  abs_congr _ _ (assignAll_core s) rfl

/-- the abstraction keeps the original mnemonics and the arrays -/
theorem abs_maps (L : LasCurves) (h : L.WF) : L.abs.map (·.orig) = L.sec.origs ∧ L.abs.map (·.data) = L.data := by
  unfold LasCurves.abs LasCurves.WF Section.origs at *
  generalize L.sec.items = l1 at *
  generalize L.data = l2 at *
  induction l1 generalizing l2 with
  | nil => cases l2 <;> simp_all
  | cons a as ih =>
    cases l2 with
    | nil => simp at h
    | cons b bs =>
      simp only [List.length_cons, Nat.add_right_cancel_iff] at h
      simp [ih bs h, specOf]

theorem all_length_eq {α} (d0 : List α) (ds : List (List α)) (hall : ds.all (fun x => x.length == d0.length) = true) :
    ∀ d ∈ d0 :: ds, d.length = d0.length := by
  intro d hd
  rcases List.mem_cons.mp hd with rfl | hd
  · rfl
  · simpa using List.all_eq_true.mp hall d hd

/-- `insert_curve_item`: the assertion on the item's class comes first, so a non-curve changes nothing -/
theorem insertItem_spec (L : LasCurves) (h : L.WF) (ix : Int) (c : CurveArg) :
    (L.insertItem ix c).1.abs = (if c.isCurve then specInsert L.abs ix (specOf c.item c.data) else L.abs) ∧
    (L.insertItem ix c).1.WF := by
  unfold LasCurves.insertItem
  by_cases hc : c.isCurve = true
  · rw [if_pos hc, if_pos hc]
    refine ⟨?_, ?_⟩
    · unfold Section.insert
      rw [abs_assign]
      unfold LasCurves.abs specInsert
      simp only []
      rw [zipWith_insertAt _ _ _ _ _ _ h]
      have := abs_length L h
      unfold LasCurves.abs at this
      rw [this]
    · unfold LasCurves.WF Section.insert at *
      simp only []
      rw [assign_length, insertAt_length, insertAt_length, h]
  · rw [if_neg hc, if_neg hc]
    exact ⟨rfl, h⟩

theorem specInsert_len (S : SpecCurves) (c : SpecCurve) : specInsert S (Int.ofNat S.length) c = S ++ [c] := by
  unfold specInsert
  rw [pyInsertPos_ofNat_len, insertAt_len_eq_append]

theorem deleteIx_eq (L : LasCurves) (ix : Int) :
    L.deleteIx ix = match pyIndex L.sec.items.length ix with
      | some j => (⟨{ L.sec with items := L.sec.items.eraseIdx j }, L.data.eraseIdx j⟩, .ok)
      | none => (L, .indexError) := by
  unfold LasCurves.deleteIx Section.pop
  cases pyIndex L.sec.items.length ix <;> rfl

theorem deleteIx_spec (L : LasCurves) (h : L.WF) (ix : Int) :
    (L.deleteIx ix).1.abs = specDelete L.abs ix ∧ (L.deleteIx ix).1.WF := by
  rw [deleteIx_eq]
  unfold specDelete
  rw [abs_length L h]
  cases hp : pyIndex L.sec.items.length ix with
  | none => exact ⟨rfl, h⟩
  | some j =>
    simp only []
    refine ⟨?_, ?_⟩
    · unfold LasCurves.abs
      exact zipWith_eraseIdx _ _ _ _
    · unfold LasCurves.WF at *
      simp only [List.length_eraseIdx]
      rw [h]

theorem updateAt_spec (L : LasCurves) (h : L.WF) (j : Nat) (data : Option (List Cell)) (u d v : Option Str) :
    (L.updateAt j data u d v).abs = L.abs.modify j (fun c =>
      ⟨c.orig, u.getD c.unit, v.getD c.value, d.getD c.descr, data.getD c.data⟩) ∧
    (L.updateAt j data u d v).WF := by
  unfold LasCurves.updateAt
  refine ⟨?_, ?_⟩
  · unfold LasCurves.abs
    simp only []
    exact zipWith_modify specOf _ _ _ (fun a b => rfl) _ _ _
  · unfold LasCurves.WF at *
    simp [h]

theorem updateIx_spec (L : LasCurves) (h : L.WF) (ix : Int) (data : Option (List Cell)) (u d v : Option Str) :
    (L.updateIx ix data u d v).1.abs = specUpdate L.abs ix data u d v ∧ (L.updateIx ix data u d v).1.WF := by
  unfold LasCurves.updateIx specUpdate
  rw [(C15_int_as_list L.sec _).2, abs_length L h]
  cases hp : pyIndex L.sec.items.length ix with
  | none => exact ⟨rfl, h⟩
  | some j => exact updateAt_spec L h j data u d v

theorem replaceItem_spec (L : LasCurves) (h : L.WF) (ix : Int) (c : CurveArg) :
    (L.replaceItem ix c).1.abs = specReplace L.abs ix c ∧ (L.replaceItem ix c).1.WF := by
  unfold LasCurves.replaceItem specReplace
  have hd := deleteIx_spec L h ix
  rw [deleteIx_eq] at hd ⊢
  unfold specDelete at hd
  rw [abs_length L h] at hd ⊢
  cases hp : pyIndex L.sec.items.length ix with
  | none => exact ⟨rfl, h⟩
  | some j =>
    rw [hp] at hd
    simp only [] at hd ⊢
    have := insertItem_spec _ hd.2 ix c
    rw [hd.1] at this
    exact this

theorem specReplace_ofNat (S : SpecCurves) (j : Nat) (c : CurveArg) (h : j < S.length) (hc : c.isCurve = true) :
    specReplace S (Int.ofNat j) c = S.set j (specOf c.item c.data) := by
  unfold specReplace specInsert
  rw [pyIndex_ofNat _ _ h]
  simp only [hc, if_true]
  rw [pyInsertPos_ofNat _ _ (by rw [List.length_eraseIdx]; simp [h]; omega)]
  exact insertAt_eraseIdx_eq_set S j _ h

theorem extend_spec (L : LasCurves) (h : L.WF) (k : Nat) :
    (L.extend k).abs = L.abs ++ List.replicate k cvBlankSpec ∧ (L.extend k).WF := by
  induction k generalizing L with
  | zero => exact ⟨by simp [LasCurves.extend], h⟩
  | succ k ih =>
    have hwf : LasCurves.WF ⟨L.sec.append cvBlankItem, L.data ++ [[]]⟩ := by
      unfold LasCurves.WF Section.append at *
      simp only []
      rw [assign_length]
      simp [h]
    have habs : LasCurves.abs ⟨L.sec.append cvBlankItem, L.data ++ [[]]⟩ = L.abs ++ [cvBlankSpec] := by
      unfold Section.append
      rw [abs_assign]
      unfold LasCurves.abs
      simp only []
      rw [List.zipWith_append h]
      rfl
    obtain ⟨h1, h2⟩ := ih _ hwf
    unfold LasCurves.extend
    refine ⟨?_, h2⟩
    rw [h1, habs, List.replicate_succ]
    simp

theorem assignCols_spec (L : LasCurves) (h : L.WF) (rows : List (List Cell)) (w : Nat) (names : Option (List Str)) :
    (L.assignCols rows w names).1.abs = specAssignCols L.abs rows w names ∧ (L.assignCols rows w names).1.WF := by
  have habs : ∀ names1 : List Str,
      List.zipWith specOf
        (cvMapIdx (fun i it => if i ≤ w then renameItem it (names1.getD i []) else it) 0 L.sec.items)
        (cvMapIdx (fun i d => if i < w then cvColumn rows i else d) 0 L.data) =
      cvMapIdx (fun i c =>
        ({ c with orig := if i ≤ w then names1.getD i [] else c.orig,
                  data := if i < w then cvColumn rows i else c.data } : SpecCurve)) 0 L.abs := by
    intro names1
    unfold LasCurves.abs
    apply zipWith_cvMapIdx
    intro i a b
    by_cases h1 : i ≤ w <;> by_cases h2 : i < w <;> simp [h1, h2, specOf, renameItem]
  unfold LasCurves.assignCols specAssignCols
  rw [(abs_maps L h).1]
  simp only []
  split
  · refine ⟨?_, ?_⟩
    · rw [abs_assignAll]
      exact habs _
    · unfold LasCurves.WF
      simp only []
      rw [assignAll_length, cvMapIdx_length, cvMapIdx_length]
      exact h
  · refine ⟨habs _, ?_⟩
    unfold LasCurves.WF
    simp only []
    rw [cvMapIdx_length, cvMapIdx_length]
    exact h

theorem setData_spec (L : LasCurves) (h : L.WF) (rows : List (List Cell)) (names : Option (List Str))
    (truncate : Bool) :
    (L.setData rows names truncate).1.abs = specSetData L.abs rows names truncate ∧
    (L.setData rows names truncate).1.WF := by
  unfold LasCurves.setData specSetData
  rw [abs_length L h]
  simp only []
  split
  · obtain ⟨h1, h2⟩ := extend_spec L h
      (cvRowsWidth (setDataRows L.sec.items.length rows truncate) - L.sec.items.length)
    rw [← h1]
    exact assignCols_spec _ h2 _ _ _
  · exact ⟨rfl, h⟩

theorem appendItem_spec (L : LasCurves) (h : L.WF) (c : CurveArg) :
    (L.insertItem (Int.ofNat L.sec.items.length) c).1.abs =
      (if c.isCurve then L.abs ++ [specOf c.item c.data] else L.abs) ∧
    (L.insertItem (Int.ofNat L.sec.items.length) c).1.WF := by
  have e := specInsert_len L.abs (specOf c.item c.data)
  rw [abs_length L h] at e
  rw [← e]
  exact insertItem_spec L h (Int.ofNat L.sec.items.length) c

theorem findFirst_map {α β} (p : β → Bool) (f : α → β) (l : List α) :
    findFirst p (l.map f) = findFirst (fun a => p (f a)) l := by
  induction l with
  | nil => rfl
  | cons a as ih => simp [findFirst, ih]

theorem keyIndex_eq_findFirst_cmp (tr : Bool) (keys : List Str) (m : Str)
    (hd : tr = false ∨ keys.Pairwise (fun a b => cmpStr tr a b = false)) (hm : keys.contains m = true) :
    findFirst (fun k => cmpStr tr k m) keys = keyIndex keys m := by
  induction keys with
  | nil => simp at hm
  | cons a as ih =>
    unfold keyIndex findFirst
    by_cases ha : a = m
    · subst ha
      simp [cmpStr_refl]
    · have hm' : as.contains m = true := by simpa [Ne.symm ha] using hm
      have hcmp : cmpStr tr a m = false := by
        rcases hd with rfl | hp
        · simpa [cmpStr] using ha
        · exact (List.pairwise_cons.mp hp).1 m (by simpa using hm')
      rw [if_neg (by simp [hcmp]), if_neg (by simpa using ha)]
      exact congrArg _ (ih (hd.imp id fun hp => (List.pairwise_cons.mp hp).2) hm')

theorem cvRowsWidth_truncate (n : Nat) (rows : List (List Cell)) :
    cvRowsWidth (rows.map (fun r => r.take n)) ≤ n := by
  cases rows with
  | nil => simp [cvRowsWidth]
  | cons r rs => simp [cvRowsWidth, List.length_take]; omega

end Lasio
