import LasioProofs.Props.C09Redelim
import LasioProofs.Lemmas.JunkLemmas
/-
C09, whole file `.redelim`: the header step — what the header-level reader `Rd.readLines` returns for the document whose DLM
item (in the ~Version section, the first section of the file) was replaced / inserted: the ~Version title (kind, parser under
the provisional version 2.0, routing key) and the item the line `DLM. <to> : delimiter` parses to; the steering values `Rd.steer`
computes from the two item lists; the sections after ~Version from states that differ in `steer.dlm` and in the value stored
under "Version"; `Rd.readLines` on the two documents; then the data part (the one data section of the file, the document
`redelim` produces) and the whole file.
-/
namespace Lasio.Tf
open Lasio Lasio.Dt

/-! ## §1 the ~Version title and the DLM item line -/

/-- the title line opens a ~V… section without underscore (so: a header-items section, parsed as "Version", stored under
"Version") -/
def vTitle (t : Str) : Bool :=
  match Rd.sline t with
  | '~' :: c :: r => upperC c == 'V' && !(upper ('~' :: c :: r)).contains '_'
  | _ => false

/-- the parser of a ~Version section under the provisional version 2.0 -/
def vParser : Rd.Parser := ⟨.metadata, .version, Rd.valueDescr, []⟩

theorem vTitle_shape {t : Str} (h : vTitle t = true) :
    ∃ c r, Rd.sline t = '~' :: c :: r ∧ upperC c = 'V' ∧ '_' ∉ upper ('~' :: c :: r) := by
  unfold vTitle at h
  split at h
  · rename_i c r hs
    simp only [Bool.and_eq_true, Bool.not_eq_true', beq_iff_eq] at h
    refine ⟨c, r, hs, h.1, ?_⟩
    intro hm
    have : (upper ('~' :: c :: r)).contains '_' = true := by simpa using hm
    rw [this] at h
    exact absurd h.2 (by decide)
  · cases h

theorem vTitle_kind {t : Str} (h : vTitle t = true) : kindOf t = .items := by
  obtain ⟨c, r, hs, hc, hu⟩ := vTitle_shape h
  unfold kindOf
  rw [hs]
  have hid : Rd.sline ('~' :: c :: r) = '~' :: c :: r := by rw [← hs, Rd.sline_idem]
  rw [Rd.sectionType_letter c r hid (Rd.underscore_upper _ hu), hc]
  rfl

theorem vTitle_letter {t : Str} (h : vTitle t = true) : Rd.titleLetter (Rd.sline t) = ['V'] := by
  obtain ⟨c, r, hs, hc, _⟩ := vTitle_shape h
  rw [hs]
  simp [Rd.titleLetter, upper, hc]

theorem vTitle_isV {t : Str} (h : vTitle t = true) (b : List Str) : Rd.isV (t, b) = true := by
  have hk : Rd.sectionType (Rd.sline t) = .items := vTitle_kind h
  simp [Rd.isV, hk, vTitle_letter h]

theorem vTitle_route {t : Str} (h : vTitle t = true) (ver : Rd.VerVal) : Rd.routeKey (Rd.sline t) ver = .ok Rd.kVersion := by
  obtain ⟨c, r, hs, hc, hu⟩ := vTitle_shape h
  rw [hs, Rd.routeKey_letter c r ver hu, hc]
  rfl

theorem vTitle_len {t : Str} (h : vTitle t = true) : ¬ (Rd.sline t).length < 2 := by
  obtain ⟨c, r, hs, _, _⟩ := vTitle_shape h
  rw [hs]; simp

/-- the parser `read` builds for the ~Version section while the provisional version is still 2.0 -/
theorem vTitle_parser {t : Str} (h : vTitle t = true) :
    Rd.mkParser (Rd.lineStrip t) (Rd.classifyVer none) = .ok vParser := by
  obtain ⟨c, r, hs, hc, hu⟩ := vTitle_shape h
  have e : Rd.lineStrip t = '~' :: c :: r := by rw [Rd.lineStrip_eq_strip, ← Rd.sline_eq_strip, hs]
  rw [e]
  have hl3 : Rd.isLas3Like ('~' :: c :: r) = false := Rd.isLas3Like_false _ hu
  unfold Rd.mkParser Rd.classifyVer
  simp only [hl3, Bool.and_false, show "~C".toList = ['~', 'C'] from rfl, show "~P".toList = ['~', 'P'] from rfl,
    show "~W".toList = ['~', 'W'] from rfl, show "~V".toList = ['~', 'V'] from rfl, Rd.startsWith_tilde, hc]
  rfl


/-- the item the line `DLM. <to> : delimiter` parses to in a ~Version section -/
def dlmItem (mc : Rd.MCase) (to : Dlm) : Rd.RItem := ⟨Rd.applyCase mc "DLM".toList, [], dlmName to, "delimiter".toList⟩

theorem dlmItemLine_solid (to : Dlm) : Solid (dlmItemLine to) := by
  have e1 : "DLM. ".toList = 'D' :: "LM. ".toList := by decide +kernel
  have e2 : " : delimiter".toList = " : delimite".toList ++ ['r'] := by decide +kernel
  unfold dlmItemLine
  rw [e1, e2]
  exact ⟨⟨'D', _, rfl, by decide⟩, ⟨_, 'r', (List.append_assoc _ _ _).symm, by decide⟩⟩

theorem strip_dlmLine (to : Dlm) (eol : Str) (he : AllWs eol) : strip (dlmItemLine to ++ eol) = dlmItemLine to := by
  have := strip_sandwich [] (dlmItemLine to) eol allWs_nil he (dlmItemLine_solid to)
  simpa using this

theorem parse_dlmItemLine (to : Dlm) :
    parseHeaderLine vParser.sec (dlmItemLine to) = some ⟨"DLM".toList, [], dlmName to, "delimiter".toList⟩ := by
  cases to <;> decide +kernel

/-- THE NEW LINE: `DLM. <to> : delimiter` (any terminator) is an item line of the ~Version section -/
theorem lineRes_dlmLine (o : Rd.ReadOpts) (to : Dlm) (eol : Str) (he : AllWs eol) :
    Rd.lineRes o vParser (dlmItemLine to ++ eol) = .item (dlmItem o.mnemonicCase to) := by
  obtain ⟨ig, mc⟩ := o
  unfold Rd.lineRes
  rw [Rd.lineStrip_eq_strip, strip_dlmLine to eol he]
  have h1 : (dlmItemLine to).isEmpty = false := by cases to <;> rfl
  have h2 : ((dlmItemLine to).head? == some '#') = false := by cases to <;> rfl
  have h3 : Rd.startsTilde (dlmItemLine to) = false := by cases to <;> rfl
  simp only [h1, h2, h3, Bool.false_eq_true, if_false]
  rw [parse_dlmItemLine]
  rfl

theorem lineItem_dlmLine (o : Rd.ReadOpts) (to : Dlm) (eol : Str) (he : AllWs eol) :
    Rd.lineItem o vParser (dlmItemLine to ++ eol) = some (dlmItem o.mnemonicCase to) := by
  unfold Rd.lineItem
  rw [lineRes_dlmLine o to eol he]

theorem dlmLine_not_title (to : Dlm) (eol : Str) (he : AllWs eol) : Rd.isTitle (dlmItemLine to ++ eol) = false := by
  rw [Rd.isTitle_eq, strip_dlmLine to eol he]
  cases to <;> rfl

/-! ## §2 the steering values -/

/-- `mnemonic_compare` translates (upper-cases) unless the mnemonic case is "preserve" -/
abbrev trOf (o : Rd.ReadOpts) : Bool := o.mnemonicCase != .preserve

def dlmKey : Str := "DLM".toList

/-- the item answers to `"DLM" in section` / `section.DLM` as far as its own mnemonic goes -/
def isDlmItem (o : Rd.ReadOpts) (it : Rd.RItem) : Bool := Rd.mcmp (trOf o) (Rd.U it) dlmKey

/-- the line of a ~Version section is an item line whose mnemonic is DLM under the reader's comparison -/
def isDlmLine (o : Rd.ReadOpts) (l : Str) : Bool :=
  match Rd.lineItem o vParser l with
  | some it => isDlmItem o it
  | none => false

theorem isDlmLine_eq {o : Rd.ReadOpts} {l : Str} {it : Rd.RItem} (h : Rd.lineItem o vParser l = some it) :
    isDlmLine o l = isDlmItem o it := by
  unfold isDlmLine
  rw [h]

theorem dlmItem_isDlm (o : Rd.ReadOpts) (to : Dlm) : isDlmItem o (dlmItem o.mnemonicCase to) = true := by
  unfold isDlmItem trOf
  generalize o.mnemonicCase = mc
  cases mc <;> cases to <;> decide

theorem dlmItem_not_other (o : Rd.ReadOpts) (to : Dlm) (k : Str) (hk : k = "VERS".toList ∨ k = "WRAP".toList) :
    Rd.mcmp (trOf o) (Rd.U (dlmItem o.mnemonicCase to)) k = false := by
  unfold trOf
  generalize o.mnemonicCase = mc
  rcases hk with rfl | rfl <;> cases mc <;> cases to <;> decide

theorem isDlm_not_other (o : Rd.ReadOpts) (it : Rd.RItem) (h : isDlmItem o it = true) (k : Str)
    (hk : k = "VERS".toList ∨ k = "WRAP".toList) : Rd.mcmp (trOf o) (Rd.U it) k = false := by
  unfold isDlmItem at h
  have e := (Rd.mcmp_true_iff _ _ _).mp h
  rw [Rd.mcmp_eq_ck, e]
  rcases hk with rfl | rfl <;> cases trOf o <;> decide

/-- VERS and WRAP are looked up alike in the two item lists -/
theorem lookup_other_dlm (o : Rd.ReadOpts) (to : Dlm) (I₁ I₂ : List Rd.RItem) (oi : Option Rd.RItem)
    (hx : ∀ it ∈ oi, isDlmItem o it = true) (k : Str) (hk : k = "VERS".toList ∨ k = "WRAP".toList) :
    Rd.lookupItem (trOf o) (I₁ ++ dlmItem o.mnemonicCase to :: I₂) k = Rd.lookupItem (trOf o) (I₁ ++ oi.toList ++ I₂) k := by
  have hks : k ∈ Rd.steerKeys := by rcases hk with rfl | rfl <;> simp [Rd.steerKeys]
  rw [Rd.lookupItem_insert _ k hks I₁ I₂ _ (dlmItem_not_other o to k hk)]
  cases oi with
  | none => simp
  | some it =>
    simp only [Option.toList_some, List.append_assoc, List.singleton_append]
    exact (Rd.lookupItem_insert _ k hks I₁ I₂ it (isDlm_not_other o it (hx it rfl) k hk)).symm

theorem dlmKey_nocolon (tr : Bool) : ':' ∉ Rd.ck tr dlmKey := Rd.steerKey_nocolon tr dlmKey (by simp [Rd.steerKeys, dlmKey])

theorem filter_dlm_nil (o : Rd.ReadOpts) (I : List Rd.RItem) (h : ∀ it ∈ I, isDlmItem o it = false) :
    I.filter (fun it => Rd.mcmp (trOf o) (Rd.U it) dlmKey) = [] := by
  rw [List.filter_eq_nil_iff]
  intro it hit
  have := h it hit
  unfold isDlmItem at this
  simp [this]

/-- no DLM item: DLM is not found -/
theorem lookup_dlm_none (o : Rd.ReadOpts) (I : List Rd.RItem) (h : ∀ it ∈ I, isDlmItem o it = false) :
    Rd.lookupItem (trOf o) I dlmKey = none := by
  rw [Rd.lookupItem_eq _ dlmKey (dlmKey_nocolon _), filter_dlm_nil o I h]
  rfl

/-- DLM is found in the new list: the new item, the only one -/
theorem lookup_dlm_new (o : Rd.ReadOpts) (to : Dlm) (I₁ I₂ : List Rd.RItem)
    (huniq : ∀ it ∈ I₁ ++ I₂, isDlmItem o it = false) :
    Rd.lookupItem (trOf o) (I₁ ++ dlmItem o.mnemonicCase to :: I₂) dlmKey = some (dlmItem o.mnemonicCase to) := by
  have h3 : Rd.mcmp (trOf o) (Rd.U (dlmItem o.mnemonicCase to)) dlmKey = true := dlmItem_isDlm o to
  rw [Rd.lookupItem_eq _ dlmKey (dlmKey_nocolon _), List.filter_append, List.filter_cons,
    filter_dlm_nil o I₁ fun it h => huniq it (List.mem_append_left _ h),
    filter_dlm_nil o I₂ fun it h => huniq it (List.mem_append_right _ h)]
  simp [h3, Rd.uniq]

/-- the steering values computed from the ~Version section with the DLM item replaced / inserted: the old ones, but for `dlm` -/
theorem steer_dlm (o : Rd.ReadOpts) (T : Str) (to : Dlm) (I₁ I₂ : List Rd.RItem) (oi : Option Rd.RItem) (s : Rd.Steer)
    (hT : Rd.titleLetter T = ['V']) (hx : ∀ it ∈ oi, isDlmItem o it = true)
    (huniq : ∀ it ∈ I₁ ++ I₂, isDlmItem o it = false) :
    Rd.steer o T (I₁ ++ dlmItem o.mnemonicCase to :: I₂) s =
      { Rd.steer o T (I₁ ++ oi.toList ++ I₂) s with dlm := some (dlmName to) } := by
  have h1 := lookup_other_dlm o to I₁ I₂ oi hx "VERS".toList (Or.inl rfl)
  have h2 := lookup_other_dlm o to I₁ I₂ oi hx "WRAP".toList (Or.inr rfl)
  have h3 := lookup_dlm_new o to I₁ I₂ huniq
  unfold Rd.steer
  simp only [hT, beq_self_eq_true, if_true]
  simp only [trOf, dlmKey] at h1 h2 h3
  rw [h1, h2, h3]
  simp [Rd.orKeep, dlmItem]

/-! ## §3 the sections after ~Version -/

theorem sectionType_other_letter (T : Str) (h : Rd.sectionType T = .other) :
    upper ((Rd.sline T).take 2) = ['~', 'O'] := by
  unfold Rd.sectionType at h
  dsimp only at h
  split at h
  · cases h
  · split at h
    · rename_i h2
      have : upper ((Rd.sline T).take 2) = "~O".toList := by simpa using h2
      exact this
    · split at h <;> cases h

theorem ite_eq_cases {α : Sort _} {c : Prop} [Decidable c] {a b x : α} (h : (if c then a else b) = x) :
    c ∧ a = x ∨ ¬ c ∧ b = x := by
  by_cases hc : c
  · exact Or.inl ⟨hc, by rwa [if_pos hc] at h⟩
  · exact Or.inr ⟨hc, by rwa [if_neg hc] at h⟩

theorem secKey_ne_version (tb : Str × List Str) (hv : Rd.isV tb = false) (ver : Rd.VerVal) (k : Rd.RKey)
    (h : Rd.secKey ver tb = some k) : k ≠ Rd.kVersion := by
  have hdrop : ∀ T : Str, Rd.titleLetter T ≠ ['V'] → T.drop 1 ≠ Rd.kVersion := by
    intro T hT e
    apply hT
    unfold Rd.titleLetter
    rw [e]
    decide +kernel
  unfold Rd.secKey at h
  cases hk : Rd.sectionType (Rd.sline tb.1) with
  | items =>
    have hV : Rd.titleLetter (Rd.sline tb.1) ≠ ['V'] := by
      intro e
      simp [Rd.isV, hk, e] at hv
    have hVb : (Rd.titleLetter (Rd.sline tb.1) == ['V']) = false := by simpa using hV
    simp only [hk] at h
    split at h
    · cases h
    · cases hr : Rd.routeKey (Rd.sline tb.1) ver with
      | error e => simp [hr, Except.toOption] at h
      | ok k' =>
        simp only [hr, Except.toOption, Option.some.injEq] at h
        subst h
        unfold Rd.routeKey at hr
        dsimp only at hr
        -- one branch of `routeKey` after the other; `split` would rewrite the whole nest at every step
        rcases ite_eq_cases hr with ⟨_, hr⟩ | ⟨_, hr⟩
        · cases hr; decide +kernel
        rcases ite_eq_cases hr with ⟨_, hr⟩ | ⟨_, hr⟩
        · cases hr; decide +kernel
        rcases ite_eq_cases hr with ⟨_, hr⟩ | ⟨_, hr⟩
        · cases hr
        rcases ite_eq_cases hr with ⟨_, hr⟩ | ⟨_, hr⟩
        · cases hr; exact hdrop _ hV
        rcases ite_eq_cases hr with ⟨hc, hr⟩ | ⟨_, hr⟩
        · rw [hVb] at hc; cases hc
        rcases ite_eq_cases hr with ⟨_, hr⟩ | ⟨_, hr⟩
        · cases hr; decide +kernel
        · cases hr; exact hdrop _ hV
  | other =>
    simp only [hk, Option.some.injEq] at h
    subst h
    unfold Rd.routeKeyOther
    split
    · decide +kernel
    · apply hdrop
      -- an "other" section has the title letter O
      have hO := sectionType_other_letter _ hk
      rw [Rd.sline_idem] at hO
      unfold upper at hO
      unfold Rd.titleLetter upper
      rw [List.take_drop, List.map_drop, hO]
      decide
  | data => simp [hk] at h
  | las3data => simp [hk] at h

/-- SECTIONS none of which is a ~V section, read from two states whose steering values differ in `dlm` only (`D` in the second),
with the same `curvesPlain` flag and `P`-related section maps: the same outcome, the relations stay -/
theorem docSections_D (D : Option Str) (Q : Rd.RKey → Prop)
    (P : List (Rd.RKey × Option Rd.SecVal) → List (Rd.RKey × Option Rd.SecVal) → Prop) (hP : AssignClosed Q P)
    (o : Rd.ReadOpts) (secs : List (Str × List Str)) (n n' : Nat) (st st' r : Rd.RState)
    (hv : ∀ tb ∈ secs, Rd.isV tb = false) (hQ : ∀ tb ∈ secs, ∀ ver k, Rd.secKey ver tb = some k → Q k)
    (hs : st'.steer = { st.steer with dlm := D }) (hc : st.curvesPlain = st'.curvesPlain) (hp : P st.sections st'.sections)
    (h : Rd.docSections o secs n st = .ok r) :
    ∃ r', Rd.docSections o secs n' st' = .ok r' ∧ r'.steer = { r.steer with dlm := D } ∧ r.curvesPlain = r'.curvesPlain ∧
      P r.sections r'.sections :=
  docSections_P (fun s s' => s' = { s with dlm := D }) (fun _ _ h => by rw [h]) Q P hP o secs n n' st st' r
    (fun tb htb hk items s s' h => by
      -- the steering code of a section that is not a ~V section leaves `dlm` alone
      have hV : (Rd.titleLetter (Rd.sline tb.1) == ['V']) = false := by simpa [Rd.isV, hk] using hv tb htb
      rw [Rd.steer_nonV o _ items s' hV, Rd.steer_nonV o _ items s hV, h]) hQ hs hc hp h


/-! ## §4 `Rd.readLines` on the two documents -/

theorem delimiters_dlmName (to : Dlm) : Rd.delimiters.contains (dlmName to) = true := by
  cases to <;> decide

/-- no line is a DLM item line: no item is a DLM item -/
theorem bodyItems_not_dlm (o : Rd.ReadOpts) (b : List Str) (h : ∀ l ∈ b, isDlmLine o l = false) :
    ∀ it ∈ Rd.bodyItems o vParser b, isDlmItem o it = false := by
  intro it hit
  unfold Rd.bodyItems at hit
  obtain ⟨l, hl, hli⟩ := List.mem_filterMap.mp hit
  rw [← isDlmLine_eq hli]
  exact h l hl

theorem forall_mem_replace {α} {P : α → Prop} {l₁ l₂ : List α} {ox : Option α} {y : α}
    (h : ∀ x ∈ l₁ ++ ox.toList ++ l₂, P x) (hy : P y) : ∀ x ∈ l₁ ++ y :: l₂, P x := by
  intro x hx
  rcases List.mem_append.mp hx with h1 | h1
  · exact h x (by simp [h1])
  · rcases List.mem_cons.mp h1 with rfl | h1
    · exact hy
    · exact h x (by simp [h1])

/-- HEADER PART, whole file. The ~Version section is the first section of the document; its body is `l₁ ++ ox.toList ++ l₂`
(`ox = some x`: the DLM item line that is replaced; `ox = none`: a line is inserted), no other line of it is a DLM item, no
other section is a ~V section.  With the line `DLM. <to> : delimiter` in that place the header-level reader returns the same
steering values but for `dlm`, the sections related by `JRel` — only the value stored under "Version" differs: the item list
with the one item replaced / inserted —, and the data windows of the respective document. -/
theorem readLines_dlm (o : Rd.ReadOpts) (pre : List Str) (tV : Str) (l₁ l₂ : List Str) (ox : Option Str) (eol : Str) (to : Dlm)
    (B : List (Str × List Str)) (hpre : ∀ x ∈ pre, Rd.isTitle x = false)
    (hw : Rd.WellFormed ((tV, l₁ ++ ox.toList ++ l₂) :: B)) (hV : vTitle tV = true) (he : AllWs eol)
    (hB : ∀ tb ∈ B, Rd.isV tb = false)
    (hx : ∀ x ∈ ox, isDlmLine o x = true) (huniq : ∀ l ∈ l₁ ++ l₂, isDlmLine o l = false)
    (h : Rd.RHeader) (hr : Rd.readLines o (pre ++ Rd.flat ((tV, l₁ ++ ox.toList ++ l₂) :: B)) = .ok h) :
    ∃ secs',
      Rd.readLines o (pre ++ Rd.flat ((tV, l₁ ++ (dlmItemLine to ++ eol) :: l₂) :: B)) =
        .ok ⟨secs', { h.steer with dlm := some (dlmName to) },
              docData ((tV, l₁ ++ (dlmItemLine to ++ eol) :: l₂) :: B) pre.length⟩ ∧
      h.data = docData ((tV, l₁ ++ ox.toList ++ l₂) :: B) pre.length ∧
      JRel Rd.kVersion
        (.items (Rd.bodyItems o vParser l₁ ++ (ox.bind (Rd.lineItem o vParser)).toList ++ Rd.bodyItems o vParser l₂))
        (.items (Rd.bodyItems o vParser l₁ ++ dlmItem o.mnemonicCase to :: Rd.bodyItems o vParser l₂)) h.sections secs' ∧
      h.sections.lookup Rd.kVersion =
        some (.items (Rd.bodyItems o vParser l₁ ++ (ox.bind (Rd.lineItem o vParser)).toList ++ Rd.bodyItems o vParser l₂)) ∧
      secs'.lookup Rd.kVersion =
        some (.items (Rd.bodyItems o vParser l₁ ++ dlmItem o.mnemonicCase to :: Rd.bodyItems o vParser l₂)) := by
  have hyitem := lineItem_dlmLine o to eol he
  have hyres := lineRes_dlmLine o to eol he
  have hynt := dlmLine_not_title to eol he
  generalize dlmItemLine to ++ eol = y at hyitem hyres hynt ⊢
  have hw' : Rd.WellFormed ((tV, l₁ ++ y :: l₂) :: B) :=
    wellFormed_replace (A := []) hw (forall_mem_replace (hw _ List.mem_cons_self).2 hynt)
  -- the two item lists
  have hitems : Rd.bodyItems o vParser (l₁ ++ ox.toList ++ l₂) =
      Rd.bodyItems o vParser l₁ ++ (ox.bind (Rd.lineItem o vParser)).toList ++ Rd.bodyItems o vParser l₂ := by
    cases ox with
    | none => simp [Rd.bodyItems_append]
    | some x => simpa using bodyItems_insert o vParser l₁ l₂ x
  have hitems' : Rd.bodyItems o vParser (l₁ ++ y :: l₂) =
      Rd.bodyItems o vParser l₁ ++ dlmItem o.mnemonicCase to :: Rd.bodyItems o vParser l₂ := by
    rw [bodyItems_insert, hyitem]
    simp
  have hxi : ∀ it ∈ ox.bind (Rd.lineItem o vParser), isDlmItem o it = true := by
    intro it hit
    obtain ⟨x, hx', hit⟩ := Option.bind_eq_some_iff.mp hit
    rw [← isDlmLine_eq hit]
    exact hx x hx'
  have hun : ∀ it ∈ Rd.bodyItems o vParser l₁ ++ Rd.bodyItems o vParser l₂, isDlmItem o it = false := by
    rw [← Rd.bodyItems_append]
    exact bodyItems_not_dlm o _ huniq
  have hsteer := steer_dlm o (Rd.sline tV) to _ _ _ Rd.RState.init.steer (vTitle_letter hV) hxi hun
  rw [← hitems, ← hitems'] at hsteer ⊢
  have hk : Rd.sectionType (Rd.sline tV) = .items := vTitle_kind hV
  have hp : Rd.mkParser (Rd.lineStrip tV) (Rd.classifyVer Rd.RState.init.steer.vers) = .ok vParser := vTitle_parser hV
  obtain ⟨_, st, hd, _, hcp, rfl⟩ := (readLines_ok_doc hpre hw).mp hr
  -- the projections of the header are reduced here: left to the unifier, they make it unfold the look-ups
  dsimp only
  obtain ⟨s2, hT, hd⟩ := Rd.docSections_cons_ok.mp hd
  -- the ~Version section of the original document
  obtain ⟨p, items, hp', hb, hT⟩ := (Rd.docSection_items (tb := (tV, l₁ ++ ox.toList ++ l₂)) hk).mp hT
  simp only at hp' hb hT hd
  cases hp.symm.trans hp'
  obtain ⟨hcond, rfl⟩ := (Rd.bodyRun_ok_iff o vParser _ _ _).mp hb
  obtain ⟨k, hlen, hroute, hs2⟩ := Rd.finishItems_ok o _ _ Rd.RState.init s2 hT
  rw [vTitle_route hV] at hroute
  cases hroute
  -- the ~Version section of the new document
  obtain ⟨s2', hT', hs2'⟩ :
      ∃ s2', Rd.docSection o pre.length (tV, l₁ ++ y :: l₂) Rd.RState.init = .ok s2' ∧ s2' = _ :=
    ⟨_, (Rd.docSection_items (tb := (tV, l₁ ++ y :: l₂)) hk).mpr ⟨vParser, _, hp,
      (Rd.bodyRun_ok_iff o vParser _ _ _).mpr
        ⟨hcond.imp id fun hc => forall_mem_replace hc (by rw [hyres]; exact fun e => nomatch e), rfl⟩,
      Rd.finishItems_of o _ _ Rd.RState.init Rd.kVersion hlen (vTitle_route hV _)⟩, rfl⟩
  -- the sections after it: none is stored under "Version"
  obtain ⟨st', hB', hst', hc', hrel, hl1, hl2⟩ := docSections_D (some (dlmName to)) (· ≠ Rd.kVersion)
    (fun m m' => JRelO Rd.kVersion (.items (Rd.bodyItems o vParser (l₁ ++ ox.toList ++ l₂)))
        (.items (Rd.bodyItems o vParser (l₁ ++ y :: l₂))) m m' ∧
      (assigned m).lookup Rd.kVersion = some (.items (Rd.bodyItems o vParser (l₁ ++ ox.toList ++ l₂))) ∧
      (assigned m').lookup Rd.kVersion = some (.items (Rd.bodyItems o vParser (l₁ ++ y :: l₂))))
    (fun k2 v m m' hne hm => ⟨jrelO_assign Rd.kVersion _ _ k2 v m m' hm.1,
      by rw [assigned_lookup_other Rd.kVersion k2 v m (Ne.symm hne)]; exact hm.2.1,
      by rw [assigned_lookup_other Rd.kVersion k2 v m' (Ne.symm hne)]; exact hm.2.2⟩)
    o B _ (pre.length + 1 + (l₁ ++ y :: l₂).length) s2 s2' st hB
    (fun tb htb ver k' hk' => secKey_ne_version tb (hB tb htb) ver k' hk')
    -- `dsimp only` first: matching `hsteer` through the projections of the record, the unifier would unfold `Rd.steer`
    (by rw [hs2, hs2']; dsimp only; exact hsteer) (by rw [hs2, hs2']; rfl)
    (by rw [hs2, hs2']
        exact ⟨jrelO_assign_diff Rd.kVersion _ _ _, assigned_lookup_same Rd.kVersion _ _, assigned_lookup_same Rd.kVersion _ _⟩)
    hd
  refine ⟨assigned st'.sections, ?_, rfl, jrel_assigned Rd.kVersion _ _ _ _ hrel, hl1, hl2⟩
  refine (readLines_ok_doc hpre hw').mpr ⟨by simp, st', Rd.docSections_cons_ok.mpr ⟨s2', hT', hB'⟩, ?_, ?_, ?_⟩
  · intro d hd
    rw [hst'] at hd
    cases hd
    exact delimiters_dlmName to
  · rw [← hc']
    exact hcp
  · rw [hst']

/-! ## §5 the data part and the whole file -/

theorem dataWins_none (k : Rd.SecKind) (hk : isDataKind k) (S : List (Str × List Str))
    (h : ∀ tb ∈ S, ¬ isDataKind (kindOf tb.1)) (n : Nat) : dataWins k S n = [] := by
  induction S generalizing n with
  | nil => rfl
  | cons tb rest ih =>
    have hne : ¬ kindOf tb.1 = k := by
      intro e
      exact h tb List.mem_cons_self (e ▸ hk)
    simp only [dataWins, secWin, hne, if_false, List.nil_append]
    exact ih (fun x hx => h x (List.mem_cons_of_mem _ hx)) _

/-- the data windows of a document with ONE data section -/
theorem docData_single (A C : List (Str × List Str)) (t : Str) (b : List Str) (hk : isDataKind (kindOf t))
    (hA : ∀ tb ∈ A, ¬ isDataKind (kindOf tb.1)) (hC : ∀ tb ∈ C, ¬ isDataKind (kindOf tb.1)) (n : Nat) :
    docData (A ++ (t, b) :: C) n = [(n + Rd.size A, n + Rd.size A + b.length, Rd.sline t)] := by
  have hw : ∀ k, isDataKind k → dataWins k (A ++ (t, b) :: C) n =
      if kindOf t = k then [(n + Rd.size A, n + Rd.size A + b.length, Rd.sline t)] else [] := by
    intro k hkk
    rw [dataWins_append, dataWins_none k hkk A hA]
    simp only [List.nil_append, dataWins, secWin]
    rw [dataWins_none k hkk C hC]
    simp
  unfold docData
  rw [hw .data (Or.inl rfl), hw .las3data (Or.inr rfl)]
  rcases hk with hk | hk
  · simp [hk]
  · simp [hk]

theorem vTitle_not_data {t : Str} (h : vTitle t = true) : ¬ isDataKind (kindOf t) := by
  rw [vTitle_kind h]
  intro hh
  rcases hh with hh | hh <;> cases hh

theorem dataKind_not_isV (t : Str) (b : List Str) (hk : isDataKind (kindOf t)) : Rd.isV (t, b) = false := by
  have : Rd.sectionType (Rd.sline t) ≠ .items := by
    intro e
    have e' : kindOf t = .items := e
    rw [e'] at hk
    rcases hk with hk | hk <;> cases hk
  simp [Rd.isV, this]

/-- the whole-file read of a document with ONE data section, given what the header-level reader returns for it -/
theorem readFull_single (o : Opts) (nullOf : Option Str → Option Str) (ft : FloatTable) (pre : List Str)
    (A C : List (Str × List Str)) (t : Str) (b : List Str) (h : Rd.RHeader) (hpre : ∀ x ∈ pre, Rd.isTitle x = false)
    (hw : Rd.WellFormed (A ++ (t, b) :: C)) (hk : isDataKind (kindOf t))
    (hA : ∀ tb ∈ A, ¬ isDataKind (kindOf tb.1)) (hC : ∀ tb ∈ C, ¬ isDataKind (kindOf tb.1))
    (hr : Rd.readLines o.hdr (pre ++ Rd.flat (A ++ (t, b) :: C)) = .ok h) :
    readFull o nullOf ft (pre ++ Rd.flat (A ++ (t, b) :: C)) =
      .ok ⟨h.sections, h.steer, [⟨pre.length + Rd.size A, pre.length + Rd.size A + b.length,
        readBody o.dat (dtSteer nullOf h.steer) (declaredCount h.sections) ft b (Rd.flat C)⟩]⟩ := by
  rw [readFull_of_header o nullOf ft _ h hr, readLines_data o.hdr pre _ hpre hw h hr, docData_single A C t b hk hA hC]
  obtain ⟨e, hl⟩ := doc_split pre A C t b
  simp only [List.map_cons, List.map_nil]
  rw [e, ← hl, readData_window]

/-- WHOLE FILE on the document structure. The ~Version section is the first section (body `l₁ ++ ox.toList ++ l₂`; `ox = some x`:
the DLM item line, to be replaced; `ox = none`: a line is inserted between `l₁` and `l₂`), `(t, body)` is the only data section,
no other section is a ~V section.  The second document has the line `DLM. <to> : delimiter` in that place and the body re-laid
for the delimiter `to`. -/
theorem readFull_redelim_core (o : Opts) (nullOf : Option Str → Option Str) (ft : FloatTable) (htf : TildeNotFloat ft)
    (pre : List Str) (tV : Str) (l₁ l₂ : List Str) (ox : Option Str) (eol : Str) (frm to : Dlm) (c : Nat) (seps : List Str)
    (M s₂ : List (Str × List Str)) (t : Str) (body : List Str) (r : FullRead)
    (hpre : ∀ x ∈ pre, Rd.isTitle x = false)
    (hw : Rd.WellFormed ((tV, l₁ ++ ox.toList ++ l₂) :: M ++ (t, body) :: s₂)) (hV : vTitle tV = true) (he : AllWs eol)
    (hM : ∀ tb ∈ M ++ s₂, Rd.isV tb = false ∧ ¬ isDataKind (kindOf tb.1)) (hk : isDataKind (kindOf t))
    (hx : ∀ x ∈ ox, isDlmLine o.hdr x = true) (huniq : ∀ l ∈ l₁ ++ l₂, isDlmLine o.hdr l = false)
    (hb : Base o nullOf ft (pre ++ Rd.flat ((tV, l₁ ++ ox.toList ++ l₂) :: M ++ (t, body) :: s₂)) r)
    (hfrm : (dtSteer nullOf r.steer).delimiter = frm)
    (hnb : numBody frm c body = true) (hs : SepsOK to seps)
    (hS : FtStripOn ft (normalTokens (readSubs frm) frm body))
    (hS' : FtStripOn ft (normalTokens (readSubs to) to (relayBody frm to seps body)))
    (hC : Converts ft (normalTokens (readSubs frm) frm body))
    (hag' : AgreeAlone o.dat (withDlm (dtSteer nullOf r.steer) to) (declaredCount r.sections) ft (relayBody frm to seps body)) :
    ∃ r', Base o nullOf ft
        (pre ++ Rd.flat ((tV, l₁ ++ (dlmItemLine to ++ eol) :: l₂) :: M ++ (t, relayBody frm to seps body) :: s₂)) r' ∧
      r'.steer = { r.steer with dlm := some (dlmName to) } ∧
      JRel Rd.kVersion
        (.items (Rd.bodyItems o.hdr vParser l₁ ++ (ox.bind (Rd.lineItem o.hdr vParser)).toList ++ Rd.bodyItems o.hdr vParser l₂))
        (.items (Rd.bodyItems o.hdr vParser l₁ ++ dlmItem o.hdr.mnemonicCase to :: Rd.bodyItems o.hdr vParser l₂))
        r.sections r'.sections ∧
      r.sections.lookup Rd.kVersion =
        some (.items (Rd.bodyItems o.hdr vParser l₁ ++ (ox.bind (Rd.lineItem o.hdr vParser)).toList ++
          Rd.bodyItems o.hdr vParser l₂)) ∧
      r'.sections.lookup Rd.kVersion =
        some (.items (Rd.bodyItems o.hdr vParser l₁ ++ dlmItem o.hdr.mnemonicCase to :: Rd.bodyItems o.hdr vParser l₂)) ∧
      r'.data.map (fun x => x.res.map Prod.snd) = r.data.map (fun x => x.res.map Prod.snd) := by
  have hMs : ∀ tb ∈ M, Rd.isV tb = false ∧ ¬ isDataKind (kindOf tb.1) := fun tb h => hM tb (List.mem_append_left _ h)
  have hs₂ : ∀ tb ∈ s₂, Rd.isV tb = false ∧ ¬ isDataKind (kindOf tb.1) := fun tb h => hM tb (List.mem_append_right _ h)
  have hAnd : ∀ b, ∀ tb ∈ (tV, b) :: M, ¬ isDataKind (kindOf tb.1) := fun b =>
    List.forall_mem_cons.mpr ⟨vTitle_not_data hV, fun tb h => (hMs tb h).2⟩
  obtain ⟨h, hh, -⟩ := readFull_data o nullOf ft _ r hb.read
  have hr0 := readFull_single o nullOf ft pre ((tV, _) :: M) s₂ t body h hpre hw hk (hAnd _) (fun tb h => (hs₂ tb h).2) hh
  cases hb.read.symm.trans hr0
  simp only at hfrm hag'
  subst hfrm
  have hag : AgreeAlone o.dat (dtSteer nullOf h.steer) (declaredCount h.sections) ft body := by
    have := hb.agree
    rw [parse_struct pre _ hpre hw] at this
    exact this (t, body) (List.mem_append_right _ List.mem_cons_self) hk
  -- step 1: the body re-laid
  have hh1 := readLines_relayBody o.hdr pre ((tV, l₁ ++ ox.toList ++ l₂) :: M) s₂ t body _ to c seps hpre hw hk hnb hs h hh
  have hrelB := bodyRel_relayBody _ to c seps body hnb hs
  have hynt := dlmLine_not_title to eol he
  -- from here on the new line and the new body are opaque
  generalize relayBody _ to seps body = body' at *
  generalize hy : dlmItemLine to ++ eol = y at *
  have hw1 : Rd.WellFormed ((tV, l₁ ++ ox.toList ++ l₂) :: M ++ (t, body') :: s₂) :=
    wellFormed_replace hw (numBodyD_no_title (bodyRel_numBodyD hrelB).2)
  have hw2 : Rd.WellFormed ((tV, l₁ ++ y :: l₂) :: M ++ (t, body') :: s₂) :=
    wellFormed_replace (A := []) hw1 (forall_mem_replace (hw1 _ List.mem_cons_self).2 hynt)
  -- step 2: the DLM item
  obtain ⟨secs', hr2, _, hrel, hl1, hl2⟩ :=
    readLines_dlm o.hdr pre tV l₁ l₂ ox eol to (M ++ (t, body') :: s₂) hpre hw1 hV he
      (List.forall_mem_append.mpr ⟨fun tb h => (hMs tb h).1,
        List.forall_mem_cons.mpr ⟨dataKind_not_isV t _ hk, fun tb h => (hs₂ tb h).1⟩⟩) hx huniq h hh1
  rw [hy] at hr2
  have hr2' := readFull_single o nullOf ft pre ((tV, _) :: M) s₂ t body' _ hpre hw2 hk (hAnd _) (fun tb h => (hs₂ tb h).2) hr2
  have hst : dtSteer nullOf { h.steer with dlm := some (dlmName to) } = withDlm (dtSteer nullOf h.steer) to := by
    simp only [dtSteer, withDlm, dlmOf_dlmName]
  simp only [jrel_declaredCount Rd.kVersion _ _ _ _ hrel (Or.inl (by decide)), hst] at hr2'
  refine ⟨_, ⟨hr2', ?_⟩, rfl, hrel, hl1, hl2, ?_⟩
  · rw [parse_struct pre _ hpre hw2]
    intro tb htb hkk
    simp only [jrel_declaredCount Rd.kVersion _ _ _ _ hrel (Or.inl (by decide)), hst]
    rcases List.mem_append.mp htb with h1 | h1
    · exact absurd hkk (hAnd _ tb h1)
    · rcases List.mem_cons.mp h1 with rfl | h1
      · exact hag'
      · exact absurd hkk (hs₂ tb h1).2
  · have hafter := afterOK_flat ft htf s₂ (wellFormed_tail (wellFormed_append_right hw))
    simp only [List.map_cons, List.map_nil]
    rw [readBody_alone _ _ _ ft _ _ hafter hag, readBody_alone _ _ _ ft _ _ hafter hag',
      normalRead_rel o.dat (dtSteer nullOf h.steer) to _ ft hrelB hS hS' hC]


/-! ### the document `redelim` produces, on the document structure -/

theorem terminate_of_last (d : Doc) (h : ∀ x, d.getLast? = some x → x.getLast? = some '\n') : terminate d = d := by
  induction d with
  | nil => rfl
  | cons a rest ih =>
    cases rest with
    | nil =>
      have := h a rfl
      simp [terminate, termLine, this]
    | cons b rest' =>
      simp only [terminate]
      rw [ih (fun x hx => h x (by simpa [List.getLast?_cons_cons] using hx))]

theorem flat_cons_head (tV : Str) (bV : List Str) (M : List (Str × List Str)) :
    Rd.flat ((tV, bV) :: M) = tV :: (bV ++ Rd.flat M) := by simp [Rd.flat]

/-- REPLACE: line `vk = |pre| + 1 + |l₁|` is the line `x` of the ~Version body -/
theorem redelim_struct_replace (pre : List Str) (tV : Str) (l₁ l₂ : List Str) (x : Str) (M s₂ : List (Str × List Str)) (t : Str)
    (body : List Str) (frm to : Dlm) (seps : List Str) :
    redelim (pre.length + Rd.size ((tV, l₁ ++ x :: l₂) :: M)) (pre.length + Rd.size ((tV, l₁ ++ x :: l₂) :: M) + body.length)
        (pre.length + 1 + l₁.length) true frm to seps (pre ++ Rd.flat ((tV, l₁ ++ x :: l₂) :: M ++ (t, body) :: s₂)) =
      pre ++ Rd.flat ((tV, l₁ ++ (dlmItemLine to ++ (splitEol x).2) :: l₂) :: M ++ (t, relayBody frm to seps body) :: s₂) := by
  have e := fun bV b => (doc_split pre ((tV, bV) :: M) s₂ t b).1
  have hA := (doc_split pre ((tV, l₁ ++ x :: l₂) :: M) s₂ t body).2
  have hvk : pre.length + 1 + l₁.length < (pre ++ Rd.flat ((tV, l₁ ++ x :: l₂) :: M)).length := by
    simp [flat_cons_head]; omega
  rw [e, ← hA, redelim_window _ t body (Rd.flat s₂) _ true frm to seps (Nat.le_of_lt hvk) (fun _ => hvk), e]
  congr 1
  unfold redelimHead
  simp only [if_true]
  have e2 : ∀ z, pre ++ Rd.flat ((tV, l₁ ++ z :: l₂) :: M) = (pre ++ tV :: l₁) ++ z :: (l₂ ++ Rd.flat M) := by
    intro z; simp [flat_cons_head]
  have hl : pre.length + 1 + l₁.length = (pre ++ tV :: l₁).length + 0 := by simp; omega
  rw [e2, e2, hl, mapAt_append_right]
  rfl

/-- INSERT: the new line goes before line `vk = |pre| + 1 + |l₁|` (between `l₁` and `l₂` of the ~Version body); the line
before it ends with a line feed -/
theorem redelim_struct_insert (pre : List Str) (tV : Str) (l₁ l₂ : List Str) (M s₂ : List (Str × List Str)) (t : Str)
    (body : List Str) (frm to : Dlm) (seps : List Str)
    (hterm : ∀ x, (tV :: l₁).getLast? = some x → x.getLast? = some '\n') :
    redelim (pre.length + Rd.size ((tV, l₁ ++ l₂) :: M)) (pre.length + Rd.size ((tV, l₁ ++ l₂) :: M) + body.length)
        (pre.length + 1 + l₁.length) false frm to seps (pre ++ Rd.flat ((tV, l₁ ++ l₂) :: M ++ (t, body) :: s₂)) =
      pre ++ Rd.flat ((tV, l₁ ++ (dlmItemLine to ++ nl) :: l₂) :: M ++ (t, relayBody frm to seps body) :: s₂) := by
  have e := fun bV b => (doc_split pre ((tV, bV) :: M) s₂ t b).1
  have hA := (doc_split pre ((tV, l₁ ++ l₂) :: M) s₂ t body).2
  have hvk : pre.length + 1 + l₁.length ≤ (pre ++ Rd.flat ((tV, l₁ ++ l₂) :: M)).length := by
    simp [flat_cons_head]; omega
  rw [e, ← hA, redelim_window _ t body (Rd.flat s₂) _ false frm to seps hvk (fun h => by cases h), e]
  congr 1
  unfold redelimHead insLine
  simp only [Bool.false_eq_true, if_false]
  have e2 : pre ++ Rd.flat ((tV, l₁ ++ l₂) :: M) = (pre ++ tV :: l₁) ++ (l₂ ++ Rd.flat M) := by simp [flat_cons_head]
  have hl : pre.length + 1 + l₁.length = (pre ++ tV :: l₁).length := by simp; omega
  rw [e2, hl, List.take_left, List.drop_left]
  rw [terminate_of_last]
  · simp [flat_cons_head]
  · intro x hx
    apply hterm x
    rw [← hx, List.getLast?_append]
    cases hh : (tV :: l₁).getLast? with
    | none => simp at hh
    | some z => rfl

end Lasio.Tf

#print axioms Lasio.Tf.readLines_dlm
#print axioms Lasio.Tf.readFull_redelim_core
#print axioms Lasio.Tf.redelim_struct_replace
#print axioms Lasio.Tf.redelim_struct_insert
