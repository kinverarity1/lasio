import LasioModel.Basic
/-
Python's `str.upper` / `str.lower` on the modelled alphabet, by code-point ranges (`upperN`, `lowerN`): idempotence, `upper ∘ lower = upper`,
the case analyses `upperC_cases` / `lowerC_cases`, and that both only move letters to letters (`Cy.LetterMap`).
-/
namespace Lasio

theorem toNat_ofNat_valid (n : Nat) (hv : n.isValidChar) : (Char.ofNat n).toNat = n := by
  unfold Char.ofNat
  simp only [hv, dite_true]
  simp [Char.ofNatAux, Char.toNat]

/-- `upperC` / `lowerC` on code points: the ranges of `LasioModel/Basic.lean`, the tests written as propositions for `omega` -/
def upperN (n : Nat) : Nat :=
  if 0x61 ≤ n ∧ n ≤ 0x7A then n - 0x20
  else if (0xE0 ≤ n ∧ n ≤ 0xFE) ∧ n ≠ 0xF7 then n - 0x20
  else if 0x430 ≤ n ∧ n ≤ 0x44F then n - 0x20
  else if 0x450 ≤ n ∧ n ≤ 0x45F then n - 0x50
  else if (0x3B1 ≤ n ∧ n ≤ 0x3C9) ∧ n ≠ 0x3C2 then n - 0x20
  else n

def lowerN (n : Nat) : Nat :=
  if 0x41 ≤ n ∧ n ≤ 0x5A then n + 0x20
  else if (0xC0 ≤ n ∧ n ≤ 0xDE) ∧ n ≠ 0xD7 then n + 0x20
  else if 0x410 ≤ n ∧ n ≤ 0x42F then n + 0x20
  else if 0x400 ≤ n ∧ n ≤ 0x40F then n + 0x50
  else if (0x391 ≤ n ∧ n ≤ 0x3A9) ∧ n ≠ 0x3A2 then n + 0x20
  else n

theorem upperC_eq (c : Char) : upperC c = Char.ofNat (upperN c.toNat) := by
  simp only [upperC, upperN, apply_ite Char.ofNat, Char.ofNat_toNat, Bool.and_eq_true, decide_eq_true_eq,
    bne_iff_ne, ne_eq]

theorem lowerC_eq (c : Char) : lowerC c = Char.ofNat (lowerN c.toNat) := by
  simp only [lowerC, lowerN, apply_ite Char.ofNat, Char.ofNat_toNat, Bool.and_eq_true, decide_eq_true_eq,
    bne_iff_ne, ne_eq]

/-- `n` is outside the five ranges that `upperN` moves -/
def notLowerN (n : Nat) : Prop :=
  ¬ (0x61 ≤ n ∧ n ≤ 0x7A) ∧ ¬ ((0xE0 ≤ n ∧ n ≤ 0xFE) ∧ n ≠ 0xF7) ∧ ¬ (0x430 ≤ n ∧ n ≤ 0x44F) ∧
    ¬ (0x450 ≤ n ∧ n ≤ 0x45F) ∧ ¬ ((0x3B1 ≤ n ∧ n ≤ 0x3C9) ∧ n ≠ 0x3C2)

theorem upperN_fix (n : Nat) (h : notLowerN n) : upperN n = n := by
  rw [upperN, if_neg h.1, if_neg h.2.1, if_neg h.2.2.1, if_neg h.2.2.2.1, if_neg h.2.2.2.2]

/-- every image of `upperN` lies outside the ranges it moves: the five target ranges are disjoint from them -/
theorem upperN_notLower (n : Nat) : notLowerN (upperN n) := by
  unfold upperN notLowerN
  split
  · omega
  split
  · omega
  split
  · omega
  split
  · omega
  split
  · omega
  · omega

theorem upperN_idem (n : Nat) : upperN (upperN n) = upperN n := upperN_fix _ (upperN_notLower n)

/-- a code point that `lowerN` moves is fixed by `upperN`, and its image is moved back by the matching branch of
`upperN` -/
theorem upperN_lowerN (n : Nat) : upperN (lowerN n) = upperN n := by
  unfold lowerN
  split
  · rw [upperN_fix n (by unfold notLowerN; omega), upperN, if_pos (by omega)]
    omega
  split
  · rw [upperN_fix n (by unfold notLowerN; omega), upperN, if_neg (by omega), if_pos (by omega)]
    omega
  split
  · rw [upperN_fix n (by unfold notLowerN; omega), upperN, if_neg (by omega), if_neg (by omega), if_pos (by omega)]
    omega
  split
  · rw [upperN_fix n (by unfold notLowerN; omega), upperN, if_neg (by omega), if_neg (by omega), if_neg (by omega),
      if_pos (by omega)]
    omega
  split
  · rw [upperN_fix n (by unfold notLowerN; omega), upperN, if_neg (by omega), if_neg (by omega), if_neg (by omega),
      if_neg (by omega), if_pos (by omega)]
    omega
  · rfl

theorem ite_le {p : Prop} [Decidable p] {a b c : Nat} (ha : a ≤ c) (hb : b ≤ c) : ite p a b ≤ c := by
  split
  · exact ha
  · exact hb

theorem upperN_le (n : Nat) : upperN n ≤ n := by
  unfold upperN
  exact ite_le (Nat.sub_le _ _) (ite_le (Nat.sub_le _ _) (ite_le (Nat.sub_le _ _) (ite_le (Nat.sub_le _ _)
    (ite_le (Nat.sub_le _ _) (Nat.le_refl _)))))

theorem lowerN_le (n : Nat) : lowerN n ≤ n + 0x50 := by
  unfold lowerN
  exact ite_le (by omega) (ite_le (by omega) (ite_le (by omega) (ite_le (by omega)
    (ite_le (by omega) (by omega)))))

theorem lowerN_big (n : Nat) (h : 0x460 ≤ n) : lowerN n = n := by
  rw [lowerN, if_neg (by omega), if_neg (by omega), if_neg (by omega), if_neg (by omega), if_neg (by omega)]

/-- below `0x460` the images stay below the surrogates; from there on nothing moves -/
theorem upperN_valid (n : Nat) (h : n.isValidChar) : (upperN n).isValidChar := by
  by_cases hn : n < 0x460
  · exact Or.inl (Nat.lt_of_le_of_lt (upperN_le n) (Nat.lt_trans hn (by decide)))
  · rw [upperN_fix n (by unfold notLowerN; omega)]
    exact h

theorem lowerN_valid (n : Nat) (h : n.isValidChar) : (lowerN n).isValidChar := by
  by_cases hn : n < 0x460
  · exact Or.inl (Nat.lt_of_le_of_lt (lowerN_le n) (by omega))
  · rw [lowerN_big n (by omega)]
    exact h

/-- `c.upper().upper() == c.upper()` on the modelled alphabet (all of `Char` for the model's `upperC`) -/
theorem upperC_idem (c : Char) : upperC (upperC c) = upperC c := by
  rw [upperC_eq (upperC c), upperC_eq c, toNat_ofNat_valid _ (upperN_valid c.toNat c.valid), upperN_idem]

/-- `c.lower().upper() == c.upper()` -/
theorem upperC_lowerC (c : Char) : upperC (lowerC c) = upperC c := by
  rw [upperC_eq (lowerC c), lowerC_eq c, toNat_ofNat_valid _ (lowerN_valid c.toNat c.valid), upperN_lowerN,
    ← upperC_eq]

theorem upper_idem (s : Str) : upper (upper s) = upper s := by
  simp [upper, upperC_idem]

theorem upper_lower (s : Str) : upper (lower s) = upper s := by
  simp [upper, lower, upperC_lowerC]

theorem toNat_ofNat_small (k : Nat) (h : k < 0xD800) : (Char.ofNat k).toNat = k := by
  have hv : k.isValidChar := Or.inl h
  simp [Char.ofNat, hv, Char.toNat, Char.ofNatAux]

def InLower (n : Nat) : Prop :=
  (0x61 ≤ n ∧ n ≤ 0x7A) ∨ (0xE0 ≤ n ∧ n ≤ 0xFE ∧ n ≠ 0xF7) ∨ (0x430 ≤ n ∧ n ≤ 0x44F) ∨
  (0x3B1 ≤ n ∧ n ≤ 0x3C9 ∧ n ≠ 0x3C2)

theorem upperC_cases (c : Char) :
    (InLower c.toNat ∧ upperC c = Char.ofNat (c.toNat - 0x20)) ∨
    ((0x450 ≤ c.toNat ∧ c.toNat ≤ 0x45F) ∧ upperC c = Char.ofNat (c.toNat - 0x50)) ∨
    (¬ InLower c.toNat ∧ ¬ (0x450 ≤ c.toNat ∧ c.toNat ≤ 0x45F) ∧ upperC c = c) := by
  rw [upperC_eq]
  unfold upperN InLower
  split
  · exact Or.inl ⟨by omega, rfl⟩
  split
  · exact Or.inl ⟨by omega, rfl⟩
  split
  · exact Or.inl ⟨by omega, rfl⟩
  split
  · exact Or.inr (Or.inl ⟨by omega, rfl⟩)
  split
  · exact Or.inl ⟨by omega, rfl⟩
  · exact Or.inr (Or.inr ⟨by omega, by omega, Char.ofNat_toNat c⟩)

theorem upperC_fix (d : Char) (h1 : ¬ InLower d.toNat) (h2 : ¬ (0x450 ≤ d.toNat ∧ d.toNat ≤ 0x45F)) :
    upperC d = d := by
  rcases upperC_cases d with ⟨h, _⟩ | ⟨h, _⟩ | ⟨_, _, h⟩
  · exact absurd h h1
  · exact absurd h h2
  · exact h

theorem upperC_fix_ofNat (k : Nat) (hk : k < 0xD800) (h1 : ¬ InLower k) (h2 : ¬ (0x450 ≤ k ∧ k ≤ 0x45F)) :
    upperC (Char.ofNat k) = Char.ofNat k := by
  apply upperC_fix <;> rw [toNat_ofNat_small k hk] <;> assumption

def InUpper (n : Nat) : Prop :=
  (0x41 ≤ n ∧ n ≤ 0x5A) ∨ (0xC0 ≤ n ∧ n ≤ 0xDE ∧ n ≠ 0xD7) ∨ (0x410 ≤ n ∧ n ≤ 0x42F) ∨
  (0x391 ≤ n ∧ n ≤ 0x3A9 ∧ n ≠ 0x3A2)

theorem lowerC_cases (c : Char) :
    (InUpper c.toNat ∧ lowerC c = Char.ofNat (c.toNat + 0x20)) ∨
    ((0x400 ≤ c.toNat ∧ c.toNat ≤ 0x40F) ∧ lowerC c = Char.ofNat (c.toNat + 0x50)) ∨
    (lowerC c = c) := by
  rw [lowerC_eq]
  unfold lowerN InUpper
  split
  · exact Or.inl ⟨by omega, rfl⟩
  split
  · exact Or.inl ⟨by omega, rfl⟩
  split
  · exact Or.inl ⟨by omega, rfl⟩
  split
  · exact Or.inr (Or.inl ⟨by omega, rfl⟩)
  split
  · exact Or.inl ⟨by omega, rfl⟩
  · exact Or.inr (Or.inr (Char.ofNat_toNat c))

end Lasio

namespace Lasio.Cy

open Lasio

/-! ## `upper` / `lower` never create or destroy blanks or the marker characters -/

/-- code points that `upperC` / `lowerC` move, and the code points they move them to -/
def LetterCode (k : Nat) : Prop :=
  (0x41 ≤ k ∧ k ≤ 0x5A) ∨ (0x61 ≤ k ∧ k ≤ 0x7A) ∨ (0xC0 ≤ k ∧ k ≤ 0xFE) ∨ (0x391 ≤ k ∧ k ≤ 0x3C9) ∨
  (0x400 ≤ k ∧ k ≤ 0x45F)

/-- a character map that only moves letters to letters -/
def LetterMap (f : Char → Char) : Prop := ∀ c, f c = c ∨ (LetterCode c.toNat ∧ LetterCode (f c).toNat)

theorem upperC_letterMap : LetterMap upperC := by
  intro c
  rcases upperC_cases c with ⟨h, e⟩ | ⟨h, e⟩ | ⟨_, _, e⟩
  · right
    unfold InLower at h
    rw [e, toNat_ofNat_small _ (by omega)]
    unfold LetterCode
    constructor <;> omega
  · right
    rw [e, toNat_ofNat_small _ (by omega)]
    unfold LetterCode
    constructor <;> omega
  · exact Or.inl e

theorem lowerC_letterMap : LetterMap lowerC := by
  intro c
  rcases lowerC_cases c with ⟨h, e⟩ | ⟨h, e⟩ | e
  · right
    unfold InUpper at h
    rw [e, toNat_ofNat_small _ (by omega)]
    unfold LetterCode
    constructor <;> omega
  · right
    rw [e, toNat_ofNat_small _ (by omega)]
    unfold LetterCode
    constructor <;> omega
  · exact Or.inl e

theorem isPySpace_letter (c : Char) (h : LetterCode c.toNat) : isPySpace c = false := by
  unfold LetterCode at h
  unfold isPySpace
  simp only [Bool.or_eq_false_iff, Bool.and_eq_false_iff, decide_eq_false_iff_not, beq_eq_false_iff_ne, ne_eq]
  omega

theorem letterMap_space {f : Char → Char} (hf : LetterMap f) (c : Char) : isPySpace (f c) = isPySpace c := by
  rcases hf c with e | ⟨h1, h2⟩
  · rw [e]
  · rw [isPySpace_letter _ h1, isPySpace_letter _ h2]

theorem letterMap_eq {f : Char → Char} (hf : LetterMap f) (c x : Char) (hx : ¬ LetterCode x.toNat) :
    f c = x ↔ c = x := by
  constructor
  · intro h
    rcases hf c with e | ⟨_, h2⟩
    · rw [← e, h]
    · rw [h] at h2; exact absurd h2 hx
  · intro h
    subst h
    rcases hf c with e | ⟨h1, _⟩
    · exact e
    · exact absurd h1 hx

theorem notLetter_marks : ¬ LetterCode '.'.toNat ∧ ¬ LetterCode ':'.toNat ∧ ¬ LetterCode '#'.toNat ∧
    ¬ LetterCode '~'.toNat := by
  unfold LetterCode
  refine ⟨?_, ?_, ?_, ?_⟩ <;> decide

theorem lowerC_idem (c : Char) : lowerC (lowerC c) = lowerC c := by
  have fix : ∀ d : Char, ¬ InUpper d.toNat → ¬ (0x400 ≤ d.toNat ∧ d.toNat ≤ 0x40F) → lowerC d = d := by
    intro d h1 h2
    rcases lowerC_cases d with ⟨h, _⟩ | ⟨h, _⟩ | h
    · exact absurd h h1
    · exact absurd h h2
    · exact h
  rcases lowerC_cases c with ⟨h, e⟩ | ⟨h, e⟩ | e
  · rw [e]
    unfold InUpper at h
    apply fix <;> rw [toNat_ofNat_small _ (by omega)] <;> (try unfold InUpper) <;> omega
  · rw [e]
    apply fix <;> rw [toNat_ofNat_small _ (by omega)] <;> (try unfold InUpper) <;> omega
  · rw [e, e]

end Lasio.Cy
