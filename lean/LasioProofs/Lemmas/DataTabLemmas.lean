import LasioProofs.Lemmas.DataLemmas
/-
Helper lemmas for Props/C02Tab: the data-section model on files that declare `DLM TAB` (`Dlm.tab`).

`splitTab` (`sot_regex.findall`) separates items at TAB characters only — a blank is an ordinary item character for it — so the
domain is narrowed: the tokens of a data line are separated by non-empty runs of TABs (`TabCore`); the padding around the line may
still be any whitespace, because `cleanLine` strips it.  Everything the TAB domain implies for the default domain (`Core`, `RowLine`,
`Body`, `PlainData`) is obtained through the implications `TabCore.toCore`, …, `TabPlainData.toPlain`, so that the lemmas about the
numpy engine (which never looks at the delimiter) and about cleaning/substitutions are reused unchanged.
-/
namespace Lasio.Dt

/-! ### TAB runs -/

def AllTab (s : Str) : Prop := ∀ c ∈ s, c = '\t'

theorem allTab_allWs {s : Str} (h : AllTab s) : AllWs s := by
  intro c hc
  rw [h c hc]
  decide

def TabHead (s : Str) : Prop := s = [] ∨ ∃ r, s = '\t' :: r

theorem tabHead_of_allTab_append (a b : Str) (ha : AllTab a) (hne : a ≠ []) : TabHead (a ++ b) := by
  cases a with
  | nil => exact absurd rfl hne
  | cons w r =>
    have : w = '\t' := ha w (by simp)
    subst this
    exact Or.inr ⟨r ++ b, rfl⟩

theorem tokChar_ne_tab (c : Char) (h : tokChar c = true) : (c == '\t') = false := by
  have h1 := (tokChar_parts c h).1
  rw [beq_eq_false_iff_ne]
  intro e
  subst e
  exact absurd h1 (by decide)

/-! ### the `findall` scanner of `splitTab` on TAB-separated tokens -/

/-- the item regex of `sot_regex` never starts on a TAB -/
theorem mSplitTab_tab (r : Str) : mSplit (· == '\t') ('\t' :: r) = none := by
  have h1 : ('\t' == '"') = false := by decide
  have h2 : ('\t' == '\'') = false := by decide
  simp [mSplit, h1, h2]

/-- the item regex of `sot_regex` takes a whole token when a TAB (or the end) follows -/
theorem mSplitTab_takes (c : Char) (t tail : Str) (hc : ∀ x ∈ c :: t, tokChar x = true) (hw : TabHead tail) :
    mSplit (· == '\t') (c :: t ++ tail) = some (c :: t, t.length) :=
  mSplit_takes_run _ c t tail
    (fun x hx => have p := tokChar_parts x (hc x hx); ⟨tokChar_ne_tab x (hc x hx), p.2.1, p.2.2.1⟩)
    (hw.imp id fun ⟨r, e⟩ => ⟨'\t', r, e, rfl⟩)

theorem scanTok_allTab (a r : Str) (ha : AllTab a) :
    scanTok (mSplit (· == '\t')) 0 (a ++ r) = scanTok (mSplit (· == '\t')) 0 r := by
  induction a with
  | nil => rfl
  | cons w a ih =>
    have : w = '\t' := ha w (by simp)
    subst this
    simp only [List.cons_append, scanTok, mSplitTab_tab]
    exact ih (fun c hc => ha c (by simp [hc]))

/-! ### TAB-separated rows -/

/-- `TabCore toks s`: `s` is the quiet tokens `toks` (at least one) separated by non-empty runs of TAB characters -/
inductive TabCore : List Str → Str → Prop
  | one {t : Str} : QuietTok t → TabCore [t] t
  | cons {t sep rest : Str} {ts : List Str} :
      QuietTok t → sep ≠ [] → (∀ c ∈ sep, c = '\t') → TabCore ts rest → TabCore (t :: ts) (t ++ (sep ++ rest))

theorem TabCore.toCore {toks : List Str} {s : Str} (h : TabCore toks s) : Core toks s := by
  induction h with
  | one ht => exact Core.one ht
  | cons ht hne hsep _ ih => exact Core.cons ht hne (allTab_allWs hsep) ih

/-- **`sot_regex.findall` on a TAB-separated row gives its tokens** -/
theorem splitTab_tabCore {toks : List Str} {s : Str} (h : TabCore toks s) : splitTab s = toks := by
  unfold splitTab
  induction h with
  | @one t ht =>
    obtain ⟨c, cs, rfl⟩ := List.exists_cons_of_ne_nil ht.ne
    have := scanTok_take _ c cs [] (mSplitTab_takes c cs [] ht.chars (Or.inl rfl))
    rwa [List.append_nil] at this
  | @cons t sep rest ts ht hne hsep _ ih =>
    obtain ⟨c, cs, rfl⟩ := List.exists_cons_of_ne_nil ht.ne
    rw [scanTok_take _ c cs _ (mSplitTab_takes c cs _ ht.chars (tabHead_of_allTab_append _ _ hsep hne)),
      scanTok_allTab sep _ hsep, ih]

/-! ### lines of the body -/

/-- a data line of a `DLM TAB` file: optional blanks, the tokens `toks` separated by TABs, optional blanks (line end included) -/
def TabRowLine (toks : List Str) (ln : Str) : Prop :=
  ∃ pre core post, AllWs pre ∧ AllWs post ∧ TabCore toks core ∧ ln = pre ++ (core ++ post)

theorem TabRowLine.toRowLine {toks : List Str} {ln : Str} (h : TabRowLine toks ln) : RowLine toks ln := by
  obtain ⟨pre, core, post, hpre, hpost, hcore, e⟩ := h
  exact ⟨pre, core, post, hpre, hpost, hcore.toCore, e⟩

theorem tabRowLine_clean {toks : List Str} {ln : Str} (h : TabRowLine toks ln) :
    ∃ core, TabCore toks core ∧ cleanLine ln = core := by
  obtain ⟨pre, core, post, hpre, hpost, hcore, rfl⟩ := h
  exact ⟨core, hcore, cleanLine_sandwich pre core post hpre hpost (core_solid hcore.toCore)⟩

theorem TabRowLine.lineToks {toks : List Str} {ln : Str} (h : TabRowLine toks ln) : LineToks .tab toks ln := by
  obtain ⟨core, hcore, hcl⟩ := tabRowLine_clean h
  exact lineToks_of_core hcl hcore.toCore (splitTab_tabCore hcore)

/-! ### the domain -/

/-- `TabBody c body rows`: the body lines are blank lines, comment lines and data lines of `c` TAB-separated quiet tokens -/
inductive TabBody (c : Nat) : List Str → List (List Str) → Prop
  | nil : TabBody c [] []
  | skip {ln : Str} {ls : List Str} {rows : List (List Str)} : SkipLine ln → TabBody c ls rows → TabBody c (ln :: ls) rows
  | row {ln : Str} {toks : List Str} {ls : List Str} {rows : List (List Str)} :
      TabRowLine toks ln → toks.length = c → TabBody c ls rows → TabBody c (ln :: ls) (toks :: rows)

theorem TabBody.toBody {c : Nat} {body : List Str} {rows : List (List Str)} (h : TabBody c body rows) : Body c body rows := by
  induction h with
  | nil => exact Body.nil
  | skip hs _ ih => exact Body.skip hs ih
  | row hr hl _ ih => exact Body.row hr.toRowLine hl ih

structure TabPlainData (ft : FloatTable) (body after : List Str) (c : Nat) (rows : List (List Str)) : Prop where
  body : TabBody c body rows
  cpos : 0 < c
  rne : rows ≠ []
  /-- end of file, or a next line whose first token is not a number (a `~` title line) -/
  next : after = [] ∨ ∃ ln rest t ts, after = ln :: rest ∧ npTokens ln = t :: ts ∧ toFloat ft t = none

theorem TabPlainData.toPlain {ft : FloatTable} {body after : List Str} {c : Nat} {rows : List (List Str)}
    (h : TabPlainData ft body after c rows) : PlainData ft body after c rows :=
  ⟨h.body.toBody, h.cpos, h.rne, h.next⟩

theorem TabBody.lineRows {c : Nat} {body : List Str} {rows : List (List Str)} (h : TabBody c body rows) :
    LineRows .tab c body rows := by
  induction h with
  | nil => exact .nil
  | skip hs _ ih => exact .skip hs ih
  | row hr hl _ ih => exact .row hr.lineToks hl ih

/-- what `readData` starts the sniffer with in a `DLM TAB` file: the default substitutions -/
theorem readSubs_tab : readSubs .tab = Subs.default := rfl

end Lasio.Dt
