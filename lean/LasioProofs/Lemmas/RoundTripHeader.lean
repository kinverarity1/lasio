import LasioModel.Writer
import LasioModel.Reader
import LasioProofs.Lemmas.WriterLemmas
import LasioProofs.Lemmas.ReaderLemmas
import LasioProofs.Props.C05
/-
Bridge between the header WRITER model (`Lasio.Wr`, LasioModel/Writer.lean) and the whole-file header READER model
(`Lasio.Rd`, LasioModel/Reader.lean): the lines `Wr.headerLines` produces are a well-formed document of `Rd`, the
reader's per-line function computes what `Wr.readItem` computes, and reading the five written sections one after the
other stores under "Version" / "Well" / "Curves" / "Parameter" / "Other" what `Wr.readSection` reads back from each
section's own lines.  Property theorems (`C03_…`) are stated in Props/C03.lean.
-/
namespace Lasio.RH

open Lasio

/-! ## the order tables of the two models -/

def flatOrders (rows : List (String × List String)) : List (Str × Str) :=
  rows.flatMap fun om => om.2.map fun m => (m.toList, om.1.toList)

theorem beq_toList (a b : String) : (a.toList == b.toList) = (a == b) := by
  rw [Bool.eq_iff_iff]; simp [String.toList_inj]

theorem orderTable_eq (v s : String) :
    Rd.orderTable v.toList s = (Wr.sectionOrders v s).map fun dr => (dr.1.toList, flatOrders dr.2) := by
  unfold Rd.orderTable Wr.sectionOrders Wr.versionRows
  rw [List.find?_filter]
  have : (fun r : String × String × String × List (String × List String) => r.1.toList == v.toList && r.2.1 == s) =
      (fun a => decide ((a.fst == v) = true ∧ (a.snd.fst == s) = true)) := by
    funext r; rw [beq_toList, Bool.eq_iff_iff]; simp
  rw [this]
  cases Generated.orderDefinitions.find? (fun a => decide ((a.fst == v) = true ∧ (a.snd.fst == s) = true)) with
  | none => rfl
  | some r => rfl

theorem table_lookup_agree :
    Generated.orderDefinitions.all (fun r => r.2.2.2.all (fun row => row.2.all (fun k =>
      (flatOrders r.2.2.2).lookup k.toList == (Wr.ordersGet r.2.2.2 k.toList).map String.toList))) = true := by
  decide +kernel

theorem lookup_flat_none (rows : List (String × List String)) (m : Str)
    (h : ∀ r ∈ rows, ∀ k ∈ r.2, k.toList ≠ m) : (flatOrders rows).lookup m = none := by
  rw [List.lookup_eq_none_iff]
  intro p hp
  obtain ⟨r, hr, hp⟩ := List.mem_flatMap.mp hp
  obtain ⟨k, hk, rfl⟩ := List.mem_map.mp hp
  simpa using fun e => h r hr k hk e.symm

theorem ordersGet_none (rows : List (String × List String)) (m : Str)
    (h : ∀ r ∈ rows, ∀ k ∈ r.2, k.toList ≠ m) : Wr.ordersGet rows m = none := by
  cases hg : Wr.ordersGet rows m with
  | none => rfl
  | some s =>
    obtain ⟨r, hr, _, x, hx, hxm⟩ := Wr.ordersGet_mem rows m s hg
    exact absurd hxm (h r hr x hx)

/-- first-match lookup in the flattened list (reader model) = last-row-wins dict (writer model), on a table whose
listed keys agree -/
theorem lookup_eq_ordersGet (rows : List (String × List String))
    (hag : rows.all (fun row => row.2.all (fun k =>
      (flatOrders rows).lookup k.toList == (Wr.ordersGet rows k.toList).map String.toList)) = true) (m : Str) :
    (flatOrders rows).lookup m = (Wr.ordersGet rows m).map String.toList := by
  by_cases hex : ∃ r ∈ rows, ∃ k ∈ r.2, k.toList = m
  · obtain ⟨r, hr, k, hk, rfl⟩ := hex
    have := List.all_eq_true.mp (List.all_eq_true.mp hag r hr) k hk
    simpa using this
  · have hn : ∀ r ∈ rows, ∀ k ∈ r.2, k.toList ≠ m := by
      intro r hr k hk e; exact hex ⟨r, hr, k, hk, e⟩
    rw [lookup_flat_none rows m hn, ordersGet_none rows m hn]; rfl

/-- the two-step lookup of `SectionParser.metadata` in both models -/
theorem lookup2_eq (rows : List (String × List String)) (d : String)
    (hag : rows.all (fun row => row.2.all (fun k =>
      (flatOrders rows).lookup k.toList == (Wr.ordersGet rows k.toList).map String.toList)) = true) (m : Str) :
    ((flatOrders rows).lookup m).getD (((flatOrders rows).lookup (upper m)).getD d.toList) =
      ((Wr.ordersGet2 rows m).getD d).toList := by
  rw [lookup_eq_ordersGet rows hag, lookup_eq_ordersGet rows hag]
  unfold Wr.ordersGet2
  cases Wr.ordersGet rows m with
  | some s => rfl
  | none =>
    cases Wr.ordersGet rows (upper m) <;> rfl

/-! ## one item: the parser object of the reader and `Wr.readItem` -/

def cvtCase : Rd.MCase → Wr.MCase
  | .upper => .upper | .lower => .lower | .preserve => .preserve

def toRd (r : Wr.RItem) : Rd.RItem := ⟨r.name, r.unit, r.value, r.descr⟩

def cvtRes : Wr.LineRes → Rd.LineRes
  | .skip => .skip | .stop => .title | .error => .bad | .item r => .item (toRd r)

theorem applyCase_eq (c : Rd.MCase) (s : Str) : Rd.applyCase c s = Wr.caseMap (cvtCase c) s := by
  cases c <;> rfl

theorem stripBrackets_eq (x : Str) : Rd.stripBrackets x = Wr.stripBrackets x := by
  unfold Rd.stripBrackets Wr.stripBrackets Wr.isBracketed
  simp only
  cases hs : strip x with
  | nil => rfl
  | cons a t =>
    obtain ⟨b, hb⟩ : ∃ b, (a :: t).getLast? = some b := ⟨(a :: t).getLast (by simp), List.getLast?_eq_some_getLast _⟩
    simp only [List.head?_cons, hb]
    simp

def pkindOf : SecName → Rd.PKind
  | .curves => .curves | .parameter => .params | _ => .metadata

/-- the `SectionParser` of a section of kind `kind` under version `v`, in terms of the writer model's table access -/
def parserOf (v : String) (kind : SecName) : Rd.Parser :=
  match Wr.sectionOrders v (Wr.secKey kind) with
  | some dr => ⟨pkindOf kind, kind, dr.1.toList, flatOrders dr.2⟩
  | none => ⟨pkindOf kind, kind, Rd.valueDescr, []⟩

theorem parseOrder_cases (x : String) :
    (x.toList == Rd.valueDescr) = (Wr.parseOrder x == some .valueDescr) ∧
    (x.toList == Rd.descrValue) = (Wr.parseOrder x == some .descrValue) := by
  unfold Wr.parseOrder Rd.valueDescr Rd.descrValue
  rw [beq_toList, beq_toList]
  by_cases h1 : x = "value:descr"
  · subst h1; decide
  · by_cases h2 : x = "descr:value"
    · subst h2; decide
    · simp [h1, h2]

theorem readItem_bridge (v : String) (kind : SecName) (hk : kind ≠ .other)
    (hso : (Wr.sectionOrders v (Wr.secKey kind)).isSome = true) (c : Rd.MCase) (s : Str) :
    (parseHeaderLine kind s).map (fun f => Rd.mkItem' (parserOf v kind) { f with name := Rd.applyCase c f.name }) =
      (Wr.readItem v kind (cvtCase c) s).map toRd := by
  obtain ⟨⟨d, rows⟩, hdr⟩ := Option.isSome_iff_exists.mp hso
  have hvp := Wr.versionPresent_of_sectionOrders hdr
  have hag := List.all_eq_true.mp table_lookup_agree _ (Wr.sectionOrders_mem hdr)
  unfold Wr.readItem
  simp only [hvp, Bool.not_true, Bool.false_eq_true, if_false]
  cases hp : parseHeaderLine kind s with
  | none => rfl
  | some f =>
    simp only [Option.map_some]
    have hpar : parserOf v kind = ⟨pkindOf kind, kind, d.toList, flatOrders rows⟩ := by
      simp [parserOf, hdr]
    rw [hpar]
    cases kind with
    | other => exact absurd rfl hk
    | curves | parameter => simp [Rd.mkItem', pkindOf, toRd, applyCase_eq, stripBrackets_eq]
    | version | well =>
      simp only [Rd.mkItem', pkindOf, applyCase_eq, stripBrackets_eq, lookup2_eq rows d hag,
        Wr.readerOrderOf_eq v _ hk, Wr.orderOf, hdr]
      obtain ⟨h1, h2⟩ := parseOrder_cases ((Wr.ordersGet2 rows (Wr.caseMap (cvtCase c) f.name)).getD d)
      rw [h1, h2]
      cases Wr.parseOrder ((Wr.ordersGet2 rows (Wr.caseMap (cvtCase c) f.name)).getD d) with
      | none => simp [toRd]
      | some o => cases o <;> simp [toRd]

/-! ## one line -/

theorem startsTilde_false_iff (s : Str) : Rd.startsTilde s = false ↔ s.head? ≠ some '~' := by
  rw [← Bool.not_eq_true, Rd.startsTilde_iff]
  cases s with
  | nil => simp
  | cons a t => simp

theorem lineRes_eq (o : Rd.ReadOpts) (v : String) (kind : SecName) (hk : kind ≠ .other)
    (hso : (Wr.sectionOrders v (Wr.secKey kind)).isSome = true) (line : Str) :
    Rd.lineRes o (parserOf v kind) line = cvtRes (Wr.readLine v kind (cvtCase o.mnemonicCase) line) := by
  have hb := readItem_bridge v kind hk hso o.mnemonicCase (strip line)
  have hsec : (parserOf v kind).sec = kind := by
    unfold parserOf; split <;> rfl
  unfold Rd.lineRes Wr.readLine
  simp only [Rd.lineStrip_eq_strip, hsec]
  cases hs : strip line with
  | nil => rfl
  | cons ch t =>
    rw [hs] at hb
    simp only [List.isEmpty_cons, Bool.false_eq_true, if_false, List.head?_cons]
    by_cases h1 : ch = '#'
    · subst h1; rfl
    · by_cases h2 : ch = '~'
      · subst h2; rfl
      · have e1 : (some ch == some '#') = false := by simpa using h1
        have e2 : Rd.startsTilde (ch :: t) = false := (startsTilde_false_iff _).mpr (by simpa using h2)
        have e3 : (ch == '#') = false := by simpa using h1
        have e4 : (ch == '~') = false := by simpa using h2
        simp only [e1, e2, e3, e4, Bool.false_eq_true, if_false]
        cases hp : parseHeaderLine kind (ch :: t) with
        | none =>
          rw [hp] at hb
          cases hr : Wr.readItem v kind (cvtCase o.mnemonicCase) (ch :: t) with
          | none => rfl
          | some r => rw [hr] at hb; cases hb
        | some f =>
          rw [hp] at hb
          cases hr : Wr.readItem v kind (cvtCase o.mnemonicCase) (ch :: t) with
          | none => rw [hr] at hb; cases hb
          | some r =>
            rw [hr] at hb
            simp only [Option.map_some, Option.some.injEq] at hb
            simp only [cvtRes, ← hb]

/-! ## one section body -/

theorem bodyRun_eq (o : Rd.ReadOpts) (v : String) (kind : SecName) (hk : kind ≠ .other)
    (hso : (Wr.sectionOrders v (Wr.secKey kind)).isSome = true) (lines : List Str) (l : List Wr.RItem)
    (hnt : ∀ b ∈ lines, Rd.isTitle b = false)
    (h : Wr.readSection v kind (cvtCase o.mnemonicCase) lines = some l) (n : Nat) :
    Rd.bodyRun o (parserOf v kind) lines n = .ok (l.map toRd) := by
  induction lines generalizing l n with
  | nil => simp only [Wr.readSection] at h; cases h; rfl
  | cons b bs ih =>
    have hb := lineRes_eq o v kind hk hso b
    have hnb : Rd.lineRes o (parserOf v kind) b ≠ .title := by
      intro ht
      have := (Rd.lineRes_title_iff _ _ _).mp ht
      rw [hnt b List.mem_cons_self] at this; cases this
    have hnt' : ∀ x ∈ bs, Rd.isTitle x = false := fun x hx => hnt x (List.mem_cons_of_mem _ hx)
    simp only [Wr.readSection] at h
    simp only [Rd.bodyRun]
    cases hr : Wr.readLine v kind (cvtCase o.mnemonicCase) b with
    | skip =>
      rw [hr] at hb h
      simp only [cvtRes] at hb
      simp only [hb]
      exact ih l hnt' h (n + 1)
    | stop =>
      rw [hr] at hb
      exact absurd hb hnb
    | error => rw [hr] at h; cases h
    | item r =>
      rw [hr] at hb h
      simp only [cvtRes] at hb
      simp only [hb]
      cases hrest : Wr.readSection v kind (cvtCase o.mnemonicCase) bs with
      | none => rw [hrest] at h; cases h
      | some l' =>
        rw [hrest] at h
        simp only [Option.map_some, Option.some.injEq] at h
        subst h
        rw [ih l' hnt' hrest (n + 1)]
        rfl

/-! ## titles -/

def TitleTail (r : Str) : Prop := ∀ c ∈ r, c = ' ' ∨ c = '-'

/-- the written title line, stripped: the title text without its final blank, then nothing or " ----…" -/
theorem strip_titleLine (core : Str) (w : Nat)
    (hh : ∀ c, core.head? = some c → isPySpace c = false)
    (hl : ∀ c, core.getLast? = some c → isPySpace c = false) (hne : core ≠ []) :
    ∃ r, strip (ljust w '-' (core ++ [' '])) = core ++ r ∧ TitleTail r := by
  unfold ljust
  generalize w - (core ++ [' ']).length = k
  cases k with
  | zero =>
    refine ⟨[], ?_, fun _ h => by cases h⟩
    simp only [List.replicate_zero, List.append_nil]
    rw [strip_pad_right core [' '] (by simp; decide), strip_eq_self core hh hl]
  | succ k =>
    refine ⟨' ' :: List.replicate (k + 1) '-', ?_, ?_⟩
    · rw [show core ++ [' '] ++ List.replicate (k + 1) '-' = core ++ ' ' :: List.replicate (k + 1) '-' by simp]
      apply strip_eq_self
      · intro c hc
        apply hh c
        cases core with
        | nil => exact absurd rfl hne
        | cons a t => simpa using hc
      · intro c hc
        have : (core ++ ' ' :: List.replicate (k + 1) '-').getLast? = some '-' := by
          rw [show core ++ ' ' :: List.replicate (k + 1) '-' = (core ++ ' ' :: List.replicate k '-') ++ ['-'] by
            simp [List.replicate_succ']]
          exact List.getLast?_concat
        rw [this] at hc; cases hc; decide
    · intro c hc
      rcases List.mem_cons.mp hc with h | h
      · exact Or.inl h
      · exact Or.inr (List.eq_of_mem_replicate h)

theorem isTitle_titleLine (t : String) (w : Nat) (h : Rd.startsTilde t.toList = true) :
    Rd.isTitle (Wr.titleLine t w) = true := by
  apply Rd.isTitle_of_startsTilde
  obtain ⟨r, hr⟩ := (Rd.startsTilde_iff _).mp h
  unfold Wr.titleLine ljust
  rw [hr]; rfl

def letterOf : SecName → Char
  | .version => 'V' | .well => 'W' | .curves => 'C' | .parameter => 'P' | .other => 'O'

def keyOf : SecName → Rd.RKey
  | .version => Rd.kVersion | .well => Rd.kWell | .curves => Rd.kCurves | .parameter => Rd.kParameter
  | .other => Rd.kOther

/-- `SectionParser(title, version)` for a title `~X…` without underscore, X the letter of one of the four item
sections: the parser object of that kind over the version's table -/
theorem mkParser_kind (kind : SecName) (hk : kind ≠ .other) (c : Char) (r : Str) (v : String)
    (hu : '_' ∉ upper ('~' :: c :: r)) (hc : upperC c = letterOf kind) :
    Rd.mkParser ('~' :: c :: r) (.known v.toList) = .ok (parserOf v kind) := by
  have hl3 : Rd.isLas3Like ('~' :: c :: r) = false := Rd.isLas3Like_false _ hu
  have ht : upperC '~' = '~' := by decide
  have e : ∀ y : Char, startsWith ['~', y] (upper ('~' :: c :: r)) = (letterOf kind == y) := by
    intro y
    simp only [startsWith, upper, List.map_cons, List.isPrefixOf, ht, hc]
    rw [show ('~' == '~') = true by decide, Bool.true_and, Bool.and_true]
    exact Bool.beq_comm
  unfold Rd.mkParser parserOf
  simp only [hl3, Bool.and_false, show "~C".toList = ['~', 'C'] from rfl, show "~P".toList = ['~', 'P'] from rfl,
    show "~W".toList = ['~', 'W'] from rfl, show "~V".toList = ['~', 'V'] from rfl, e]
  cases kind with
  | other => exact absurd rfl hk
  | version | well | curves | parameter =>
    simp only [letterOf, Char.reduceBEq, Bool.false_eq_true, if_false, if_true, Option.bind_some, orderTable_eq,
      Wr.secKey, pkindOf]
    cases Wr.sectionOrders v _ <;> rfl

theorem sectionType_kind (kind : SecName) (c : Char) (r : Str)
    (hs : strip ('~' :: c :: r) = '~' :: c :: r) (hu : '_' ∉ upper ('~' :: c :: r)) (hc : upperC c = letterOf kind) :
    Rd.sectionType ('~' :: c :: r) = if kind = .other then .other else .items := by
  rw [Rd.sectionType_letter c r (by rw [Rd.sline_eq_strip, hs]) (Rd.underscore_upper _ hu), hc]
  cases kind <;> simp [letterOf]

theorem routeKey_kind (kind : SecName) (hk : kind ≠ .other) (c : Char) (r : Str) (ver : Rd.VerVal)
    (hu : '_' ∉ upper ('~' :: c :: r)) (hc : upperC c = letterOf kind) :
    Rd.routeKey ('~' :: c :: r) ver = .ok (keyOf kind) := by
  rw [Rd.routeKey_letter c r ver hu, hc]
  cases kind <;> first | exact absurd rfl hk | simp [letterOf, keyOf]

theorem isCurvesParser_C (c : Char) (r : Str) (ver : Rd.VerVal)
    (hu : '_' ∉ upper ('~' :: c :: r)) (hc : upperC c = 'C') :
    Rd.isCurvesParser ('~' :: c :: r) ver = true := by
  have hl3 : Rd.isLas3Like ('~' :: c :: r) = false := Rd.isLas3Like_false _ hu
  have ht : upperC '~' = '~' := by decide
  unfold Rd.isCurvesParser
  simp only [hl3, Bool.and_false, Bool.not_false, Bool.true_and]
  simp [startsWith, upper, ht, hc]

theorem keyOf_curves (kind : SecName) : (keyOf kind == Rd.kCurves) = decide (kind = .curves) := by
  cases kind <;> decide +kernel

/-- reading one written item section: parser of its kind, every body line as `Wr.readSection` reads it, stored under
the key of its kind -/
theorem docSection_items (o : Rd.ReadOpts) (n : Nat) (t : Str) (body : List Str) (st : Rd.RState)
    (kind : SecName) (hk : kind ≠ .other) (c : Char) (r : Str) (v : String)
    (ht : strip t = '~' :: c :: r) (hu : '_' ∉ upper ('~' :: c :: r)) (hc : upperC c = letterOf kind)
    (hver : Rd.classifyVer st.steer.vers = .known v.toList)
    (hso : (Wr.sectionOrders v (Wr.secKey kind)).isSome = true)
    (hnt : ∀ b ∈ body, Rd.isTitle b = false) (l : List Wr.RItem)
    (hread : Wr.readSection v kind (cvtCase o.mnemonicCase) body = some l) :
    ∃ st', Rd.docSection o n (t, body) st = .ok st' ∧
      st'.steer = Rd.steer o ('~' :: c :: r) (l.map toRd) st.steer ∧
      st'.sections = Rd.assign (keyOf kind) (.items (l.map toRd)) st.sections ∧
      st'.curvesPlain = (if kind = .curves then false else st.curvesPlain) ∧
      st'.data = st.data ∧ st'.las3 = st.las3 := by
  have hs : strip ('~' :: c :: r) = '~' :: c :: r := by rw [← ht, Rd.strip_idem]
  unfold Rd.docSection
  simp only [Rd.sline_eq_strip, Rd.lineStrip_eq_strip, ht, sectionType_kind kind c r hs hu hc, hk, if_false, hver,
    mkParser_kind kind hk c r v hu hc, bodyRun_eq o v kind hk hso body l hnt hread n]
  unfold Rd.finishItems
  simp only [routeKey_kind kind hk c r _ hu hc, keyOf_curves]
  have hlen : ¬ (('~' :: c :: r).length < 2) := by simp
  simp only [hlen, if_false]
  by_cases hcv : kind = .curves
  · subst hcv
    simp [isCurvesParser_C c r _ hu hc]
  · simp [hcv]

theorem titleLetter_cons (c : Char) (r : Str) : Rd.titleLetter ('~' :: c :: r) = [upperC c] := by
  simp [Rd.titleLetter, upper]

theorem docSection_other (o : Rd.ReadOpts) (n : Nat) (t : Str) (body : List Str) (st : Rd.RState)
    (c : Char) (r : Str) (ht : strip t = '~' :: c :: r) (hu : '_' ∉ upper ('~' :: c :: r)) (hc : upperC c = 'O') :
    Rd.docSection o n (t, body) st = .ok { st with
      sections := Rd.assign Rd.kOther (.text (joinWith ['\n'] (body.map strip))) st.sections } := by
  have hs : strip ('~' :: c :: r) = '~' :: c :: r := by rw [← ht, Rd.strip_idem]
  have hm : body.map Rd.lineStrip = body.map strip := by
    apply List.map_congr_left; intro x _; exact Rd.lineStrip_eq_strip x
  unfold Rd.docSection
  simp only [Rd.sline_eq_strip, ht, sectionType_kind .other c r hs hu hc, if_true, Rd.finishOther, Rd.routeKeyOther,
    titleLetter_cons, hc, hm]
  rfl

theorem steer_V (o : Rd.ReadOpts) (c : Char) (r : Str) (items : List Rd.RItem) (s : Rd.Steer) (hc : upperC c = 'V') :
    Rd.steer o ('~' :: c :: r) items s =
      { s with
        vers := Rd.orKeep ((Rd.lookupItem (o.mnemonicCase != .preserve) items "VERS".toList).map (·.value)) s.vers,
        wrap := Rd.orKeep ((Rd.lookupItem (o.mnemonicCase != .preserve) items "WRAP".toList).map (·.value)) s.wrap,
        dlm := Rd.orKeep ((Rd.lookupItem (o.mnemonicCase != .preserve) items "DLM".toList).map (·.value)) s.dlm } := by
  unfold Rd.steer
  simp [titleLetter_cons, hc]

theorem steer_W (o : Rd.ReadOpts) (c : Char) (r : Str) (items : List Rd.RItem) (s : Rd.Steer) (hc : upperC c = 'W') :
    Rd.steer o ('~' :: c :: r) items s =
      { s with
        null := Rd.orKeep ((Rd.lookupItem (o.mnemonicCase != .preserve) items "NULL".toList).map (·.value)) s.null } := by
  unfold Rd.steer
  simp [titleLetter_cons, hc]

theorem steer_notVW (o : Rd.ReadOpts) (c : Char) (r : Str) (items : List Rd.RItem) (s : Rd.Steer)
    (hV : upperC c ≠ 'V') (hW : upperC c ≠ 'W') : Rd.steer o ('~' :: c :: r) items s = s := by
  unfold Rd.steer
  simp [titleLetter_cons, hV, hW]

theorem orKeep_none (a : Option Str) : Rd.orKeep a none = a := by cases a <;> rfl

theorem no_underscore (core r : Str) (hcore : '_' ∉ upper core) (hr : TitleTail r) : '_' ∉ upper (core ++ r) := by
  intro h
  simp only [upper, List.map_append, List.mem_append] at h
  rcases h with h | h
  · exact hcore h
  · obtain ⟨x, hx, hxe⟩ := List.mem_map.mp h
    rcases hr x hx with rfl | rfl <;> exact absurd hxe (by decide)

theorem title_facts (T : String) (c : Char) (rest : Str) (w : Nat)
    (hT : T.toList = ('~' :: c :: rest) ++ [' '])
    (hl : ∀ x, ('~' :: c :: rest).getLast? = some x → isPySpace x = false)
    (hcore : '_' ∉ upper ('~' :: c :: rest)) :
    ∃ r, strip (Wr.titleLine T w) = '~' :: c :: r ∧ '_' ∉ upper ('~' :: c :: r) := by
  obtain ⟨r, hr, htail⟩ := strip_titleLine ('~' :: c :: rest) w
    (by intro x hx; simp at hx; subst hx; decide) hl (by simp)
  refine ⟨rest ++ r, ?_, ?_⟩
  · unfold Wr.titleLine; rw [hT, hr]; rfl
  · exact no_underscore ('~' :: c :: rest) r hcore htail

/-! ## the five written titles -/

def titleOf : SecName → String
  | .version => "~Version " | .well => "~Well " | .curves => "~Curve Information " | .parameter => "~Params "
  | .other => "~Other "

theorem title_written (kind : SecName) (w : Nat) :
    ∃ r, strip (Wr.titleLine (titleOf kind) w) = '~' :: letterOf kind :: r ∧ '_' ∉ upper ('~' :: letterOf kind :: r) := by
  cases kind with
  | version =>
    exact title_facts _ _ "ersion".toList w (by decide +kernel) (by decide +kernel) (by decide +kernel)
  | well => exact title_facts _ _ "ell".toList w (by decide +kernel) (by decide +kernel) (by decide +kernel)
  | curves =>
    exact title_facts _ _ "urve Information".toList w (by decide +kernel) (by decide +kernel) (by decide +kernel)
  | parameter =>
    exact title_facts _ _ "arams".toList w (by decide +kernel) (by decide +kernel) (by decide +kernel)
  | other => exact title_facts _ _ "ther".toList w (by decide +kernel) (by decide +kernel) (by decide +kernel)

theorem upperC_letterOf (kind : SecName) : upperC (letterOf kind) = letterOf kind := by
  cases kind <;> decide

/-! ## the five written sections -/

/-- the five (title, lines) pairs of `Wr.headerSections` as a document of the reader model -/
def written (w : Nat) (secs : List (String × List Str)) : List (Str × List Str) :=
  secs.map fun tl => (Wr.titleLine tl.1 w, tl.2)

theorem flat_written (w : Nat) (secs : List (String × List Str)) :
    secs.flatMap (fun tl => Wr.titleLine tl.1 w :: tl.2) = Rd.flat (written w secs) := by
  induction secs with
  | nil => rfl
  | cons tl rest ih => simp only [List.flatMap_cons, written, List.map_cons, Rd.flat] at ih ⊢; rw [ih]

theorem v20_version : (Wr.sectionOrders "2.0" (Wr.secKey .version)).isSome = true := by decide +kernel

theorem assign_five (a b c d e : Rd.SecVal) :
    Rd.assign Rd.kOther e (Rd.assign Rd.kParameter d (Rd.assign Rd.kCurves c (Rd.assign Rd.kWell b
      (Rd.assign Rd.kVersion a Rd.initSections)))) =
    [(Rd.kVersion, some a), (Rd.kWell, some b), (Rd.kCurves, some c), (Rd.kParameter, some d), (Rd.kOther, some e)] := by
  rfl

/-- READING THE FIVE WRITTEN SECTIONS.  `iv`/`iw`/`ic`/`ip`: what `Wr.readSection` reads back from the lines of each
section (the ~Version section under the provisional version 2.0, the others under the version `v` its VERS item
announces, `hvers`/`hcls`).  The steering values are the VERS, WRAP, DLM items of ~Version and the NULL item of ~Well. -/
theorem docSections_written_steer (o : Rd.ReadOpts) (v : String) (w : Nat) (lv lw lc lp lo : List Str)
    (iv iw ic ip : List Wr.RItem) (vtext : Str)
    (hso : ∀ kind, kind ≠ .other → (Wr.sectionOrders v (Wr.secKey kind)).isSome = true)
    (hnv : ∀ b ∈ lv, Rd.isTitle b = false) (hnw : ∀ b ∈ lw, Rd.isTitle b = false)
    (hnc : ∀ b ∈ lc, Rd.isTitle b = false) (hnp : ∀ b ∈ lp, Rd.isTitle b = false)
    (hrv : Wr.readSection "2.0" .version (cvtCase o.mnemonicCase) lv = some iv)
    (hrw : Wr.readSection v .well (cvtCase o.mnemonicCase) lw = some iw)
    (hrc : Wr.readSection v .curves (cvtCase o.mnemonicCase) lc = some ic)
    (hrp : Wr.readSection v .parameter (cvtCase o.mnemonicCase) lp = some ip)
    (hvers : (Rd.lookupItem (o.mnemonicCase != .preserve) (iv.map toRd) "VERS".toList).map (·.value) = some vtext)
    (hcls : Rd.classifyVer (some vtext) = .known v.toList) :
    ∃ st, Rd.docSections o (written w [("~Version ", lv), ("~Well ", lw), ("~Curve Information ", lc),
        ("~Params ", lp), ("~Other ", lo)]) 0 Rd.RState.init = .ok st ∧
      st.sections = [(Rd.kVersion, some (.items (iv.map toRd))), (Rd.kWell, some (.items (iw.map toRd))),
        (Rd.kCurves, some (.items (ic.map toRd))), (Rd.kParameter, some (.items (ip.map toRd))),
        (Rd.kOther, some (.text (joinWith ['\n'] (lo.map strip))))] ∧
      st.curvesPlain = false ∧ st.data = [] ∧ st.las3 = [] ∧
      st.steer = ⟨some vtext,
        (Rd.lookupItem (o.mnemonicCase != .preserve) (iv.map toRd) "WRAP".toList).map (·.value),
        (Rd.lookupItem (o.mnemonicCase != .preserve) (iw.map toRd) "NULL".toList).map (·.value),
        (Rd.lookupItem (o.mnemonicCase != .preserve) (iv.map toRd) "DLM".toList).map (·.value)⟩ := by
  obtain ⟨r1, ht1, hu1⟩ := title_written .version w
  obtain ⟨r2, ht2, hu2⟩ := title_written .well w
  obtain ⟨r3, ht3, hu3⟩ := title_written .curves w
  obtain ⟨r4, ht4, hu4⟩ := title_written .parameter w
  obtain ⟨r5, ht5, hu5⟩ := title_written .other w
  -- ~Version, read under the default provisional version 2.0
  obtain ⟨st1, d1, hS1, hsec1, hpl1, hdata1, hlas1⟩ := docSection_items o 0 (Wr.titleLine "~Version " w) lv
    Rd.RState.init .version (by decide) 'V' r1 "2.0" ht1 hu1 (upperC_letterOf .version) rfl v20_version hnv iv hrv
  rw [steer_V o 'V' r1 _ _ (upperC_letterOf .version), hvers] at hS1
  simp only [Rd.RState.init, Rd.Steer.init, orKeep_none] at hS1
  -- the other three item sections, read under `v`
  obtain ⟨st2, d2, hS2, hsec2, hpl2, hdata2, hlas2⟩ := docSection_items o (0 + 1 + lv.length) (Wr.titleLine "~Well " w) lw
    st1 .well (by decide) 'W' r2 v ht2 hu2 (upperC_letterOf .well) (by rw [hS1]; exact hcls) (hso .well (by decide)) hnw
    iw hrw
  rw [steer_W o 'W' r2 _ _ (upperC_letterOf .well), hS1] at hS2
  simp only [orKeep_none] at hS2
  obtain ⟨st3, d3, hS3, hsec3, hpl3, hdata3, hlas3⟩ := docSection_items o (0 + 1 + lv.length + 1 + lw.length)
    (Wr.titleLine "~Curve Information " w) lc st2 .curves (by decide) 'C' r3 v ht3 hu3 (upperC_letterOf .curves)
    (by rw [hS2]; exact hcls) (hso .curves (by decide)) hnc ic hrc
  rw [steer_notVW o 'C' r3 _ _ (by decide) (by decide), hS2] at hS3
  obtain ⟨st4, d4, hS4, hsec4, hpl4, hdata4, hlas4⟩ := docSection_items o
    (0 + 1 + lv.length + 1 + lw.length + 1 + lc.length) (Wr.titleLine "~Params " w) lp st3 .parameter (by decide) 'P' r4 v
    ht4 hu4 (upperC_letterOf .parameter) (by rw [hS3]; exact hcls) (hso .parameter (by decide)) hnp ip hrp
  rw [steer_notVW o 'P' r4 _ _ (by decide) (by decide), hS3] at hS4
  have d5 := docSection_other o (0 + 1 + lv.length + 1 + lw.length + 1 + lc.length + 1 + lp.length)
    (Wr.titleLine "~Other " w) lo st4 'O' r5 ht5 hu5 (upperC_letterOf .other)
  refine ⟨{ st4 with sections := Rd.assign Rd.kOther (.text (joinWith ['\n'] (lo.map strip))) st4.sections },
    by simp only [written, List.map_cons, List.map_nil, Rd.docSections, d1, d2, d3, d4, d5], ?_, ?_, ?_, ?_, hS4⟩
  · simp only [hsec4, hsec3, hsec2, hsec1]
    exact assign_five _ _ _ _ _
  · simp only [hpl4, hpl3]
    rfl
  · simp only [hdata4, hdata3, hdata2, hdata1]
    rfl
  · simp only [hlas4, hlas3, hlas2, hlas1]
    rfl

/-! ## the written header is a well-formed document -/

theorem isTitle_formatItem (o : Wr.Order) (W : Wr.Widths) (it : Wr.WItem)
    (hne : it.orig ≠ []) (hs : strip it.orig = it.orig) (hm : it.orig.head? ≠ some '~') :
    Rd.isTitle (Wr.formatItem o W it) = false := by
  obtain ⟨a, t, hat⟩ := List.exists_cons_of_ne_nil hne
  have ha : isPySpace a = false := Wr.head_nospace_of_strip hs a (by rw [hat]; rfl)
  have hat' : a ≠ '~' := by intro h; apply hm; rw [hat, h]; rfl
  obtain ⟨rest, hrest⟩ : ∃ rest, Wr.formatItem o W it = a :: rest := by
    rw [Wr.formatItem_layout]
    exact Wr.layout_head (Wr.lineFields o it) a t hat _ _ _ _ _
  rw [Rd.isTitle_eq, hrest]
  have := Rd.strip_split [] a rest (by simp) ha
  simp only [List.nil_append] at this
  rw [this, startsTilde_false_iff]
  simpa using hat'

theorem writeSection_lines (v s : String) (items : List Wr.WItem) (lines : List Str)
    (h : Wr.writeSection v s items = .ok lines) :
    ∀ l ∈ lines, ∃ it ∈ items, ∃ o W, l = Wr.formatItem o W it := by
  unfold Wr.writeSection at h
  split at h
  · cases h
  · split at h
    · simp only [Except.ok.injEq] at h
      subst h
      intro l hl
      unfold Wr.sectionLines at hl
      obtain ⟨it, hit, rfl⟩ := List.mem_map.mp hl
      exact ⟨it, hit, _, _, rfl⟩
    · cases h

theorem writeSection_notitle (v s : String) (items : List Wr.WItem) (lines : List Str)
    (h : Wr.writeSection v s items = .ok lines)
    (hi : ∀ it ∈ items, it.orig ≠ [] ∧ strip it.orig = it.orig ∧ it.orig.head? ≠ some '~') :
    ∀ l ∈ lines, Rd.isTitle l = false := by
  intro l hl
  obtain ⟨it, hit, o, W, rfl⟩ := writeSection_lines v s items lines h l hl
  obtain ⟨h1, h2, h3⟩ := hi it hit
  exact isTitle_formatItem o W it h1 h2 h3

theorem wellFormed_written (w : Nat) (lv lw lc lp lo : List Str)
    (hnv : ∀ b ∈ lv, Rd.isTitle b = false) (hnw : ∀ b ∈ lw, Rd.isTitle b = false)
    (hnc : ∀ b ∈ lc, Rd.isTitle b = false) (hnp : ∀ b ∈ lp, Rd.isTitle b = false)
    (hno : ∀ b ∈ lo, Rd.isTitle b = false) :
    Rd.WellFormed (written w [("~Version ", lv), ("~Well ", lw), ("~Curve Information ", lc),
        ("~Params ", lp), ("~Other ", lo)]) := by
  intro tb htb
  simp only [written, List.map_cons, List.map_nil, List.mem_cons, List.not_mem_nil, or_false] at htb
  rcases htb with rfl | rfl | rfl | rfl | rfl
  · exact ⟨isTitle_titleLine _ w (by decide +kernel), hnv⟩
  · exact ⟨isTitle_titleLine _ w (by decide +kernel), hnw⟩
  · exact ⟨isTitle_titleLine _ w (by decide +kernel), hnc⟩
  · exact ⟨isTitle_titleLine _ w (by decide +kernel), hnp⟩
  · exact ⟨isTitle_titleLine _ w (by decide +kernel), hno⟩

/-! The document starts with its first title (`pre = []` in C05).  Stated for a variable `secs`, so that no
`[] ++ Rd.flat (written …)` with literal titles is ever compared with `Rd.flat (written …)` by evaluation. -/

theorem windows_flat (secs : List (Str × List Str)) (hw : Rd.WellFormed secs) :
    Rd.findSections (Rd.flat secs) = Rd.docWindows secs 0 :=
  Rd.C05_windows [] secs (fun _ h => nomatch h) hw

theorem read_flat (o : Rd.ReadOpts) (secs : List (Str × List Str)) (st : Rd.RState) (hw : Rd.WellFormed secs) :
    Rd.processSections o (Rd.flat secs) (Rd.findSections (Rd.flat secs)) st = Rd.docSections o secs 0 st :=
  Rd.C05_read_rendered o [] secs st (fun _ h => nomatch h) hw

theorem readLines_flat (o : Rd.ReadOpts) (secs : List (Str × List Str)) (hw : Rd.WellFormed secs) (hne : secs ≠ []) :
    Rd.readLines o (Rd.flat secs) =
      match Rd.docSections o secs 0 Rd.RState.init with
      | .error e => .error e
      | .ok st => Rd.finishRead st :=
  Rd.C05_read_rendered_lines o [] secs (fun _ h => nomatch h) hw hne

theorem finishRead_ok (st : Rd.RState)
    (hacc : ∀ d, st.steer.dlm = some d → Rd.delimiters.contains d = true) (hpl : st.curvesPlain = false) :
    Rd.finishRead st = .ok ⟨st.sections.filterMap (fun kv => kv.2.map fun v => (kv.1, v)), st.steer,
      if st.data.isEmpty then st.las3 else st.data⟩ := by
  unfold Rd.finishRead
  cases h : st.steer.dlm with
  | none => simp [hpl]
  | some d =>
    have := hacc d h
    simp only [this, hpl]
    simp

/-! ## the writer side: what `headerSections` writes -/

/-- ~Version after the WRAP substitution (`las.version` itself when `wrap=None`) -/
def wrapSection (wrap : Option Bool) (las : Wr.WLas) : List Wr.WItem :=
  match wrap with
  | none => las.version
  | some w => Wr.wSetItem las.versionTr "WRAP".toList (Wr.wrapItem w) las.version

/-- the copy of ~Version that `write` formats: WRAP and VERS substituted -/
def versionCopy (version : String) (wrap : Option Bool) (las : Wr.WLas) : List Wr.WItem :=
  match Wr.versItem version with
  | some it => Wr.wSetItem las.versionTr "VERS".toList it (wrapSection wrap las)
  | none => wrapSection wrap las

theorem versItem_version {v : String} {it : Wr.WItem} (h : Wr.versItem v = some it) : v = "1.2" ∨ v = "2.0" := by
  unfold Wr.versItem at h
  by_cases h1 : v = "1.2"
  · exact Or.inl h1
  · by_cases h2 : v = "2.0"
    · exact Or.inr h2
    · simp [h1, h2] at h

/-- a property of the VERS item is checked on the two items there are -/
theorem versItem_forall {P : String → Wr.WItem → Prop} (h12 : ∀ it ∈ Wr.versItem "1.2", P "1.2" it)
    (h20 : ∀ it ∈ Wr.versItem "2.0", P "2.0" it) {v : String} {it : Wr.WItem} (h : Wr.versItem v = some it) :
    P v it := by
  rcases versItem_version h with rfl | rfl
  · exact h12 it h
  · exact h20 it h

theorem headerSections_ok (version : String) (wrap : Option Bool) (las las' : Wr.WLas)
    (secs : List (String × List Str)) (h : Wr.headerSections version wrap las = .ok (secs, las')) :
    (version = "1.2" ∨ version = "2.0") ∧
    ∃ lv lw lc lp,
      Wr.writeSection version "Version" (versionCopy version wrap las) = .ok lv ∧
      Wr.writeSection version "Well" (Wr.standardizeItems las.well) = .ok lw ∧
      Wr.writeSection version "Curves" las.curves = .ok lc ∧
      Wr.writeSection version "Parameter" (Wr.standardizeItems las.params) = .ok lp ∧
      secs = [("~Version ", lv), ("~Well ", lw), ("~Curve Information ", lc), ("~Params ", lp),
        ("~Other ", Wr.splitlines las.other)] ∧
      las' = { las with version := wrapSection wrap las, well := Wr.standardizeItems las.well,
                        params := Wr.standardizeItems las.params } := by
  unfold Wr.headerSections at h
  simp only [bind, Except.bind, pure, Except.pure, throw, throwThe, MonadExceptOf.throw] at h
  cases hvi : Wr.versItem version with
  | none =>
    simp only [hvi] at h
    split at h <;> first | cases h | (split at h <;> cases h)
  | some vers =>
    have hver := versItem_version hvi
    refine ⟨hver, ?_⟩
    have hvc : versionCopy version wrap las = Wr.wSetItem las.versionTr "VERS".toList vers (wrapSection wrap las) := by
      simp [versionCopy, hvi]
    rw [hvc]
    simp only [hvi] at h
    have fin : ∀ (A B C D : Except Err (List Str)) (X : Wr.WLas),
        (A >>= fun v => B >>= fun v1 => C >>= fun v2 => D >>= fun v3 =>
          (pure ([("~Version ", v), ("~Well ", v1), ("~Curve Information ", v2), ("~Params ", v3),
            ("~Other ", Wr.splitlines las.other)], X) : Except Err (List (String × List Str) × Wr.WLas))) =
          .ok (secs, las') →
        ∃ lv lw lc lp, A = .ok lv ∧ B = .ok lw ∧ C = .ok lc ∧ D = .ok lp ∧
          secs = [("~Version ", lv), ("~Well ", lw), ("~Curve Information ", lc), ("~Params ", lp),
            ("~Other ", Wr.splitlines las.other)] ∧ las' = X := by
      intro A B C D X hh
      obtain ⟨a, rfl, h1⟩ := bind_ok hh
      obtain ⟨b, rfl, h2⟩ := bind_ok h1
      obtain ⟨c, rfl, h3⟩ := bind_ok h2
      obtain ⟨d, rfl, h4⟩ := bind_ok h3
      cases h4
      exact ⟨a, b, c, d, rfl, rfl, rfl, rfl, rfl, rfl⟩
    cases wrap with
    | none =>
      cases hf : findFirst (fun x => cmpStr las.versionTr x.session "WRAP".toList) las.version with
      | none => rw [hf] at h; dsimp only at h; cases h
      | some i =>
        rw [hf] at h
        dsimp only at h
        exact fin _ _ _ _ _ h
    | some w =>
      dsimp only at h
      exact fin _ _ _ _ _ h

/-- `headerLines`: the five written sections, laid flat as a document of the reader model -/
theorem headerLines_ok (version : String) (wrap : Option Bool) (w : Nat) (las las' : Wr.WLas) (lines : List Str)
    (h : Wr.headerLines version wrap w las = .ok (lines, las')) :
    (version = "1.2" ∨ version = "2.0") ∧
    ∃ lv lw lc lp,
      Wr.writeSection version "Version" (versionCopy version wrap las) = .ok lv ∧
      Wr.writeSection version "Well" (Wr.standardizeItems las.well) = .ok lw ∧
      Wr.writeSection version "Curves" las.curves = .ok lc ∧
      Wr.writeSection version "Parameter" (Wr.standardizeItems las.params) = .ok lp ∧
      Wr.headerSections version wrap las = .ok ([("~Version ", lv), ("~Well ", lw), ("~Curve Information ", lc),
        ("~Params ", lp), ("~Other ", Wr.splitlines las.other)], las') ∧
      lines = Rd.flat (written w [("~Version ", lv), ("~Well ", lw), ("~Curve Information ", lc), ("~Params ", lp),
        ("~Other ", Wr.splitlines las.other)]) := by
  unfold Wr.headerLines at h
  cases hs : Wr.headerSections version wrap las with
  | error e => rw [hs] at h; cases h
  | ok r =>
    obtain ⟨secs, l2⟩ := r
    rw [hs] at h
    simp only [Except.ok.injEq, Prod.mk.injEq] at h
    obtain ⟨h1, rfl⟩ := h
    obtain ⟨hver, lv, lw, lc, lp, wv, ww, wc, wp, rfl, _⟩ := headerSections_ok version wrap las l2 secs hs
    exact ⟨hver, lv, lw, lc, lp, wv, ww, wc, wp, rfl, by rw [← h1, flat_written]⟩

/-- the ~Version section is read under the provisional version 2.0 whatever version the file announces; for the two
versions `write` produces this makes no difference (same ~Version order table) -/
theorem readSection_version_prov (v : String) (hv : v = "1.2" ∨ v = "2.0") (c : Wr.MCase) (lines : List Str) :
    Wr.readSection "2.0" .version c lines = Wr.readSection v .version c lines := by
  rcases hv with rfl | rfl
  · have hro : ∀ m, Wr.readerOrderOf "2.0" .version m = Wr.readerOrderOf "1.2" .version m := by
      intro m
      have h : Wr.sectionOrders "2.0" (Wr.secKey .version) = Wr.sectionOrders "1.2" (Wr.secKey .version) := by
        decide +kernel
      rw [Wr.readerOrderOf_eq _ _ (by decide), Wr.readerOrderOf_eq _ _ (by decide), Wr.orderOf, Wr.orderOf, h]
    have hri : ∀ l, Wr.readItem "2.0" .version c l = Wr.readItem "1.2" .version c l := by
      intro l
      have p : Wr.versionPresent "2.0" = true ∧ Wr.versionPresent "1.2" = true := by decide +kernel
      simp only [Wr.readItem, hro, p]
    have hrl : ∀ l, Wr.readLine "2.0" .version c l = Wr.readLine "1.2" .version c l := by
      intro l; simp only [Wr.readLine, hri]
    induction lines with
    | nil => rfl
    | cons l ls ih => simp only [Wr.readSection, hrl, ih]
  · rfl

theorem sectionOrders_some (v : String) (hv : v = "1.2" ∨ v = "2.0") (kind : SecName) (hk : kind ≠ .other) :
    (Wr.sectionOrders v (Wr.secKey kind)).isSome = true := by
  rcases hv with rfl | rfl <;> cases kind <;> first | exact absurd rfl hk | decide +kernel

theorem classifyVer_written (v : String) (hv : v = "1.2" ∨ v = "2.0") :
    Rd.classifyVer (some v.toList) = .known v.toList := by
  rcases hv with rfl | rfl <;> decide +kernel

theorem versItem_text (v : String) (it : Wr.WItem) (h : Wr.versItem v = some it) : it.value.text = v.toList :=
  versItem_forall (P := fun v it => it.value.text = v.toList) (by decide +kernel) (by decide +kernel) h

theorem lookup_written (tr : Bool) (c : Wr.MCase) (key : Str) (hk : ':' ∉ Rd.ck tr key) (items : List Wr.WItem) :
    Rd.lookupItem tr ((items.map (Wr.expected c)).map toRd) key =
      Rd.uniq ((items.filter fun it => Rd.mcmp tr (Rd.usefulMn (Wr.caseMap c it.orig)) key).map
        fun it => toRd (Wr.expected c it)) := by
  rw [Rd.lookupItem_eq tr key hk, List.map_map, List.filter_map]
  rfl

/-! ## `set_item` changes session mnemonics only -/

def textOf (it : Wr.WItem) : Str × Str × Wr.WVal × Str := (it.orig, it.unit, it.value, it.descr)

theorem wRenumber_text (tr : Bool) (test : Str) (items : List Wr.WItem) (k : Nat) :
    (Wr.wRenumber tr test items k).map textOf = items.map textOf := by
  induction items generalizing k with
  | nil => rfl
  | cons it rest ih =>
    simp only [Wr.wRenumber]
    split
    · simp only [List.map_cons, ih]; rfl
    · simp only [List.map_cons, ih]

theorem wAssignSuffixes_text (tr : Bool) (test : Str) (items : List Wr.WItem) :
    (Wr.wAssignSuffixes tr test items).map textOf = items.map textOf := by
  unfold Wr.wAssignSuffixes
  split
  · exact wRenumber_text tr test items 0
  · rfl

theorem wSetItem_mem (tr : Bool) (key : Str) (it : Wr.WItem) (items : List Wr.WItem) :
    ∀ x ∈ Wr.wSetItem tr key it items, ∃ y, (y = it ∨ y ∈ items) ∧ textOf x = textOf y := by
  intro x hx
  have hx' : textOf x ∈ (Wr.wSetItem tr key it items).map textOf := List.mem_map_of_mem hx
  unfold Wr.wSetItem at hx'
  split at hx'
  · rename_i i _
    rw [wAssignSuffixes_text] at hx'
    obtain ⟨y, hy, hye⟩ := List.mem_map.mp hx'
    rcases List.mem_or_eq_of_mem_set hy with h | h
    · exact ⟨y, Or.inr h, hye.symm⟩
    · exact ⟨y, Or.inl h, hye.symm⟩
  · rw [wAssignSuffixes_text] at hx'
    obtain ⟨y, hy, hye⟩ := List.mem_map.mp hx'
    rcases List.mem_append.mp hy with h | h
    · exact ⟨y, Or.inr h, hye.symm⟩
    · exact ⟨y, Or.inl (by simpa using h), hye.symm⟩

/-- every item of the written ~Version section is an item of `las.version`, the WRAP item or the VERS item, up to
its session mnemonic: what holds of those and depends on the text only holds of every written item -/
theorem versionCopy_forall (version : String) (wrap : Option Bool) (las : Wr.WLas) (P : Wr.WItem → Prop)
    (hP : ∀ a b, textOf a = textOf b → P b → P a) (h1 : ∀ y ∈ las.version, P y) (h2 : ∀ b, P (Wr.wrapItem b))
    (h3 : ∀ y, Wr.versItem version = some y → P y) : ∀ x ∈ versionCopy version wrap las, P x := by
  have hs : ∀ tr key it items, P it → (∀ y ∈ items, P y) → ∀ x ∈ Wr.wSetItem tr key it items, P x := by
    intro tr key it items hit hitems x hx
    obtain ⟨y, hy, e⟩ := wSetItem_mem tr key it items x hx
    exact hP x y e (hy.elim (fun h => h ▸ hit) (hitems y))
  have hw : ∀ x ∈ wrapSection wrap las, P x := by
    unfold wrapSection
    cases wrap with
    | none => exact h1
    | some b => exact hs _ _ _ _ (h2 b) h1
  unfold versionCopy
  cases hv : Wr.versItem version with
  | none => exact hw
  | some vi => exact hs _ _ _ _ (h3 vi hv) hw

theorem written_title_dispatch (kind : SecName) (hk : kind ≠ .other) (v : String) (ver : Rd.VerVal) (w : Nat) :
    Rd.sectionType (Rd.sline (Wr.titleLine (titleOf kind) w)) = .items ∧
    Rd.routeKey (Rd.sline (Wr.titleLine (titleOf kind) w)) ver = .ok (keyOf kind) ∧
    Rd.mkParser (Rd.lineStrip (Wr.titleLine (titleOf kind) w)) (.known v.toList) = .ok (parserOf v kind) := by
  obtain ⟨r, hr, hu⟩ := title_written kind w
  have hs : strip ('~' :: letterOf kind :: r) = '~' :: letterOf kind :: r := by rw [← hr, Rd.strip_idem]
  rw [Rd.sline_eq_strip, Rd.lineStrip_eq_strip, hr]
  refine ⟨?_, routeKey_kind kind hk _ r ver hu (upperC_letterOf kind), mkParser_kind kind hk _ r v hu (upperC_letterOf kind)⟩
  rw [sectionType_kind kind _ r hs hu (upperC_letterOf kind)]
  simp [hk]

theorem mcmp_dlm_false (o : Rd.ReadOpts) (orig : Str) (h : upper orig ≠ "DLM".toList) :
    Rd.mcmp (o.mnemonicCase != .preserve) (Rd.usefulMn (Wr.caseMap (cvtCase o.mnemonicCase) orig)) "DLM".toList =
      false := by
  unfold Rd.usefulMn
  split
  · cases o.mnemonicCase <;> decide
  · cases hm : Rd.mcmp (o.mnemonicCase != .preserve) (Wr.caseMap (cvtCase o.mnemonicCase) orig) "DLM".toList with
    | false => rfl
    | true =>
      exfalso; apply h
      have hD : upper "DLM".toList = "DLM".toList := by decide
      cases hc : o.mnemonicCase with
      | preserve =>
        rw [hc] at hm
        have : orig = "DLM".toList := by simpa [Rd.mcmp, cvtCase, Wr.caseMap] using hm
        rw [this, hD]
      | upper =>
        rw [hc] at hm
        have : upper (upper orig) = upper "DLM".toList := by simpa [Rd.mcmp, cvtCase, Wr.caseMap] using hm
        rw [upper_idem, hD] at this; exact this
      | lower =>
        rw [hc] at hm
        have : upper (lower orig) = upper "DLM".toList := by simpa [Rd.mcmp, cvtCase, Wr.caseMap] using hm
        rw [upper_lower, hD] at this; exact this

end Lasio.RH
