import LasioProofs.Lemmas.TransformSim
import LasioProofs.Lemmas.DataTabLemmas
import LasioProofs.Lemmas.Eval
/-
C09, re-delimiting / re-padding of TAB- and COMMA-delimited data: helper lemmas for Props/C09Redelim.

§1  the `re.sub` matchers of the run-on(-) and run-on(.) substitutions do not look beyond a STOP character (a blank or a comma)
§2  `Sepd dlm cells s`: the text `s` is the numeric cells `cells` joined by separators admissible for the delimiter `dlm`
    (`GoodSep`); the read substitutions and the ctrl-Z filter are the identity on it
§3  the three splitters on a `Sepd` text give the cells up to `strip`; `DRow dlm cells l`: the physical line `l` is such a text
    between blanks; what the data reader makes of a `DRow` line (items, sniffer sample, genfromtxt tokens)
§4  lines with numeric cells (`numCells`) and re-laid lines (`relayLine1`, side condition `SepsOK`) are `DRow`s
§5  item lists that agree up to `strip` give the same columns (`FtStripOn`, `Converts`); the unrestricted hypothesis "float()
    strips" holds of the empty table only
§6  bodies related line by line (`LineRel`, `BodyRel`): flat item lists, sniffer, `normalRead`, `readBody`; the bodies and
    documents `redelim` / `repadLine` produce; the whole-file step for `repadLine`; genfromtxt raises on COMMA windows; the
    header-level reader does not see a re-laid body; `readFull` as the header-level reader followed by `readData` on every
    window it reports
-/
namespace Lasio.Tf
open Lasio Lasio.Dt

/-! ## §1 stop characters -/

/-- a character none of the matchers `mHyphen`, `mDot` can use -/
def StopCh (w : Char) : Prop :=
  isUDigit w = false ∧ (w == '.') = false ∧ (w == '-') = false ∧ (w == 'N') = false ∧ (w == 'a') = false

theorem stopCh_ws (w : Char) (hw : isPySpace w = true) : StopCh w :=
  ⟨ws_not_digit w hw, ws_beq w '.' hw (by decide), ws_beq w '-' hw (by decide), ws_beq w 'N' hw (by decide),
    ws_beq w 'a' hw (by decide)⟩

theorem stopCh_comma : StopCh ',' := by unfold StopCh; decide

/-- empty, or starting with a stop character -/
def SHead (s : Str) : Prop := s = [] ∨ ∃ w r, s = w :: r ∧ StopCh w

def LocalS (m : Str → Option (Str × Nat)) : Prop := ∀ x tail, SHead tail → m (x ++ tail) = m x

theorem mHyphen_stop (w : Char) (r : Str) (hw : StopCh w) : mHyphen (w :: r) = none := by
  have := hw.1
  match r with
  | [] => rfl
  | [_] => rfl
  | _ :: _ :: _ => simp [mHyphen, this]

theorem mHyphen_localS : LocalS mHyphen := by
  intro x tail hw
  match x with
  | [] =>
    rcases hw with rfl | ⟨w, r, rfl, hw⟩
    · rfl
    · simpa [mHyphen] using mHyphen_stop w r hw
  | [a] =>
    rcases hw with rfl | ⟨w, r, rfl, hw⟩
    · rfl
    · have : (w == '-') = false := hw.2.2.1
      match r with
      | [] => rfl
      | _ :: _ => simp [mHyphen, this]
  | [a, p] =>
    rcases hw with rfl | ⟨w, r, rfl, hw⟩
    · rfl
    · simp [mHyphen, hw.1]
  | _ :: _ :: _ :: _ => rfl

theorem digitsThenDot_sHead (tail : Str) (hw : SHead tail) : digitsThenDot tail = none := by
  rcases hw with rfl | ⟨w, r, rfl, hw⟩
  · rfl
  · simp [digitsThenDot, hw.2.1, hw.1]

theorem digitsThenDot_localS (x tail : Str) (hw : SHead tail) :
    digitsThenDot (x ++ tail) = (digitsThenDot x).map (fun nr => (nr.1, nr.2 ++ tail)) := by
  induction x with
  | nil => simp [digitsThenDot_sHead tail hw, digitsThenDot]
  | cons c cs ih =>
    simp only [List.cons_append, digitsThenDot]
    split
    · rfl
    · split
      · rw [ih]; cases digitsThenDot cs <;> simp
      · rfl

theorem takeWhile_digit_localS (x tail : Str) (hw : SHead tail) :
    (x ++ tail).takeWhile isUDigit = x.takeWhile isUDigit := by
  induction x with
  | nil =>
    rcases hw with rfl | ⟨w, r, rfl, hw⟩
    · rfl
    · simp [hw.1]
  | cons c cs ih =>
    simp only [List.cons_append, List.takeWhile]
    cases isUDigit c <;> simp [ih]

theorem dotTail_localS (neg : Nat) (x tail : Str) (hw : SHead tail) : dotTail neg (x ++ tail) = dotTail neg x := by
  unfold dotTail
  rw [digitsThenDot_localS _ tail hw]
  cases h1 : digitsThenDot x with
  | none => rfl
  | some nr =>
    simp only [Option.map_some]
    rw [digitsThenDot_localS _ tail hw]
    cases h2 : digitsThenDot nr.2 with
    | none => rfl
    | some nr2 =>
      simp only [Option.map_some]
      rw [takeWhile_digit_localS _ tail hw]

theorem mDotAlt1_localS (x tail : Str) (hw : SHead tail) : mDotAlt1 (x ++ tail) = mDotAlt1 x := by
  cases x with
  | nil =>
    rcases hw with rfl | ⟨w, r, rfl, hw'⟩
    · rfl
    · simp only [List.nil_append, mDotAlt1, hw'.2.2.1, Bool.false_eq_true, ↓reduceIte]
      unfold dotTail
      rw [digitsThenDot_sHead (w :: r) (Or.inr ⟨w, r, rfl, hw'⟩)]
  | cons c cs =>
    simp only [List.cons_append, mDotAlt1]
    split
    · exact dotTail_localS 1 cs tail hw
    · exact dotTail_localS 0 (c :: cs) tail hw

theorem mDotAlt2_localS (x tail : Str) (hw : SHead tail) : mDotAlt2 (x ++ tail) = mDotAlt2 x := by
  match x with
  | c1 :: c2 :: c3 :: p :: d :: rest =>
    simp only [List.cons_append, mDotAlt2, takeWhile_digit_localS rest tail hw]
  | [] =>
    rcases hw with rfl | ⟨w, r, rfl, hw⟩
    · rfl
    · have : (w == 'N') = false := hw.2.2.2.1
      match r with
      | [] | [_] | [_, _] | [_, _, _] => rfl
      | _ :: _ :: _ :: _ :: _ => simp [mDotAlt2, this]
  | [c1] =>
    rcases hw with rfl | ⟨w, r, rfl, hw⟩
    · rfl
    · have : (w == 'a') = false := hw.2.2.2.2
      match r with
      | [] | [_] | [_, _] => rfl
      | _ :: _ :: _ :: _ => simp [mDotAlt2, this]
  | [c1, c2] =>
    rcases hw with rfl | ⟨w, r, rfl, hw⟩
    · rfl
    · have : (w == 'N') = false := hw.2.2.2.1
      match r with
      | [] | [_] => rfl
      | _ :: _ :: _ => simp [mDotAlt2, this]
  | [c1, c2, c3] =>
    rcases hw with rfl | ⟨w, r, rfl, hw⟩
    · rfl
    · have h1 : (w == '.') = false := hw.2.1
      have h2 : (w == '-') = false := hw.2.2.1
      match r with
      | [] => rfl
      | _ :: _ => simp [mDotAlt2, h1, h2]
  | [c1, c2, c3, p] =>
    rcases hw with rfl | ⟨w, r, rfl, hw⟩
    · rfl
    · simp [mDotAlt2, hw.1]

theorem mDot_localS : LocalS mDot := by
  intro x tail hw
  unfold mDot
  rw [mDotAlt1_localS x tail hw, mDotAlt2_localS x tail hw]

theorem mDot_stop (w : Char) (r : Str) (hw : StopCh w) : mDot (w :: r) = none :=
  (mDot_localS [] (w :: r) (Or.inr ⟨w, r, rfl, hw⟩)).trans rfl

theorem noMatch_appendS (m : Str → Option (Str × Nat)) (hl : LocalS m) (t tail : Str) (ht : NoMatch m t)
    (htail : NoMatch m tail) (hw : SHead tail) : NoMatch m (t ++ tail) := by
  induction t with
  | nil => simpa using htail
  | cons c cs ih =>
    intro s hs
    rw [List.cons_append, List.suffix_cons_iff] at hs
    rcases hs with rfl | hs
    · rw [← List.cons_append, hl (c :: cs) tail hw]
      exact ht _ List.suffix_rfl
    · exact ih (fun s' hs' => ht s' (hs'.trans (List.suffix_cons c cs))) s hs

theorem noMatch_stop_append (m : Str → Option (Str × Nat)) (hst : ∀ w r, StopCh w → m (w :: r) = none)
    (a r : Str) (ha : ∀ c ∈ a, StopCh c) (hr : NoMatch m r) : NoMatch m (a ++ r) := by
  induction a with
  | nil => simpa using hr
  | cons w a ih =>
    intro s hs
    rw [List.cons_append, List.suffix_cons_iff] at hs
    rcases hs with rfl | hs
    · exact hst w (a ++ r) (ha w (by simp))
    · exact ih (fun c hc => ha c (by simp [hc])) s hs


/-! ## §2 numeric cells joined by separators -/

/-- a numeric token: the character-level abstraction of a plain decimal (`simplePlain_of_grammar`) -/
abbrev PTok (t : Str) : Prop := simplePlain t = true

theorem ptok_quiet {t : Str} (h : PTok t) : QuietTok t := quietTok_of_simple t h

theorem ptok_chars {t : Str} (h : PTok t) : ∀ c ∈ t, plainChar c = true := by
  unfold PTok simplePlain at h
  simp only [Bool.and_eq_true, List.all_eq_true] at h
  exact h.1.1.2

theorem ptok_ne {t : Str} (h : PTok t) : t ≠ [] := (ptok_quiet h).ne

theorem ptok_solid {t : Str} (h : PTok t) : Solid t := quietTok_solid t (ptok_quiet h)

theorem ptok_of_decimal {t : Str} (h : isPlainDecimal t = true) : PTok t := simplePlain_of_grammar t h

theorem strip_solid (t : Str) (h : Solid t) : strip t = t := by
  have := strip_sandwich [] t [] allWs_nil allWs_nil h
  simpa using this

theorem plainChar_not_ws (c : Char) (h : plainChar c = true) : isPySpace c = false :=
  (tokChar_parts c (plainChar_tokChar c h)).1

theorem plainChar_ne_comma (c : Char) (h : plainChar c = true) : (c == ',') = false := plainChar_ne c ',' h (by decide)

theorem plainChar_ne_tab (c : Char) (h : plainChar c = true) : (c == '\t') = false :=
  tokChar_ne_tab c (plainChar_tokChar c h)

def NoTab (s : Str) : Prop := ∀ c ∈ s, c ≠ '\t'

/-- the separators between two cells that the splitter of the delimiter takes as ONE separator:
SPACE: a non-empty run of blanks; TAB: blanks (no TAB), a non-empty run of TABs, blanks (no TAB); COMMA: blanks, a comma, blanks -/
def GoodSep : Dlm → Str → Prop
  | .space, s => s ≠ [] ∧ AllWs s
  | .tab, s => ∃ a tabs b, s = a ++ (tabs ++ b) ∧ AllWs a ∧ AllWs b ∧ NoTab a ∧ NoTab b ∧ tabs ≠ [] ∧ AllTab tabs
  | .comma, s => ∃ a b, s = a ++ ',' :: b ∧ AllWs a ∧ AllWs b

/-- a separator character: white space or a comma -/
def SepC (c : Char) : Prop := isPySpace c = true ∨ c = ','

theorem sepC_stop (c : Char) (h : SepC c) : StopCh c := by
  rcases h with h | rfl
  · exact stopCh_ws c h
  · exact stopCh_comma

theorem goodSep_ne {dlm : Dlm} {s : Str} (h : GoodSep dlm s) : s ≠ [] := by
  cases dlm with
  | space => exact h.1
  | tab =>
    obtain ⟨a, tabs, b, rfl, _, _, _, _, hne, _⟩ := h
    intro e
    simp at e
    exact hne e.2.1
  | comma =>
    obtain ⟨a, b, rfl, _, _⟩ := h
    simp

theorem goodSep_ws {dlm : Dlm} {s : Str} (hd : dlm ≠ .comma) (h : GoodSep dlm s) : AllWs s := by
  cases dlm with
  | space => exact h.2
  | tab =>
    obtain ⟨a, tabs, b, rfl, ha, hb, _, _, _, ht⟩ := h
    exact allWs_append ha (allWs_append (allTab_allWs ht) hb)
  | comma => exact absurd rfl hd

theorem goodSep_chars {dlm : Dlm} {s : Str} (h : GoodSep dlm s) : ∀ c ∈ s, SepC c := by
  cases dlm with
  | space => exact fun c hc => Or.inl (h.2 c hc)
  | tab => exact fun c hc => Or.inl (goodSep_ws (by decide) h c hc)
  | comma =>
    obtain ⟨a, b, rfl, ha, hb⟩ := h
    intro c hc
    simp only [List.mem_append, List.mem_cons] at hc
    rcases hc with hc | rfl | hc
    · exact Or.inl (ha c hc)
    · exact Or.inr rfl
    · exact Or.inl (hb c hc)

/-- `Sepd dlm cells s`: the text `s` is the numeric cells `cells` (at least one) joined by separators good for `dlm` -/
inductive Sepd (dlm : Dlm) : List Str → Str → Prop
  | one {t : Str} : PTok t → Sepd dlm [t] t
  | cons {t sep rest : Str} {ts : List Str} :
      PTok t → GoodSep dlm sep → Sepd dlm ts rest → Sepd dlm (t :: ts) (t ++ (sep ++ rest))

theorem sepd_cells_ptok {dlm : Dlm} {cells : List Str} {s : Str} (h : Sepd dlm cells s) : ∀ c ∈ cells, PTok c := by
  induction h with
  | one ht => intro c hc; simp at hc; subst hc; exact ht
  | cons ht _ _ ih => exact List.forall_mem_cons.mpr ⟨ht, ih⟩

theorem sepd_cells_ne {dlm : Dlm} {cells : List Str} {s : Str} (h : Sepd dlm cells s) : cells ≠ [] := by
  cases h <;> simp

theorem sepd_head {dlm : Dlm} {cells : List Str} {s : Str} (h : Sepd dlm cells s) :
    ∃ c cs, s = c :: cs ∧ plainChar c = true := by
  cases h with
  | one ht =>
    cases s with
    | nil => exact absurd rfl (ptok_ne ht)
    | cons c cs => exact ⟨c, cs, rfl, ptok_chars ht c (by simp)⟩
  | @cons t sep rest ts ht _ _ =>
    cases t with
    | nil => exact absurd rfl (ptok_ne ht)
    | cons c cs => exact ⟨c, cs ++ _, rfl, ptok_chars ht c (by simp)⟩

theorem sepd_solid {dlm : Dlm} {cells : List Str} {s : Str} (h : Sepd dlm cells s) : Solid s := by
  induction h with
  | one ht => exact ptok_solid ht
  | cons ht _ _ ih => exact solid_append (ptok_solid ht) ih _

theorem sepd_chars {dlm : Dlm} {cells : List Str} {s : Str} (h : Sepd dlm cells s) :
    ∀ c ∈ s, plainChar c = true ∨ SepC c := by
  induction h with
  | one ht => exact fun c hc => Or.inl (ptok_chars ht c hc)
  | cons ht hs _ ih =>
    exact List.forall_mem_append.mpr ⟨fun c hc => Or.inl (ptok_chars ht c hc),
      List.forall_mem_append.mpr ⟨fun c hc => Or.inr (goodSep_chars hs c hc), ih⟩⟩

/-- for the SPACE and TAB delimiters the text is a row of blank-separated quiet tokens (C02's `Core`) -/
theorem sepd_core {dlm : Dlm} {cells : List Str} {s : Str} (hd : dlm ≠ .comma) (h : Sepd dlm cells s) : Core cells s := by
  induction h with
  | one ht => exact Core.one (ptok_quiet ht)
  | cons ht hs _ ih => exact Core.cons (ptok_quiet ht) (goodSep_ne hs) (goodSep_ws hd hs) ih

theorem sepd_noComma {dlm : Dlm} {cells : List Str} {s : Str} (hd : dlm ≠ .comma) (h : Sepd dlm cells s) :
    ∀ c ∈ s, (c == ',') = false := by
  induction h with
  | one ht => exact fun c hc => plainChar_ne_comma c (ptok_chars ht c hc)
  | cons ht hs _ ih =>
    exact List.forall_mem_append.mpr ⟨fun c hc => plainChar_ne_comma c (ptok_chars ht c hc),
      List.forall_mem_append.mpr ⟨fun c hc => ws_beq c ',' (goodSep_ws hd hs c hc) (by decide), ih⟩⟩

/-! ### the read substitutions find nothing -/

theorem sepd_noMatch (m : Str → Option (Str × Nat)) (hl : LocalS m) (hst : ∀ w r, StopCh w → m (w :: r) = none)
    (hq : ∀ t, PTok t → NoMatch m t) {dlm : Dlm} {cells : List Str} {s : Str} (h : Sepd dlm cells s) : NoMatch m s := by
  induction h with
  | one ht => exact hq _ ht
  | @cons t sep rest ts ht hs _ ih =>
    have hch := goodSep_chars hs
    apply noMatch_appendS m hl _ _ (hq _ ht)
    · exact noMatch_stop_append m hst sep rest (fun c hc => sepC_stop c (hch c hc)) ih
    · cases sep with
      | nil => exact absurd rfl (goodSep_ne hs)
      | cons w r => exact Or.inr ⟨w, r ++ rest, rfl, sepC_stop w (hch w (by simp))⟩

theorem noMatch_comma_free (s : Str) (h : ∀ c ∈ s, (c == ',') = false) : NoMatch mComma s := by
  intro u hu
  match u, hu with
  | [], _ => rfl
  | [_], _ => rfl
  | [_, _], _ => rfl
  | a :: p :: b :: r, hu =>
    have hp : (p == ',') = false := h p (mem_of_suffix hu (by simp))
    simp [mComma, hp]

/-- which substitution sets the theorems speak about: with the COMMA delimiter the comma-decimal substitution must be off
(it is: `readSubs .comma = Subs.commaDelimiter`) -/
def SubsOK (dlm : Dlm) (sb : Subs) : Prop := dlm = .comma → sb.comma = false

instance (dlm : Dlm) (sb : Subs) : Decidable (SubsOK dlm sb) := by unfold SubsOK; infer_instance

theorem subsOK_readSubs (dlm : Dlm) : SubsOK dlm (readSubs dlm) := by
  intro h; subst h; rfl

theorem subsOK_dropHyphen {dlm : Dlm} {sb : Subs} (h : SubsOK dlm sb) : SubsOK dlm sb.dropHyphen := fun e => h e

theorem sepd_applySubs {dlm : Dlm} {sb : Subs} (hsb : SubsOK dlm sb) {cells : List Str} {s : Str} (h : Sepd dlm cells s) :
    applySubs sb s = s := by
  have h1 : sb.comma = true → subCommaDecimal s = s := by
    intro hc
    have hd : dlm ≠ .comma := by
      intro e
      rw [hsb e] at hc
      cases hc
    exact reSub_id _ _ (noMatch_comma_free s (sepd_noComma hd h))
  have h2 : subRunOnHyphen s = s :=
    reSub_id _ _ (sepd_noMatch mHyphen mHyphen_localS mHyphen_stop (fun _ ht => (ptok_quiet ht).hyphen) h)
  have h3 : subRunOnDot s = s :=
    reSub_id _ _ (sepd_noMatch mDot mDot_localS mDot_stop (fun _ ht => (ptok_quiet ht).dot) h)
  unfold applySubs
  cases sb with
  | mk c hy d =>
    cases c
    · cases hy <;> cases d <;> simp [h2, h3]
    · have h1' := h1 rfl
      cases hy <;> cases d <;> simp [h1', h2, h3]

theorem sepd_filter {dlm : Dlm} {cells : List Str} {s : Str} (h : Sepd dlm cells s) : s.filter (· != ctrlZ) = s := by
  rw [List.filter_eq_self]
  intro c hc
  have : (c == ctrlZ) = false := by
    rcases sepd_chars h c hc with h1 | h1 | rfl
    · exact (tokChar_parts c (plainChar_tokChar c h1)).2.2.2.2
    · exact ws_ne_ctrlZ c h1
    · decide
  simp [bne, this]

theorem sepd_not_comment {dlm : Dlm} {cells : List Str} {s : Str} (h : Sepd dlm cells s) : isComment s = false := by
  obtain ⟨c, cs, rfl, hc⟩ := sepd_head h
  have h1 := (tokChar_parts c (plainChar_tokChar c hc)).2.2.2.1
  have hne : c ≠ '#' := by simpa using h1
  rw [isComment_cons, beq_eq_false_iff_ne]
  exact fun e => hne e.symm

theorem sepd_not_empty {dlm : Dlm} {cells : List Str} {s : Str} (h : Sepd dlm cells s) : s.isEmpty = false := by
  obtain ⟨c, cs, rfl, _⟩ := sepd_head h
  rfl


/-! ## §3 the splitters on a `Sepd` text -/

theorem map_strip_cells (cells : List Str) (h : ∀ c ∈ cells, PTok c) : cells.map strip = cells := by
  induction cells with
  | nil => rfl
  | cons c cs ih =>
    simp only [List.map_cons]
    rw [strip_solid c (ptok_solid (h c (by simp))), ih (fun x hx => h x (List.mem_cons_of_mem _ hx))]

/-- SPACE: `sow_regex.findall` gives the cells -/
theorem sepd_split_space {cells : List Str} {s : Str} (h : Sepd .space cells s) : (splitWs s).map strip = cells := by
  rw [splitWs_core (sepd_core (by decide) h)]
  exact map_strip_cells cells (sepd_cells_ptok h)

/-- not a TAB, not a quote: the characters `sot_regex` puts into an unquoted item -/
abbrev ntq (x : Char) : Bool := !(x == '\t' || x == '"' || x == '\'')

theorem ntq_ws (x : Char) (hw : isPySpace x = true) (ht : x ≠ '\t') : ntq x = true := by
  have h1 : (x == '\t') = false := by simpa using ht
  simp [ntq, h1, (ws_not_quote x hw).1, (ws_not_quote x hw).2]

theorem ntq_plain (x : Char) (h : plainChar x = true) : ntq x = true := by
  obtain ⟨_, a2, a3, _, _⟩ := tokChar_parts x (plainChar_tokChar x h)
  simp [ntq, plainChar_ne_tab x h, a2, a3]

theorem mSplitTab_piece (c : Char) (u tail : Str) (hc : ∀ x ∈ c :: u, ntq x = true) (hw : TabHead tail) :
    mSplit (· == '\t') (c :: u ++ tail) = some (c :: u, u.length) := by
  have h0 := hc c (by simp)
  simp only [ntq, Bool.not_eq_true', Bool.or_eq_false_iff] at h0
  obtain ⟨⟨h1, h2⟩, h3⟩ := h0
  simp only [List.cons_append, mSplit, h2, h3, Bool.or_self, Bool.false_eq_true, ↓reduceIte, h1]
  have : (u ++ tail).takeWhile (fun x => !(x == '\t' || x == '"' || x == '\'')) = u := by
    apply Lasio.Dt.takeWhile_append_stop
    · intro x hx
      exact hc x (by simp [hx])
    · rcases hw with rfl | ⟨r, rfl⟩
      · exact Or.inl rfl
      · exact Or.inr ⟨'\t', r, rfl, by simp⟩
  rw [this]

/-- a non-empty piece without TAB or quote, followed by a TAB (or the end), is one item -/
theorem splitTab_piece (u tail : Str) (hne : u ≠ []) (hu : ∀ x ∈ u, ntq x = true) (hw : TabHead tail) :
    splitTab (u ++ tail) = u :: splitTab tail := by
  cases u with
  | nil => exact absurd rfl hne
  | cons c cs =>
    have hm := mSplitTab_piece c cs tail hu hw
    unfold splitTab
    simp only [List.cons_append] at hm ⊢
    simp only [scanTok, hm]
    rw [scanTok_skip _ cs _]

theorem splitTab_tabs (tabs r : Str) (h : AllTab tabs) : splitTab (tabs ++ r) = splitTab r := by
  unfold splitTab
  exact scanTok_allTab tabs r h

theorem splitTab_nil : splitTab [] = [] := rfl

/-- TAB: `sot_regex.findall` gives the cells with the blanks around them -/
theorem sepd_split_tab {cells : List Str} {s : Str} (h : Sepd .tab cells s) :
    ∀ a0 : Str, AllWs a0 → NoTab a0 → (splitTab (a0 ++ s)).map strip = cells := by
  induction h with
  | @one t ht =>
    intro a0 h0 n0
    have hu : ∀ x ∈ a0 ++ t, ntq x = true := List.forall_mem_append.mpr
      ⟨fun x hx => ntq_ws x (h0 x hx) (n0 x hx), fun x hx => ntq_plain x (ptok_chars ht x hx)⟩
    have := splitTab_piece (a0 ++ t) [] (by simp [ptok_ne ht]) hu (Or.inl rfl)
    rw [List.append_nil] at this
    rw [this, splitTab_nil]
    simp only [List.map_cons, List.map_nil]
    have e := strip_sandwich a0 t [] h0 allWs_nil (ptok_solid ht)
    rw [List.append_nil] at e
    rw [e]
  | @cons t sep rest ts ht hs _ ih =>
    intro a0 h0 n0
    obtain ⟨a, tabs, b, rfl, ha, hb, na, nb, hne, htabs⟩ := hs
    have e : a0 ++ (t ++ ((a ++ (tabs ++ b)) ++ rest)) = (a0 ++ (t ++ a)) ++ (tabs ++ (b ++ rest)) := by
      simp only [List.append_assoc]
    rw [e]
    have hu : ∀ x ∈ a0 ++ (t ++ a), ntq x = true := List.forall_mem_append.mpr
      ⟨fun x hx => ntq_ws x (h0 x hx) (n0 x hx), List.forall_mem_append.mpr
        ⟨fun x hx => ntq_plain x (ptok_chars ht x hx), fun x hx => ntq_ws x (ha x hx) (na x hx)⟩⟩
    rw [splitTab_piece (a0 ++ (t ++ a)) _ (by simp [ptok_ne ht]) hu (tabHead_of_allTab_append _ _ htabs hne),
      splitTab_tabs tabs _ htabs]
    simp only [List.map_cons]
    rw [strip_sandwich a0 t a h0 ha (ptok_solid ht), ih b hb nb]

/-! ### `str.split(ch)` -/

theorem splitOnChar_free (ch : Char) (x : Str) (hx : ∀ c ∈ x, (c == ch) = false) : splitOnChar ch x = [x] := by
  induction x with
  | nil => rfl
  | cons c x ih =>
    simp only [splitOnChar, hx c (by simp), Bool.false_eq_true, ↓reduceIte]
    rw [ih (fun y hy => hx y (by simp [hy]))]

theorem splitOnChar_append (ch : Char) (x r : Str) (hx : ∀ c ∈ x, (c == ch) = false) :
    splitOnChar ch (x ++ ch :: r) = x :: splitOnChar ch r := by
  induction x with
  | nil => simp [splitOnChar]
  | cons c x ih =>
    simp only [List.cons_append, splitOnChar, hx c (by simp), Bool.false_eq_true, ↓reduceIte]
    rw [ih (fun y hy => hx y (by simp [hy]))]

theorem splitOnChar_cases (ch : Char) (u : Str) :
    (∀ c ∈ u, (c == ch) = false) ∨ ∃ x r, u = x ++ ch :: r ∧ ∀ c ∈ x, (c == ch) = false := by
  induction u with
  | nil => left; intro c hc; cases hc
  | cons c u ih =>
    cases hc : c == ch with
    | true =>
      right
      have : c = ch := by simpa using hc
      subst this
      exact ⟨[], u, rfl, by intro c hc; cases hc⟩
    | false =>
      rcases ih with h | ⟨x, r, rfl, hx⟩
      · left
        intro y hy
        rcases List.mem_cons.mp hy with rfl | hy
        · exact hc
        · exact h y hy
      · right
        refine ⟨c :: x, r, rfl, ?_⟩
        intro y hy
        rcases List.mem_cons.mp hy with rfl | hy
        · exact hc
        · exact hx y hy

/-- COMMA: `str.split(",")` gives the cells with the blanks around them -/
theorem sepd_split_comma {cells : List Str} {s : Str} (h : Sepd .comma cells s) :
    ∀ a0 : Str, AllWs a0 → (splitComma (a0 ++ s)).map strip = cells := by
  unfold splitComma
  induction h with
  | @one t ht =>
    intro a0 h0
    have hu : ∀ x ∈ a0 ++ t, (x == ',') = false := List.forall_mem_append.mpr
      ⟨fun x hx => ws_beq x ',' (h0 x hx) (by decide), fun x hx => plainChar_ne_comma x (ptok_chars ht x hx)⟩
    rw [splitOnChar_free ',' _ hu]
    simp only [List.map_cons, List.map_nil]
    have e := strip_sandwich a0 t [] h0 allWs_nil (ptok_solid ht)
    rw [List.append_nil] at e
    rw [e]
  | @cons t sep rest ts ht hs _ ih =>
    intro a0 h0
    obtain ⟨a, b, rfl, ha, hb⟩ := hs
    have e : a0 ++ (t ++ ((a ++ ',' :: b) ++ rest)) = (a0 ++ (t ++ a)) ++ ',' :: (b ++ rest) := by
      simp only [List.append_assoc, List.cons_append]
    rw [e]
    have hu : ∀ x ∈ a0 ++ (t ++ a), (x == ',') = false := List.forall_mem_append.mpr
      ⟨fun x hx => ws_beq x ',' (h0 x hx) (by decide), List.forall_mem_append.mpr
        ⟨fun x hx => plainChar_ne_comma x (ptok_chars ht x hx), fun x hx => ws_beq x ',' (ha x hx) (by decide)⟩⟩
    rw [splitOnChar_append ',' _ _ hu]
    simp only [List.map_cons]
    rw [strip_sandwich a0 t a h0 ha (ptok_solid ht), ih b hb]

/-- every splitter, on the text for its delimiter: the cells, up to `strip` -/
theorem sepd_split {dlm : Dlm} {cells : List Str} {s : Str} (h : Sepd dlm cells s) : (splitLine dlm s).map strip = cells := by
  cases dlm with
  | space => exact sepd_split_space h
  | tab => exact sepd_split_tab h [] allWs_nil (fun _ hc => nomatch hc)
  | comma => exact sepd_split_comma h [] allWs_nil

/-! ### physical lines -/

/-- the physical line `l` is, for the delimiter `dlm`, the numeric cells `cells`: blanks, a `Sepd` text, blanks (line end) -/
def DRow (dlm : Dlm) (cells : List Str) (l : Str) : Prop :=
  ∃ pre core post, AllWs pre ∧ AllWs post ∧ Sepd dlm cells core ∧ l = pre ++ (core ++ post)

theorem drow_clean {dlm : Dlm} {cells : List Str} {l : Str} (h : DRow dlm cells l) :
    ∃ core, Sepd dlm cells core ∧ cleanLine l = core := by
  obtain ⟨pre, core, post, hpre, hpost, hcore, rfl⟩ := h
  exact ⟨core, hcore, cleanLine_sandwich pre core post hpre hpost (sepd_solid hcore)⟩

theorem sampleLine_eq (l : Str) : sampleLine l = if isSkip l then none else some (cleanLine l) := rfl

theorem drow_not_skip {dlm : Dlm} {cells : List Str} {l : Str} (h : DRow dlm cells l) : isSkip l = false := by
  obtain ⟨core, hcore, hcl⟩ := drow_clean h
  unfold isSkip
  simp only [hcl, sepd_not_empty hcore, sepd_not_comment hcore, Bool.or_self]

/-- NORMAL ENGINE: the items of the line are what the splitter makes of the clean text … -/
theorem drow_lineTokens_raw {dlm : Dlm} {sb : Subs} (hsb : SubsOK dlm sb) {cells : List Str} {l : Str} (h : DRow dlm cells l) :
    lineTokens sb dlm l = splitLine dlm (cleanLine l) := by
  obtain ⟨core, hcore, hcl⟩ := drow_clean h
  unfold lineTokens
  simp only [hcl, sepd_not_comment hcore, sepd_applySubs hsb hcore, sepd_filter hcore, sepd_not_empty hcore,
    Bool.false_eq_true, ↓reduceIte]

/-- … i.e. the cells, up to `strip` -/
theorem drow_lineTokens {dlm : Dlm} {sb : Subs} (hsb : SubsOK dlm sb) {cells : List Str} {l : Str} (h : DRow dlm cells l) :
    (lineTokens sb dlm l).map strip = cells := by
  rw [drow_lineTokens_raw hsb h]
  obtain ⟨core, hcore, hcl⟩ := drow_clean h
  rw [hcl]
  exact sepd_split hcore

/-- SNIFFER: the line is sampled and counts as many items as it has cells -/
theorem drow_sample {dlm : Dlm} {cells : List Str} {l : Str} (h : DRow dlm cells l) :
    ∃ s, sampleLine l = some s ∧ ∀ sb, SubsOK dlm sb → (splitLine dlm (applySubs sb s)).length = cells.length := by
  obtain ⟨core, hcore, hcl⟩ := drow_clean h
  refine ⟨core, ?_, ?_⟩
  · rw [sampleLine_eq, drow_not_skip h, hcl]; rfl
  · intro sb hsb
    rw [sepd_applySubs hsb hcore]
    have := congrArg List.length (sepd_split hcore)
    simpa using this

/-- GENFROMTXT (SPACE and TAB only: a TAB is white space for `str.split()`): the tokens are the cells -/
theorem drow_npTokens {dlm : Dlm} (hd : dlm ≠ .comma) {cells : List Str} {l : Str} (h : DRow dlm cells l) : npTokens l = cells := by
  obtain ⟨pre, core, post, hpre, hpost, hcore, e⟩ := h
  exact npTokens_row ⟨pre, core, post, hpre, hpost, sepd_core hd hcore, e⟩


/-! ## §4 lines with numeric cells, re-laid lines -/

/-- the decidable side condition of the theorems: a data line (not blank, not a comment) every cell of which — cut with the
delimiter `frm` — is a plain decimal `[+-]?(\d+\.?\d*|\.\d+)([eE][+-]?\d+)?` (hence not empty) -/
def numCells (frm : Dlm) (l : Str) : Bool := !isSkip l && (cellsOf frm (splitEol l).1).all isPlainDecimal

theorem drow_absorb {dlm : Dlm} {cells : List Str} {u : Str} (h : DRow dlm cells u) (p q : Str) (hp : AllWs p) (hq : AllWs q) :
    DRow dlm cells (p ++ (u ++ q)) := by
  obtain ⟨pre, core, post, hpre, hpost, hcore, rfl⟩ := h
  exact ⟨p ++ pre, core, post ++ q, allWs_append hp hpre, allWs_append hpost hq, hcore, by simp only [List.append_assoc]⟩

/-! ### SPACE: from the words -/

theorem pySplit_eq_nil (s : Str) (h : pySplit s = []) : AllWs s := by
  induction s with
  | nil => exact allWs_nil
  | cons c cs ih =>
    cases hc : isPySpace c with
    | true =>
      rw [pySplit_ws c cs hc] at h
      exact allWs_cons hc (ih h)
    | false =>
      rw [pySplit_word c cs hc] at h
      cases h

theorem drow_of_words (s : Str) : pySplit s ≠ [] → (∀ w ∈ pySplit s, PTok w) → DRow .space (pySplit s) s := by
  induction s using words_induction with
  | nil => intro h; exact absurd rfl h
  | ws c cs hc ih =>
    intro hne hw
    rw [pySplit_ws c cs hc] at hne hw ⊢
    have := drow_absorb (ih hne hw) [c] [] (allWs_cons hc allWs_nil) allWs_nil
    simpa using this
  | word w tail hwd ht hsp ih =>
    intro _ hw
    rw [hsp] at hw ⊢
    have hpw : PTok w := hw w (by simp)
    by_cases hn : pySplit tail = []
    · rw [hn]
      exact ⟨[], w, tail, allWs_nil, pySplit_eq_nil tail hn, Sepd.one hpw, rfl⟩
    · obtain ⟨pre, core, post, hpre, hpost, hcore, e⟩ := ih hn (fun x hx => hw x (List.mem_cons_of_mem _ hx))
      have hpre_ne : pre ≠ [] := by
        intro e0
        subst e0
        obtain ⟨c, cs, rfl, hc⟩ := sepd_head hcore
        rcases ht with h0 | ⟨b, r, h0, hb⟩
        · rw [h0] at e; cases e
        · rw [h0] at e
          simp only [List.nil_append, List.cons_append] at e
          have : b = c := (List.cons.inj e).1
          subst this
          rw [plainChar_not_ws b hc] at hb
          cases hb
      refine ⟨[], w ++ (pre ++ core), post, allWs_nil, hpost, Sepd.cons hpw ⟨hpre_ne, hpre⟩ hcore, ?_⟩
      rw [e]
      simp only [List.nil_append, List.append_assoc]

/-! ### TAB, COMMA: from the pieces of `str.split(ch)` -/

/-- the separating character -/
def dch : Dlm → Char
  | .space => ' '
  | .tab => '\t'
  | .comma => ','

theorem cellsOf_ch (dlm : Dlm) (hd : dlm ≠ .space) (t : Str) :
    cellsOf dlm t = (splitOnChar (dch dlm) (strip t)).map strip := by
  cases dlm with
  | space => exact absurd rfl hd
  | tab => rfl
  | comma => rfl

theorem goodSep_ch (dlm : Dlm) (hd : dlm ≠ .space) (b a : Str) (hb : AllWs b) (ha : AllWs a)
    (nb : ∀ c ∈ b, (c == dch dlm) = false) (na : ∀ c ∈ a, (c == dch dlm) = false) : GoodSep dlm (b ++ dch dlm :: a) := by
  cases dlm with
  | space => exact absurd rfl hd
  | tab =>
    refine ⟨b, ['\t'], a, rfl, hb, ha, ?_, ?_, by simp, ?_⟩
    · intro c hc; have := nb c hc; simpa [dch] using this
    · intro c hc; have := na c hc; simpa [dch] using this
    · intro c hc; simpa using hc
  | comma => exact ⟨b, a, rfl, hb, ha⟩

/-- a piece: blanks, its `strip`, blanks -/
theorem piece_decomp (x : Str) :
    ∃ pre post, AllWs pre ∧ AllWs post ∧ x = pre ++ (strip x ++ post) ∧ (∀ c ∈ pre, c ∈ x) ∧ (∀ c ∈ post, c ∈ x) := by
  obtain ⟨pre, post, hpre, hpost, e⟩ := strip_decomp x
  refine ⟨pre, post, hpre, hpost, e, ?_, ?_⟩
  · intro c hc; rw [e]; simp [hc]
  · intro c hc; rw [e]; simp [hc]

theorem drow_of_pieces (dlm : Dlm) (hd : dlm ≠ .space) (u : Str) :
    (∀ p ∈ splitOnChar (dch dlm) u, PTok (strip p)) →
    ∃ pre core post, AllWs pre ∧ AllWs post ∧ (∀ c ∈ pre, (c == dch dlm) = false) ∧
      Sepd dlm ((splitOnChar (dch dlm) u).map strip) core ∧ u = pre ++ (core ++ post) := by
  induction hn : u.length using Nat.strongRecOn generalizing u with
  | _ n ih =>
    intro hp
    rcases splitOnChar_cases (dch dlm) u with hfree | ⟨x, r, rfl, hx⟩
    · rw [splitOnChar_free _ u hfree] at hp ⊢
      have hpu : PTok (strip u) := hp u (by simp)
      obtain ⟨pre, post, hpre, hpost, e, m1, _⟩ := piece_decomp u
      exact ⟨pre, strip u, post, hpre, hpost, fun c hc => hfree c (m1 c hc), Sepd.one hpu, e⟩
    · rw [splitOnChar_append _ x r hx] at hp ⊢
      have hpx : PTok (strip x) := hp x (by simp)
      obtain ⟨pre, post, hpre, hpost, e, m1, m2⟩ := piece_decomp x
      obtain ⟨pre', core', post', hpre', hpost', n', hcore', e'⟩ :=
        ih r.length (by subst hn; simp; omega) r rfl (fun p hp' => hp p (List.mem_cons_of_mem _ hp'))
      refine ⟨pre, strip x ++ ((post ++ dch dlm :: pre') ++ core'), post', hpre, hpost', fun c hc => hx c (m1 c hc), ?_, ?_⟩
      · simp only [List.map_cons]
        exact Sepd.cons hpx (goodSep_ch dlm hd post pre' hpost hpre' (fun c hc => hx c (m2 c hc)) n') hcore'
      · conv => lhs; rw [e, e']
        simp only [List.append_assoc, List.cons_append]

/-- (A) a line with numeric cells is a `DRow` of its cells -/
theorem drow_of_numCells (frm : Dlm) (l : Str) (h : numCells frm l = true) : DRow frm (cellsOf frm (splitEol l).1) l := by
  unfold numCells at h
  simp only [Bool.and_eq_true, Bool.not_eq_true', List.all_eq_true] at h
  obtain ⟨hskip, hcells⟩ := h
  by_cases hd : frm = .space
  · subst hd
    simp only [cellsOf] at hcells ⊢
    rw [pySplit_splitEol] at hcells ⊢
    apply drow_of_words l
    · intro e
      rw [isSkip_words, e] at hskip
      simp at hskip
    · exact fun w hw => ptok_of_decimal (hcells w hw)
  · rw [cellsOf_ch frm hd] at hcells ⊢
    rw [strip_splitEol] at hcells ⊢
    obtain ⟨pre, core, post, hpre, hpost, _, hcore, e⟩ := drow_of_pieces frm hd (strip l) (by
      intro p hp
      exact ptok_of_decimal (hcells (strip p) (List.mem_map_of_mem hp)))
    obtain ⟨p, q, hp, hq, el⟩ := strip_decomp l
    have := drow_absorb ⟨pre, core, post, hpre, hpost, hcore, e⟩ p q hp hq
    rw [← el] at this
    exact this

/-! ### (B) re-laid lines -/

/-- the side condition on a separator argument for the TAB delimiter: among its blanks/TABs, no blank between two TABs
(`sot_regex` would take it for a cell) -/
def tabSepOK (s : Str) : Bool :=
  !(((blanksOf s).dropWhile (· != '\t')).dropWhile (· == '\t')).contains '\t'

/-- side condition on the separator arguments: for the TAB delimiter every one is `tabSepOK` -/
def SepsOK : Dlm → List Str → Prop
  | .tab, seps => ∀ s ∈ seps, tabSepOK s = true
  | _, _ => True

instance (dlm : Dlm) (seps : List Str) : Decidable (SepsOK dlm seps) := by
  cases dlm <;> unfold SepsOK <;> infer_instance

theorem sepsOK_head {to : Dlm} {seps : List Str} (h : SepsOK to seps) : to = .tab → tabSepOK (seps.headD []) = true := by
  intro e
  subst e
  cases seps with
  | nil => decide
  | cons s ss => exact h s (by simp)

theorem sepsOK_tail {to : Dlm} {seps : List Str} (h : SepsOK to seps) : SepsOK to seps.tail := by
  cases to with
  | tab =>
    cases seps with
    | nil => exact h
    | cons s ss => exact fun x hx => h x (List.mem_cons_of_mem _ hx)
  | space => trivial
  | comma => trivial

theorem dropWhile_ne_head (ch : Char) (b : Str) (h : b.contains ch = true) : ∃ r, b.dropWhile (· != ch) = ch :: r := by
  induction b with
  | nil => simp at h
  | cons c b ih =>
    simp only [List.dropWhile_cons]
    by_cases hc : c = ch
    · subst hc
      exact ⟨b, by simp⟩
    · have h1 : (c != ch) = true := by simpa using hc
      simp only [h1, ↓reduceIte]
      apply ih
      simp only [List.contains_cons] at h
      have h2 : (ch == c) = false := by
        rw [beq_eq_false_iff_ne]; exact fun e => hc e.symm
      simpa [h2] using h

theorem goodSep_mkSep (to : Dlm) (s : Str) (h : to = .tab → tabSepOK s = true) : GoodSep to (mkSep to s) := by
  cases to with
  | space => exact mkSep_space s
  | comma => exact ⟨_, _, rfl, allWs_blanksOf _, allWs_blanksOf _⟩
  | tab =>
    have hok := h rfl
    simp only [mkSep]
    split
    · rename_i hc
      obtain ⟨r, hr⟩ := dropWhile_ne_head '\t' (blanksOf s) (by simpa using hc)
      have hb := allWs_blanksOf s
      unfold tabSepOK at hok
      have e1 : blanksOf s = (blanksOf s).takeWhile (· != '\t') ++ (blanksOf s).dropWhile (· != '\t') :=
        (List.takeWhile_append_dropWhile).symm
      have sub1 : ∀ c ∈ (blanksOf s).dropWhile (· != '\t'), c ∈ blanksOf s :=
        fun c hc => (List.dropWhile_sublist _).subset hc
      generalize (blanksOf s).dropWhile (· != '\t') = rest at hr hok e1 sub1
      refine ⟨(blanksOf s).takeWhile (· != '\t'), rest.takeWhile (· == '\t'), rest.dropWhile (· == '\t'),
        ?_, ?_, ?_, ?_, ?_, ?_, ?_⟩
      · rw [List.takeWhile_append_dropWhile]; exact e1
      · exact fun c hc => hb c ((List.takeWhile_sublist _).subset hc)
      · exact fun c hc => hb c (sub1 c ((List.dropWhile_sublist _).subset hc))
      · intro c hc
        have := mem_takeWhile_p _ _ c hc
        simpa using this
      · intro c hc e
        subst e
        simp only [Bool.not_eq_true', List.contains_eq_mem, decide_eq_false_iff_not] at hok
        exact hok hc
      · rw [hr]; simp
      · intro c hc
        have := mem_takeWhile_p _ _ c hc
        simpa using this
    · refine ⟨[], ['\t'], [], rfl, allWs_nil, allWs_nil, ?_, ?_, by simp, ?_⟩
      · intro c hc; cases hc
      · intro c hc; cases hc
      · intro c hc; simpa using hc

/-- numeric cells joined by the separators made for the delimiter `to` -/
theorem sepd_joinSeps (to : Dlm) (cells : List Str) (hne : cells ≠ []) (hp : ∀ c ∈ cells, PTok c) (seps : List Str)
    (hs : SepsOK to seps) : Sepd to cells (joinSeps (mkSep to) cells seps) := by
  induction cells generalizing seps with
  | nil => exact absurd rfl hne
  | cons w rest ih =>
    cases rest with
    | nil => simp only [joinSeps]; exact Sepd.one (hp w (by simp))
    | cons w' rest' =>
      simp only [joinSeps]
      exact Sepd.cons (hp w (by simp)) (goodSep_mkSep to _ (sepsOK_head hs))
        (ih (by simp) (fun x hx => hp x (List.mem_cons_of_mem _ hx)) seps.tail (sepsOK_tail hs))

/-- (B) a line with numeric cells, re-laid for the delimiter `to`, is a `DRow` of the same cells -/
theorem drow_relay (frm to : Dlm) (seps : List Str) (l : Str) (h : numCells frm l = true) (hs : SepsOK to seps) :
    DRow to (cellsOf frm (splitEol l).1) (relayLine1 frm to seps l) := by
  obtain ⟨_, core, _, _, _, hcore, _⟩ := drow_of_numCells frm l h
  refine ⟨[], _, (splitEol l).2, allWs_nil, splitEol_allWs l,
    sepd_joinSeps to _ (sepd_cells_ne hcore) (sepd_cells_ptok hcore) seps hs, ?_⟩
  simp only [relayLine1, List.nil_append]


/-! ## §5 token lists that agree up to `strip` -/

/-- `float()` ignores the blanks around the tokens of the list `toks` (Python's `float()` ignores them around every string; a
`FloatTable` is a finite list, so the statement is relative to the tokens that are met) -/
def FtStripOn (ft : FloatTable) (toks : List Str) : Prop := ∀ t ∈ toks, toFloat ft t = toFloat ft (strip t)

/-- every token of the list is a number for `float()` -/
def Converts (ft : FloatTable) (toks : List Str) : Prop := ∀ t ∈ toks, (toFloat ft t).isSome

/-- a shortcut: instance search for equality on pairs with such a component otherwise runs out of its size budget -/
instance : DecidableEq (Except DErr (Engine × List (Slot × Column))) := inferInstance
instance (ft : FloatTable) (toks : List Str) : Decidable (FtStripOn ft toks) := by unfold FtStripOn; infer_instance
instance (ft : FloatTable) (toks : List Str) : Decidable (Converts ft toks) := by unfold Converts; infer_instance
instance (secs : List (Str × List Str)) : Decidable (Rd.WellFormed secs) := by unfold Rd.WellFormed; infer_instance

/-- the normal engine as a function of its flat item list -/
def engineToks (ft : FloatTable) (nColumns : Nat) (toks : List Str) : Except DErr (List Column) :=
  let n := if toks.isEmpty then 0 else nColumns
  if n > 0 then
    if toks.length % n != 0 then .error .reshapeError
    else .ok ((columnsOf n (reshape n toks)).map (typedColumn ft))
  else if toks.isEmpty then .ok []
  else .error .indexError

theorem normalEngineLines_eq (ft : FloatTable) (sb : Subs) (dlm : Dlm) (n : Nat) (body : List Str) :
    normalEngineLines ft sb dlm n body = engineToks ft n (normalTokens sb dlm body) := rfl

theorem floatCells_congr (ft : FloatTable) (col : List Str) (f : Str → Str) (h : ∀ t ∈ col, toFloat ft t = toFloat ft (f t)) :
    floatCells ft (col.map f) = floatCells ft col := by
  induction col with
  | nil => rfl
  | cons t ts ih =>
    simp only [List.map_cons, floatCells]
    rw [← h t (by simp), ih (fun x hx => h x (List.mem_cons_of_mem _ hx))]

/-- a column all of whose tokens convert, before and after `strip`, is the same float column -/
theorem typedColumn_strip (ft : FloatTable) (col : List Str) (h : FtStripOn ft col) (hc : Converts ft col) :
    typedColumn ft (col.map strip) = typedColumn ft col := by
  unfold typedColumn
  rw [floatCells_congr ft col strip h]
  obtain ⟨vs, hvs⟩ := floatCells_of_all ft col hc
  rw [hvs]

theorem chunk_map {α β} (f : α → β) (c fuel : Nat) (l : List α) : chunk c fuel (l.map f) = (chunk c fuel l).map (List.map f) := by
  induction fuel generalizing l with
  | zero => rfl
  | succ k ih =>
    simp only [chunk, List.isEmpty_map]
    split
    · rfl
    · simp only [List.map_cons, ← List.map_take, ← List.map_drop, ih]

theorem reshape_map {α β} (f : α → β) (c : Nat) (l : List α) : reshape c (l.map f) = (reshape c l).map (List.map f) := by
  unfold reshape
  rw [List.length_map, chunk_map]

theorem chunk_mem {α} (c fuel : Nat) (l : List α) : ∀ r ∈ chunk c fuel l, ∀ x ∈ r, x ∈ l := by
  induction fuel generalizing l with
  | zero => intro r hr; simp [chunk] at hr
  | succ k ih =>
    intro r hr x hx
    simp only [chunk] at hr
    split at hr
    · cases hr
    · rcases List.mem_cons.mp hr with rfl | hr
      · exact List.mem_of_mem_take hx
      · exact List.mem_of_mem_drop (ih _ r hr x hx)

theorem columnOf_map_strip (rows : List (List Str)) (j : Nat) :
    columnOf (rows.map (List.map strip)) j = (columnOf rows j).map strip := by
  unfold columnOf
  simp only [List.map_map]
  apply List.map_congr_left
  intro r _
  simp only [Function.comp, List.getD_eq_getElem?_getD, List.getElem?_map]
  cases r[j]? <;> rfl

/-- the entries of the columns of a full matrix are items of the flat list -/
theorem columnOf_mem (n : Nat) (toks : List Str) (hd : toks.length % n = 0) (j : Nat) (hj : j < n) :
    ∀ t ∈ columnOf (reshape n toks) j, t ∈ toks := by
  intro t ht
  simp only [columnOf, List.mem_map] at ht
  obtain ⟨r, hr, rfl⟩ := ht
  have hl : r.length = n := chunk_rows_length n _ toks hd r hr
  have : r.getD j [] ∈ r := by
    rw [List.getD_eq_getElem?_getD, List.getElem?_eq_getElem (by omega)]
    simp
  exact chunk_mem n _ toks r hr _ this

/-- the normal engine on a list of tokens that all convert, with or without the blanks around them -/
theorem engineToks_strip (ft : FloatTable) (n : Nat) (toks : List Str) (h : FtStripOn ft toks) (hc : Converts ft toks) :
    engineToks ft n (toks.map strip) = engineToks ft n toks := by
  unfold engineToks
  simp only [List.isEmpty_map, List.length_map]
  by_cases he : toks.isEmpty = true
  · simp only [he, if_true]
    have h0 : ¬ (0 > 0) := by omega
    simp only [h0, if_false]
  · simp only [he, Bool.false_eq_true, if_false]
    by_cases hn : n > 0
    · simp only [hn, if_true]
      by_cases hdiv : (toks.length % n != 0) = true
      · simp only [hdiv, if_true]
      · simp only [hdiv, Bool.false_eq_true, if_false]
        have hd : toks.length % n = 0 := by simpa using hdiv
        congr 1
        rw [reshape_map]
        simp only [columnsOf, List.map_map]
        apply List.map_congr_left
        intro j hj
        have hj' : j < n := List.mem_range.mp hj
        simp only [Function.comp]
        rw [columnOf_map_strip]
        have hm := columnOf_mem n toks hd j hj'
        exact typedColumn_strip ft _ (fun t ht => h t (hm t ht)) (fun t ht => hc t (hm t ht))
    · simp only [hn, if_false]

/-- two item lists that agree up to `strip`: same result of the normal engine, whatever `nColumns` is -/
theorem converts_congr {ft : FloatTable} {toks toks' : List Str} (he : toks'.map strip = toks.map strip)
    (h : FtStripOn ft toks) (h' : FtStripOn ft toks') (hc : Converts ft toks) : Converts ft toks' := by
  intro t ht
  have : strip t ∈ toks.map strip := by rw [← he]; exact List.mem_map_of_mem ht
  obtain ⟨u, hu, e⟩ := List.mem_map.mp this
  rw [h' t ht, ← e, ← h u hu]
  exact hc u hu

theorem engineToks_congr (ft : FloatTable) (n : Nat) (toks toks' : List Str) (he : toks'.map strip = toks.map strip)
    (h : FtStripOn ft toks) (h' : FtStripOn ft toks') (hc : Converts ft toks) :
    engineToks ft n toks' = engineToks ft n toks := by
  rw [← engineToks_strip ft n toks h hc, ← engineToks_strip ft n toks' h' (converts_congr he h h' hc), he]

/-- … in terms of typed columns (one column) -/
theorem typedColumn_congr (ft : FloatTable) (col col' : List Str) (he : col'.map strip = col.map strip)
    (h : FtStripOn ft col) (h' : FtStripOn ft col') (hc : Converts ft col) : typedColumn ft col' = typedColumn ft col := by
  rw [← typedColumn_strip ft col h hc, ← typedColumn_strip ft col' h' (converts_congr he h h' hc), he]

/-- the hypothesis `∀ t, toFloat ft (strip t) = toFloat ft t` about ALL strings can only be met by the empty table (a table is
a finite list): this is why `FtStripOn` speaks about the tokens that are met -/
theorem ftStrip_global_empty (ft : FloatTable) (h : ∀ t, toFloat ft (strip t) = toFloat ft t) : ∀ t, toFloat ft t = none := by
  have hlen : ∀ (ft : FloatTable) (t v : Str), ft.lookup t = some v → t.length ≤ (ft.map (fun kv => kv.1.length)).sum := by
    intro ft
    induction ft with
    | nil => intro t v hl; simp at hl
    | cons kv rest ih =>
      intro t v hl
      simp only [List.lookup] at hl
      split at hl
      · rename_i heq
        have : t = kv.1 := by simpa using heq
        subst this
        simp
      · have := ih t v hl
        simp only [List.map_cons, List.sum_cons]
        omega
  intro t
  cases ht : toFloat ft t with
  | none => rfl
  | some v =>
    exfalso
    let N := (ft.map (fun kv => kv.1.length)).sum
    let t' := List.replicate (N + 1) ' ' ++ strip t
    have hws : AllWs (List.replicate (N + 1) ' ') := by
      intro c hc
      rw [List.eq_of_mem_replicate hc]; decide
    have e1 : strip t' = strip (strip t) := strip_pad_left _ _ hws
    have e2 : toFloat ft t' = some v := by
      rw [← h t', e1, h (strip t), h t, ht]
    have := hlen ft t' v e2
    simp only [t', List.length_append, List.length_replicate] at this
    omega


/-! ## §6 bodies related line by line -/

/-- the physical lines `l`, `l'`: the same blank/comment line, or lines the readers for the delimiters `frm` / `to` read as the
same `c` numeric cells -/
def LineRel (frm to : Dlm) (c : Nat) (l l' : Str) : Prop :=
  (isSkip l = true ∧ l' = l) ∨ ∃ cells, cells.length = c ∧ DRow frm cells l ∧ DRow to cells l'

abbrev BodyRel (frm to : Dlm) (c : Nat) : List Str → List Str → Prop := Forall2 (LineRel frm to c)

theorem forall2_length {α β} {R : α → β → Prop} {l : List α} {l' : List β} (h : Forall2 R l l') : l'.length = l.length := by
  induction h with
  | nil => rfl
  | cons _ _ ih => simp [ih]

/-- every line is a blank/comment line or a line of `c` numeric cells for the delimiter `dlm` -/
def NumBodyD (dlm : Dlm) (c : Nat) (b : List Str) : Prop :=
  ∀ l ∈ b, isSkip l = true ∨ ∃ cells, cells.length = c ∧ DRow dlm cells l

theorem bodyRel_numBodyD {frm to : Dlm} {c : Nat} {b b' : List Str} (h : BodyRel frm to c b b') :
    NumBodyD frm c b ∧ NumBodyD to c b' := by
  induction h with
  | nil => exact ⟨fun _ hl => (by cases hl), fun _ hl => (by cases hl)⟩
  | cons hl _ ih =>
    refine ⟨List.forall_mem_cons.mpr ⟨?_, ih.1⟩, List.forall_mem_cons.mpr ⟨?_, ih.2⟩⟩
    · exact hl.imp And.left fun ⟨cells, hc, h1, _⟩ => ⟨cells, hc, h1⟩
    · rcases hl with ⟨hs, rfl⟩ | ⟨cells, hc, _, h2⟩
      · exact Or.inl hs
      · exact Or.inr ⟨cells, hc, h2⟩

/-- the flat item lists agree up to `strip` -/
theorem bodyRel_tokens {frm to : Dlm} {c : Nat} {sb sb' : Subs} (hsb : SubsOK frm sb) (hsb' : SubsOK to sb') {b b' : List Str}
    (h : BodyRel frm to c b b') : (normalTokens sb' to b').map strip = (normalTokens sb frm b).map strip := by
  induction h with
  | nil => rfl
  | @cons l l' ls ls' hl _ ih =>
    simp only [normalTokens, List.flatMap_cons, List.map_append] at ih ⊢
    rw [ih]
    congr 1
    rcases hl with ⟨hs, e⟩ | ⟨cells, _, h1, h2⟩
    · subst e
      rw [isSkip_lineTokens sb' to l' hs, isSkip_lineTokens sb frm l' hs]
    · rw [drow_lineTokens hsb h1, drow_lineTokens hsb' h2]

/-- the flat item list does not depend on the substitution set -/
theorem numBodyD_tokens_indep {dlm : Dlm} {c : Nat} {sb sb2 : Subs} (hsb : SubsOK dlm sb) (hsb2 : SubsOK dlm sb2) {b : List Str}
    (h : NumBodyD dlm c b) : normalTokens sb dlm b = normalTokens sb2 dlm b := by
  induction b with
  | nil => rfl
  | cons l ls ih =>
    simp only [normalTokens, List.flatMap_cons] at ih ⊢
    rw [ih (fun x hx => h x (List.mem_cons_of_mem _ hx))]
    congr 1
    rcases h l (by simp) with hs | ⟨cells, _, h1⟩
    · rw [isSkip_lineTokens sb dlm l hs, isSkip_lineTokens sb2 dlm l hs]
    · rw [drow_lineTokens_raw hsb h1, drow_lineTokens_raw hsb2 h1]

/-! ### the sniffer -/

/-- the item counts the sniffer records, one per sampled line -/
def countsOf (sb : Subs) (dlm : Dlm) (body : List Str) : List Nat :=
  (body.filterMap sampleLine).map (fun l => (splitLine dlm (applySubs sb l)).length)

/-- the number of data lines (lines the sniffer samples) -/
def dataCount (body : List Str) : Nat := (body.filterMap sampleLine).length

theorem sniffB_count (sb : Subs) (dlm : Dlm) (body : List Str) :
    (sniffB sb dlm body).count = consistent ((countsOf sb dlm body).take 21) := by
  unfold sniffB countsOf
  simp only [List.map_take]

theorem numBodyD_counts {dlm : Dlm} {c : Nat} {sb : Subs} (hsb : SubsOK dlm sb) {b : List Str} (h : NumBodyD dlm c b) :
    countsOf sb dlm b = List.replicate (dataCount b) c := by
  induction b with
  | nil => rfl
  | cons l ls ih =>
    have ih' := ih (fun x hx => h x (List.mem_cons_of_mem _ hx))
    unfold countsOf dataCount at ih' ⊢
    rcases h l (by simp) with hs | ⟨cells, hc, h1⟩
    · simp only [List.filterMap_cons, sampleLine_eq l, hs, if_true]
      exact ih'
    · obtain ⟨s, h2, h3⟩ := drow_sample h1
      simp only [List.filterMap_cons, h2, List.map_cons, List.length_cons, List.replicate_succ, ih', h3 sb hsb, hc]

theorem bodyRel_dataCount {frm to : Dlm} {c : Nat} {b b' : List Str} (h : BodyRel frm to c b b') : dataCount b' = dataCount b := by
  induction h with
  | nil => rfl
  | @cons l l' ls ls' hl _ ih =>
    unfold dataCount at ih ⊢
    rcases hl with ⟨hs, e⟩ | ⟨cells, _, h1, h2⟩
    · subst e
      simp only [List.filterMap_cons, sampleLine_eq l', hs, if_true]
      exact ih
    · obtain ⟨s, e1, _⟩ := drow_sample h1
      obtain ⟨s', e2, _⟩ := drow_sample h2
      simp only [List.filterMap_cons, e1, e2, List.length_cons, ih]

/-- the sniffed column count (after the at most one accepted recommendation): `c` when there is a data line, none otherwise -/
theorem numBodyD_sniffTwiceB {dlm : Dlm} {c : Nat} {sb : Subs} (hsb : SubsOK dlm sb) {b : List Str} (h : NumBodyD dlm c b) :
    (sniffTwiceB sb dlm b).2 = consistent ((List.replicate (dataCount b) c).take 21) := by
  unfold sniffTwiceB
  simp only
  split
  · simp only [sniffB_count, numBodyD_counts (subsOK_dropHyphen hsb) h]
  · simp only [sniffB_count, numBodyD_counts hsb h]

theorem consistent_replicate (k c : Nat) (hk : 0 < k) : consistent ((List.replicate k c).take 21) = some c := by
  apply consistent_const
  · intro e
    have := congrArg List.length e
    simp at this
    omega
  · intro x hx
    exact List.eq_of_mem_replicate (List.mem_of_mem_take hx)

theorem sniffTwiceB_subsOK {dlm : Dlm} {sb : Subs} (hsb : SubsOK dlm sb) (b : List Str) : SubsOK dlm (sniffTwiceB sb dlm b).1 := by
  rcases sniffTwiceB_subs sb dlm b with e | e <;> rw [e]
  · exact hsb
  · exact subsOK_dropHyphen hsb

/-! ### the normal engine, `readBody` -/

/-- the steering values with another delimiter -/
def withDlm (st : Steer) (to : Dlm) : Steer := { st with delimiter := to }

/-- NORMAL ENGINE, one window: bodies related line by line are read alike, the second with the steering delimiter `to` — sniffer
(sample of 21 data lines, hyphen rule) included -/
theorem normalRead_rel (o : DataOpts) (st : Steer) (to : Dlm) (d : Nat) (ft : FloatTable) {c : Nat} {b b' : List Str}
    (h : BodyRel st.delimiter to c b b')
    (hS : FtStripOn ft (normalTokens (readSubs st.delimiter) st.delimiter b))
    (hS' : FtStripOn ft (normalTokens (readSubs to) to b'))
    (hC : Converts ft (normalTokens (readSubs st.delimiter) st.delimiter b)) :
    normalRead o (withDlm st to) d ft b' = normalRead o st d ft b := by
  have hl := (bodyRel_numBodyD h).1
  have hr := (bodyRel_numBodyD h).2
  have k1 := sniffTwiceB_subsOK (subsOK_readSubs st.delimiter) b
  have k2 := sniffTwiceB_subsOK (subsOK_readSubs to) b'
  have s1 := numBodyD_sniffTwiceB (subsOK_readSubs st.delimiter) hl
  have s2 := numBodyD_sniffTwiceB (subsOK_readSubs to) hr
  rw [bodyRel_dataCount h] at s2
  unfold normalRead
  show (normalEngineLines ft (sniffTwiceB (readSubs to) to b').1 to
      (readerColumns (withDlm st to) d (sniffTwiceB (readSubs to) to b').2) b').map (finishCols o (withDlm st to) d .normal) = _
  rw [s1, s2, normalEngineLines_eq, normalEngineLines_eq]
  have e1 : normalTokens (sniffTwiceB (readSubs st.delimiter) st.delimiter b).1 st.delimiter b =
      normalTokens (readSubs st.delimiter) st.delimiter b := numBodyD_tokens_indep k1 (subsOK_readSubs _) hl
  have e2 : normalTokens (sniffTwiceB (readSubs to) to b').1 to b' = normalTokens (readSubs to) to b' :=
    numBodyD_tokens_indep k2 (subsOK_readSubs _) hr
  rw [e1, e2]
  rw [engineToks_congr ft _ _ _ (bodyRel_tokens (subsOK_readSubs st.delimiter) (subsOK_readSubs to) h) hS hS' hC]
  rfl

theorem effectiveEngine_withDlm (o : DataOpts) (st : Steer) (to : Dlm) : effectiveEngine o (withDlm st to) = effectiveEngine o st := rfl

/-- `readData` on the window, normal engine in effect (engine='normal', a wrapped file, or a non-strict null policy) -/
theorem readBody_rel_normal (o : DataOpts) (st : Steer) (to : Dlm) (d : Nat) (ft : FloatTable) {c : Nat} {b b' : List Str}
    (after after' : List Str) (he : effectiveEngine o st = .normal)
    (h : BodyRel st.delimiter to c b b')
    (hS : FtStripOn ft (normalTokens (readSubs st.delimiter) st.delimiter b))
    (hS' : FtStripOn ft (normalTokens (readSubs to) to b'))
    (hC : Converts ft (normalTokens (readSubs st.delimiter) st.delimiter b)) :
    readBody o (withDlm st to) d ft b' after' = readBody o st d ft b after := by
  unfold readBody
  simp only [effectiveEngine_withDlm, he]
  exact normalRead_rel o st to d ft h hS hS' hC

theorem bodyRel_npRows {frm to : Dlm} (hf : frm ≠ .comma) (ht : to ≠ .comma) {c : Nat} {b b' : List Str}
    (h : BodyRel frm to c b b') : npRows b' = npRows b := by
  induction h with
  | nil => rfl
  | @cons l l' ls ls' hl _ ih =>
    rw [npRows_cons, npRows_cons, ih]
    rcases hl with ⟨_, e⟩ | ⟨cells, _, h1, h2⟩
    · rw [e]
    · rw [drow_npTokens hf h1, drow_npTokens ht h2]

/-- `readData` on the window, any engine, SPACE / TAB delimiters on both sides (a TAB is white space for genfromtxt): the same
answer from the same engine -/
theorem readBody_rel_ws (o : DataOpts) (st : Steer) (to : Dlm) (d : Nat) (ft : FloatTable) {c : Nat} {b b' : List Str}
    (after : List Str) (hf : st.delimiter ≠ .comma) (ht : to ≠ .comma)
    (h : BodyRel st.delimiter to c b b')
    (hS : FtStripOn ft (normalTokens (readSubs st.delimiter) st.delimiter b))
    (hS' : FtStripOn ft (normalTokens (readSubs to) to b'))
    (hC : Converts ft (normalTokens (readSubs st.delimiter) st.delimiter b)) :
    readBody o (withDlm st to) d ft b' after = readBody o st d ft b after := by
  have hn := normalRead_rel o st to d ft h hS hS' hC
  have hlen : b'.length = b.length := forall2_length h
  have hnp : numpyEngineLines ft b'.length (b' ++ after) = numpyEngineLines ft b.length (b ++ after) := by
    rw [numpyEngineLines_rows, numpyEngineLines_rows, npRows_append, npRows_append, bodyRel_npRows hf ht h, hlen]
  unfold readBody
  rw [effectiveEngine_withDlm, hnp, hn]
  rfl


/-! ### the transformations produce related bodies -/

/-- every line of the body is a blank/comment line or a data line of `c` plain decimal cells (cut with `frm`) -/
def numBody (frm : Dlm) (c : Nat) (body : List Str) : Bool :=
  body.all fun l => isSkip l || (numCells frm l && (cellsOf frm (splitEol l).1).length == c)

theorem numBody_line {frm : Dlm} {c : Nat} {body : List Str} (h : numBody frm c body = true) :
    ∀ l ∈ body, isSkip l = true ∨ (numCells frm l = true ∧ (cellsOf frm (splitEol l).1).length = c) := by
  intro l hl
  unfold numBody at h
  have := List.all_eq_true.mp h l hl
  simpa using this

theorem numBody_cons {frm : Dlm} {c : Nat} {l : Str} {ls : List Str} (h : numBody frm c (l :: ls) = true) :
    numBody frm c ls = true := by
  unfold numBody at h ⊢
  simp only [List.all_cons, Bool.and_eq_true] at h
  exact h.2

theorem numBody_numBodyD {frm : Dlm} {c : Nat} {body : List Str} (h : numBody frm c body = true) : NumBodyD frm c body := by
  intro l hl
  rcases numBody_line h l hl with hs | ⟨hn, hc⟩
  · exact Or.inl hs
  · exact Or.inr ⟨_, hc, drow_of_numCells frm l hn⟩

theorem lineRel_refl {dlm : Dlm} {c : Nat} {l : Str} (h : isSkip l = true ∨ ∃ cells, cells.length = c ∧ DRow dlm cells l) :
    LineRel dlm dlm c l l := by
  rcases h with hs | ⟨cells, hc, h1⟩
  · exact Or.inl ⟨hs, rfl⟩
  · exact Or.inr ⟨cells, hc, h1, h1⟩

theorem bodyRel_refl {dlm : Dlm} {c : Nat} {b : List Str} (h : NumBodyD dlm c b) : BodyRel dlm dlm c b b := by
  induction b with
  | nil => exact .nil
  | cons l ls ih => exact .cons (lineRel_refl (h l (by simp))) (ih (fun x hx => h x (List.mem_cons_of_mem _ hx)))

theorem lineRel_relay {frm to : Dlm} {c : Nat} (seps : List Str) (hs : SepsOK to seps) {l : Str} (hn : numCells frm l = true)
    (hc : (cellsOf frm (splitEol l).1).length = c) : LineRel frm to c l (relayLine1 frm to seps l) :=
  Or.inr ⟨_, hc, drow_of_numCells frm l hn, drow_relay frm to seps l hn hs⟩

/-- RE-DELIMITING: the body and the re-laid body are related -/
theorem bodyRel_relayBody (frm to : Dlm) (c : Nat) (seps : List Str) (body : List Str) (hb : numBody frm c body = true)
    (hs : SepsOK to seps) : BodyRel frm to c body (relayBody frm to seps body) := by
  induction body with
  | nil => exact .nil
  | cons l ls ih =>
    simp only [relayBody, List.map_cons]
    refine .cons ?_ (ih (numBody_cons hb))
    rcases numBody_line hb l (by simp) with hsk | ⟨hn, hc⟩
    · simp only [hsk, if_true]
      exact Or.inl ⟨hsk, rfl⟩
    · have : isSkip l = false := drow_not_skip (drow_of_numCells frm l hn)
      simp only [this, Bool.false_eq_true, if_false]
      exact lineRel_relay seps hs hn hc

/-- RE-PADDING one line (`repadLine`): the body and the body with line `k` re-laid are related -/
theorem bodyRel_mapAt (dlm : Dlm) (c : Nat) (seps : List Str) (body : List Str) (k : Nat) (hb : numBody dlm c body = true)
    (hs : SepsOK dlm seps) (hk : ∀ l, body[k]? = some l → isSkip l = false) :
    BodyRel dlm dlm c body (mapAt k (relayLine1 dlm dlm seps) body) := by
  induction body generalizing k with
  | nil => simp only [mapAt]; exact .nil
  | cons l ls ih =>
    cases k with
    | zero =>
      simp only [mapAt]
      refine .cons ?_ (bodyRel_refl (numBody_numBodyD (numBody_cons hb)))
      rcases numBody_line hb l (by simp) with hsk | ⟨hn, hc⟩
      · have := hk l (by simp)
        rw [hsk] at this
        cases this
      · exact lineRel_relay seps hs hn hc
    | succ k =>
      simp only [mapAt]
      refine .cons (lineRel_refl ?_) (ih k (numBody_cons hb) (fun x hx => hk x (by simpa using hx)))
      exact numBody_numBodyD hb l (by simp)


theorem dataCount_pos (body : List Str) (h : ∃ l ∈ body, isSkip l = false) : 0 < dataCount body := by
  obtain ⟨l, hl, hs⟩ := h
  unfold dataCount
  induction body with
  | nil => cases hl
  | cons a rest ih =>
    simp only [List.filterMap_cons]
    rcases List.mem_cons.mp hl with rfl | hl
    · simp [sampleLine_eq, hs]
    · have := ih hl
      cases sampleLine a
      · simpa using this
      · simp

/-- with the numpy engine in effect and the engines agreeing on the window alone: the curves are those of the normal engine,
whatever follows the window (the end of the file or a title line) -/
theorem readBody_alone (o : DataOpts) (st : Steer) (d : Nat) (ft : FloatTable) (b after : List Str) (ha : AfterOK ft after)
    (hag : AgreeAlone o st d ft b) : (readBody o st d ft b after).map Prod.snd = (normalRead o st d ft b).map Prod.snd := by
  rw [readBody_sim o st d ft (bodySim_refl st.delimiter b) ha (afterOK_nil ft) hag]
  exact hag

/-! ### the documents the transformations produce -/

theorem mapAt_append_left (k : Nat) (f : Str → Str) (A r : Doc) (hk : k < A.length) : mapAt k f (A ++ r) = mapAt k f A ++ r := by
  induction A generalizing k with
  | nil => simp at hk
  | cons a A ih =>
    cases k with
    | zero => rfl
    | succ k => simp only [List.cons_append, mapAt]; rw [ih k (by simpa using hk)]

theorem mapAt_append_right (k : Nat) (f : Str → Str) (A r : Doc) : mapAt (A.length + k) f (A ++ r) = A ++ mapAt k f r := by
  induction A with
  | nil => simp
  | cons a A ih =>
    have : (a :: A).length + k = (A.length + k) + 1 := by simp; omega
    rw [this]
    simp only [List.cons_append, mapAt, ih]

theorem mapAt_length (k : Nat) (f : Str → Str) (d : Doc) : (mapAt k f d).length = d.length := by
  induction d generalizing k with
  | nil => simp [mapAt]
  | cons a d ih => cases k <;> simp [mapAt, ih]

theorem insLine_append (k : Nat) (l : Str) (A r : Doc) (hk : k ≤ A.length) : insLine k l (A ++ r) = insLine k l A ++ r := by
  unfold insLine
  rw [List.take_append_of_le_length hk, List.drop_append_of_le_length hk]
  simp

theorem relayBody_length (frm to : Dlm) (seps : List Str) (body : List Str) : (relayBody frm to seps body).length = body.length := by
  simp [relayBody]

/-- the lines before the data section after the DLM item was replaced (`replace`) or inserted -/
def redelimHead (vk : Nat) (replace : Bool) (to : Dlm) (A : Doc) : Doc :=
  if replace then mapAt vk (fun l => dlmItemLine to ++ (splitEol l).2) A else insLine vk (dlmItemLine to) A

/-- `redelim` on a document given by its parts: lines `A` before the title `t` of the data section, its `body`, the lines
`after` it; the DLM item is line `vk` of `A` (`replace`) or is inserted before line `vk ≤ |A|` -/
theorem redelim_window (A : Doc) (t : Str) (body after : Doc) (vk : Nat) (replace : Bool) (frm to : Dlm) (seps : List Str)
    (hvk : vk ≤ A.length) (hrep : replace = true → vk < A.length) :
    redelim A.length (A.length + body.length) vk replace frm to seps (A ++ t :: (body ++ after)) =
      redelimHead vk replace to A ++ t :: (relayBody frm to seps body ++ after) := by
  unfold redelim redelimHead
  have e1 : (A ++ t :: (body ++ after)).take (A.length + 1) = A ++ [t] := by
    rw [List.take_append, List.take_of_length_le (by omega)]
    simp
  have e2 : (A ++ t :: (body ++ after)).drop (A.length + body.length + 1) = after := by
    have : A ++ t :: (body ++ after) = (A ++ t :: body) ++ after := by simp
    rw [this]
    have hl : (A ++ t :: body).length = A.length + body.length + 1 := by simp; omega
    rw [← hl, List.drop_left]
  simp only [e1, e2, bodyLines_at]
  have e3 : A ++ [t] ++ relayBody frm to seps body ++ after = A ++ (t :: (relayBody frm to seps body ++ after)) := by simp
  rw [e3]
  cases replace with
  | true =>
    simp only [if_true]
    exact mapAt_append_left vk _ A _ (hrep rfl)
  | false =>
    simp only [Bool.false_eq_true, if_false]
    exact insLine_append vk _ A _ hvk

/-- `repadLine` on line `j` of the body of a data section -/
theorem repadLine_window (A : Doc) (t : Str) (body after : Doc) (j : Nat) (dlm : Dlm) (seps : List Str) (hj : j < body.length) :
    repadLine (A.length + 1 + j) dlm seps (A ++ t :: (body ++ after)) =
      A ++ t :: (mapAt j (relayLine1 dlm dlm seps) body ++ after) := by
  unfold repadLine
  have e : A ++ t :: (body ++ after) = (A ++ [t]) ++ (body ++ after) := by simp
  have hl : A.length + 1 + j = (A ++ [t]).length + j := by simp
  rw [e, hl, mapAt_append_right, mapAt_append_left j _ body after hj]
  simp


/-! ### whole file: `repadLine` for any delimiter, numeric cells -/

theorem drow_not_title {dlm : Dlm} {cells : List Str} {l : Str} (h : DRow dlm cells l) : Rd.isTitle l = false := by
  obtain ⟨core, hcore, hcl⟩ := drow_clean h
  rw [Rd.isTitle_eq, ← cleanLine_eq_strip, hcl]
  obtain ⟨c, cs, rfl, hc⟩ := sepd_head hcore
  have hne : c ≠ '~' := by
    have := plainChar_ne c '~' hc (by decide)
    simpa using this
  cases hst : Rd.startsTilde (c :: cs) with
  | false => rfl
  | true =>
    obtain ⟨t, e⟩ := (Rd.startsTilde_iff _).mp hst
    cases e
    exact absurd rfl hne

theorem numBodyD_no_title {dlm : Dlm} {c : Nat} {b : List Str} (h : NumBodyD dlm c b) : ∀ x ∈ b, Rd.isTitle x = false := by
  intro x hx
  rcases h x hx with hsk | ⟨cells, _, hd⟩
  · cases hti : Rd.isTitle x with
    | false => rfl
    | true =>
      -- a skip line is not a title line: its clean text is empty or starts with '#'
      exfalso
      rw [Rd.isTitle_eq, ← cleanLine_eq_strip] at hti
      obtain ⟨u, hu⟩ := (Rd.startsTilde_iff _).mp hti
      unfold isSkip at hsk
      rw [hu] at hsk
      simp [isComment, startsWith] at hsk
  · exact drow_not_title hd

/-- the document around one of its sections -/
theorem doc_split (pre : List Str) (A C : List (Str × List Str)) (t : Str) (b : List Str) :
    pre ++ Rd.flat (A ++ (t, b) :: C) = (pre ++ Rd.flat A) ++ t :: (b ++ Rd.flat C) ∧
    (pre ++ Rd.flat A).length = pre.length + Rd.size A := by
  constructor
  · simp [flat_append, Rd.flat]
  · simp [size_eq_flat_length]

theorem mapAt_mem (k : Nat) (f : Str → Str) (d : Doc) : ∀ x ∈ mapAt k f d, x ∈ d ∨ ∃ y ∈ d, x = f y := by
  induction d generalizing k with
  | nil => intro x hx; simp [mapAt] at hx
  | cons a d ih =>
    intro x hx
    cases k with
    | zero =>
      simp only [mapAt] at hx
      rcases List.mem_cons.mp hx with rfl | hx
      · exact Or.inr ⟨a, by simp, rfl⟩
      · exact Or.inl (List.mem_cons_of_mem _ hx)
    | succ k =>
      simp only [mapAt] at hx
      rcases List.mem_cons.mp hx with rfl | hx
      · exact Or.inl (by simp)
      · rcases ih k x hx with h | ⟨y, hy, e⟩
        · exact Or.inl (List.mem_cons_of_mem _ h)
        · exact Or.inr ⟨y, List.mem_cons_of_mem _ hy, e⟩

/-- `repadLine` on the document structure: line `j` of the body of the addressed data section is re-laid -/
theorem repadLine_struct (pre : List Str) (s₁ s₂ : List (Str × List Str)) (t : Str) (body : List Str) (j : Nat) (dlm : Dlm)
    (seps : List Str) (hj : j < body.length) :
    repadLine (pre.length + Rd.size s₁ + 1 + j) dlm seps (pre ++ Rd.flat (s₁ ++ (t, body) :: s₂)) =
      pre ++ Rd.flat (s₁ ++ (t, mapAt j (relayLine1 dlm dlm seps) body) :: s₂) := by
  rw [(doc_split pre s₁ s₂ t body).1, (doc_split pre s₁ s₂ t _).1, ← (doc_split pre s₁ s₂ t body).2]
  exact repadLine_window (pre ++ Rd.flat s₁) t body (Rd.flat s₂) j dlm seps hj

/-- STEP for `repadLine` with any delimiter: numeric cells, `float()` ignoring the blanks around the items met; the normal
engine in effect, or a delimiter other than COMMA -/
theorem base_repad_delimited (o : Opts) (nullOf : Option Str → Option Str) (ft : FloatTable) (htf : TildeNotFloat ft)
    (pre : List Str) (s₁ s₂ : List (Str × List Str)) (t : Str) (body : List Str) (j : Nat) (dlm : Dlm) (seps : List Str) (c : Nat)
    (r : FullRead) (hpre : ∀ x ∈ pre, Rd.isTitle x = false) (hw : Rd.WellFormed (s₁ ++ (t, body) :: s₂))
    (hk : isDataKind (kindOf t)) (hj : j < body.length) (hdata : ∀ l, body[j]? = some l → isSkip l = false)
    (hb : Base o nullOf ft (pre ++ Rd.flat (s₁ ++ (t, body) :: s₂)) r)
    (hdlm : (dtSteer nullOf r.steer).delimiter = dlm)
    (heng : effectiveEngine o.dat (dtSteer nullOf r.steer) = .normal ∨ dlm ≠ .comma)
    (hnb : numBody dlm c body = true) (hs : SepsOK dlm seps)
    (hS : FtStripOn ft (normalTokens (readSubs dlm) dlm body))
    (hS' : FtStripOn ft (normalTokens (readSubs dlm) dlm (mapAt j (relayLine1 dlm dlm seps) body)))
    (hC : Converts ft (normalTokens (readSubs dlm) dlm body)) :
    ∃ r', Base o nullOf ft (repadLine (pre.length + Rd.size s₁ + 1 + j) dlm seps
        (pre ++ Rd.flat (s₁ ++ (t, body) :: s₂))) r' ∧ r'.steer = r.steer ∧ r'.parsed = r.parsed := by
  rw [repadLine_struct pre s₁ s₂ t body j dlm seps hj]
  have hrelB := bodyRel_mapAt dlm c seps body j hnb hs hdata
  have hw' := wellFormed_replace hw (numBodyD_no_title (bodyRel_numBodyD hrelB).2)
  let G : Steer → Nat → List Str → Prop := fun st d x =>
    AgreeAlone o.dat st d ft x ∧ st.delimiter = dlm ∧ (effectiveEngine o.dat st = .normal ∨ dlm ≠ .comma)
  have hGA : ∀ st d x, G st d x → AgreeAlone o.dat st d ft x := fun st d x hg => hg.1
  -- the window, read with the steering values `st` (delimiter `dlm`)
  have hwin : ∀ (st : Steer) (d : Nat) (after : List Str), st.delimiter = dlm →
      (effectiveEngine o.dat st = .normal ∨ dlm ≠ .comma) →
      readBody o.dat st d ft (mapAt j (relayLine1 dlm dlm seps) body) after = readBody o.dat st d ft body after := by
    intro st d after hd he
    subst hd
    rcases he with he | he
    · exact readBody_rel_normal o.dat st st.delimiter d ft after after he hrelB hS hS' hC
    · exact readBody_rel_ws o.dat st st.delimiter d ft after he he hrelB hS hS' hC
  have hrel := docRel_replace o.dat ft htf G hGA s₁ s₂ t body (mapAt j (relayLine1 dlm dlm seps) body) hw hw'
    (secRel_data _ _ hk)
    (fun _ st d hg => by rw [hwin st d (Rd.flat s₂) hg.2.1 hg.2.2])
  have hag := hb.agree
  rw [parse_struct pre _ hpre hw] at hag
  have hG : AllData (G (dtSteer nullOf r.steer) (declaredCount r.sections)) (s₁ ++ (t, body) :: s₂) :=
    fun tb htb hkk => ⟨hag tb htb hkk, hdlm, heng⟩
  obtain ⟨r', h1, h2, h3⟩ := readFull_rel o nullOf ft G pre pre _ _ hpre hpre hw hw' hrel r hb.read hG
  refine ⟨r', ⟨h1, ?_⟩, h2, h3⟩
  have hsecs : r'.sections = r.sections := congrArg Parsed.sections h3
  rw [h2, hsecs, parse_struct pre _ hpre hw']
  intro tb htb hkk
  rcases List.mem_append.mp htb with h | h
  · exact hag tb (List.mem_append_left _ h) hkk
  · rcases List.mem_cons.mp h with rfl | h
    · have h0 : AgreeAlone o.dat (dtSteer nullOf r.steer) (declaredCount r.sections) ft body := hag (t, body) (by simp) hk
      unfold AgreeAlone at h0 ⊢
      have e2 : normalRead o.dat (dtSteer nullOf r.steer) (declaredCount r.sections) ft (mapAt j (relayLine1 dlm dlm seps) body) =
          normalRead o.dat (dtSteer nullOf r.steer) (declaredCount r.sections) ft body := by
        subst hdlm
        exact normalRead_rel o.dat _ _ _ ft hrelB hS hS' hC
      rw [hwin _ _ [] hdlm heng, e2]
      exact h0
    · exact hag tb (List.mem_append_right _ (List.mem_cons_of_mem _ h)) hkk


/-! ### genfromtxt on COMMA-delimited windows -/

/-- `float()` rejects a token that contains a comma -/
def CommaNotFloat (ft : FloatTable) : Prop := ∀ t : Str, ',' ∈ t → toFloat ft t = none

theorem mem_word_of_mem (s : Str) (c : Char) (hc : c ∈ s) (hns : isPySpace c = false) : ∃ w ∈ pySplit s, c ∈ w := by
  induction s using words_induction with
  | nil => cases hc
  | ws b cs hb ih =>
    rw [pySplit_ws b cs hb]
    rcases List.mem_cons.mp hc with rfl | hc
    · rw [hb] at hns; cases hns
    · exact ih hc
  | word w tail _ _ hsp ih =>
    rw [hsp]
    rcases List.mem_append.mp hc with hc | hc
    · exact ⟨w, by simp, hc⟩
    · obtain ⟨w', hw', hcw⟩ := ih hc
      exact ⟨w', List.mem_cons_of_mem _ hw', hcw⟩

theorem sepd_comma_mem {cells : List Str} {s : Str} (h : Sepd .comma cells s) (hc : 2 ≤ cells.length) : ',' ∈ s := by
  cases h with
  | one _ => simp at hc
  | cons _ hs _ =>
    obtain ⟨a, b, rfl, _, _⟩ := hs
    simp

/-- a COMMA-delimited line of two or more numeric cells has a genfromtxt token with a comma in it -/
theorem drow_comma_token {cells : List Str} {l : Str} (h : DRow .comma cells l) (hc : 2 ≤ cells.length) :
    ∃ tk ∈ npTokens l, ',' ∈ tk := by
  obtain ⟨pre, core, post, hpre, hpost, hcore, rfl⟩ := h
  have hnh : ∀ c ∈ pre ++ (core ++ post), (c != '#') = true := by
    intro c hcm
    simp only [List.mem_append] at hcm
    rcases hcm with hcm | hcm | hcm
    · exact allWs_no_hash pre hpre c hcm
    · rcases sepd_chars hcore c hcm with h1 | h1 | rfl
      · simp [bne, (tokChar_parts c (plainChar_tokChar c h1)).2.2.2.1]
      · simp [bne, ws_ne_hash c h1]
      · decide
    · exact allWs_no_hash post hpost c hcm
  unfold npTokens
  rw [Lasio.Dt.takeWhile_all _ _ hnh]
  apply mem_word_of_mem _ ',' _ (by decide)
  simp only [List.mem_append]
  exact Or.inr (Or.inl (sepd_comma_mem hcore hc))

theorem collectRows_len (c b : Nat) (rows rs : List (List Str)) (h : collectRows c b rows = some rs) : ∀ r ∈ rs, r.length = c := by
  induction rows generalizing b rs with
  | nil => cases b <;> simp [collectRows] at h <;> subst h <;> simp
  | cons t rest ih =>
    cases b with
    | zero => simp [collectRows] at h; subst h; simp
    | succ b =>
      simp only [collectRows] at h
      split at h
      · cases h
      · rename_i hlen
        cases hc : collectRows c b rest with
        | none => simp [hc] at h
        | some r2 =>
          simp [hc] at h
          subst h
          intro r hr
          rcases List.mem_cons.mp hr with rfl | hr
          · simpa using hlen
          · exact ih b r2 hc r hr

/-- a row with a token `float()` rejects, among the first `m` rows: genfromtxt raises -/
theorem numpyRows_bad_token (ft : FloatTable) (m : Nat) (rows : List (List Str)) (row : List Str) (tk : Str)
    (hrow : row ∈ rows.take m) (htk : tk ∈ row) (hnf : toFloat ft tk = none) : numpyRows ft m rows = none := by
  unfold numpyRows
  split
  · rfl
  · cases hh : rows.head? with
    | none =>
      have : rows = [] := by cases rows <;> simp at hh ⊢
      subst this
      simp at hrow
    | some r =>
      simp only
      cases hcol : collectRows r.length m rows with
      | none => rfl
      | some rs =>
        simp only
        have hrs := collectRows_some _ _ _ _ hcol
        have hlen := collectRows_len _ _ _ _ hcol row (by rw [hrs]; exact hrow)
        obtain ⟨i, hi, hget⟩ := List.getElem_of_mem htk
        have hcolmem : columnOf rs i ∈ columnsOf r.length rs := by
          simp only [columnsOf, List.mem_map, List.mem_range]
          exact ⟨i, by omega, rfl⟩
        apply allFloatCols_none_of_mem ft _ _ tk hcolmem _ hnf
        simp only [columnOf, List.mem_map]
        refine ⟨row, by rw [hrs]; exact hrow, ?_⟩
        rw [List.getD_eq_getElem?_getD, List.getElem?_eq_getElem hi, hget]
        rfl

theorem mem_npRows (b : List Str) (l : Str) (hl : l ∈ b) (hne : npTokens l ≠ []) : npTokens l ∈ npRows b := by
  unfold npRows
  rw [List.mem_filter]
  refine ⟨List.mem_map_of_mem hl, ?_⟩
  cases h : npTokens l with
  | nil => exact absurd h hne
  | cons _ _ => rfl

/-- GENFROMTXT RAISES on a COMMA-delimited window with a data line of two or more numeric cells, whatever follows it -/
theorem numpy_raises_comma (ft : FloatTable) (hcf : CommaNotFloat ft) {c : Nat} {b : List Str} (h : NumBodyD .comma c b)
    (hc : 2 ≤ c) (hd : ∃ l ∈ b, isSkip l = false) (after : List Str) :
    numpyEngineLines ft b.length (b ++ after) = none := by
  obtain ⟨l, hl, hns⟩ := hd
  rcases h l hl with hs | ⟨cells, hlen, hrow⟩
  · rw [hs] at hns; cases hns
  · obtain ⟨tk, htk, hcomma⟩ := drow_comma_token hrow (by omega)
    have hne : npTokens l ≠ [] := by intro e; rw [e] at htk; cases htk
    rw [numpyEngineLines_rows, npRows_append]
    apply numpyRows_bad_token ft _ _ (npTokens l) tk _ htk (hcf tk hcomma)
    rw [List.take_append, List.take_of_length_le (npRows_length_le b)]
    exact List.mem_append_left _ (mem_npRows b l hl hne)

/-- a COMMA-delimited window (a data line of two or more numeric cells) is read by the normal engine, whatever engine is asked for -/
theorem readBody_comma (o : DataOpts) (st : Steer) (d : Nat) (ft : FloatTable) (hcf : CommaNotFloat ft) {c : Nat} {b : List Str}
    (h : NumBodyD .comma c b) (hc : 2 ≤ c) (hd : ∃ l ∈ b, isSkip l = false) (after : List Str) :
    readBody o st d ft b after = normalRead o st d ft b := by
  unfold readBody
  cases effectiveEngine o st with
  | normal => rfl
  | numpy => simp only [numpy_raises_comma ft hcf h hc hd after]

theorem bodyRel_data {frm to : Dlm} {c : Nat} {b b' : List Str} (h : BodyRel frm to c b b') (hd : ∃ l ∈ b, isSkip l = false) :
    ∃ l ∈ b', isSkip l = false := by
  induction h with
  | nil => obtain ⟨l, hl, _⟩ := hd; cases hl
  | @cons l l' ls ls' hl _ ih =>
    obtain ⟨x, hx, hxs⟩ := hd
    rcases List.mem_cons.mp hx with rfl | hx
    · rcases hl with ⟨hs, _⟩ | ⟨cells, _, _, h2⟩
      · rw [hs] at hxs; cases hxs
      · exact ⟨l', by simp, drow_not_skip h2⟩
    · obtain ⟨y, hy, hys⟩ := ih ⟨x, hx, hxs⟩
      exact ⟨y, List.mem_cons_of_mem _ hy, hys⟩

/-! ### the header-level reader does not see the re-laid body -/

theorem dataWins_body_congr (k : Rd.SecKind) (s₁ s₂ : List (Str × List Str)) (t : Str) (b b' : List Str) (hl : b'.length = b.length)
    (n : Nat) : dataWins k (s₁ ++ (t, b') :: s₂) n = dataWins k (s₁ ++ (t, b) :: s₂) n := by
  induction s₁ generalizing n with
  | nil => simp only [List.nil_append, dataWins, secWin, hl]
  | cons x rest ih => simp only [List.cons_append, dataWins, ih]

theorem docData_body_congr (s₁ s₂ : List (Str × List Str)) (t : Str) (b b' : List Str) (hl : b'.length = b.length) (n : Nat) :
    docData (s₁ ++ (t, b') :: s₂) n = docData (s₁ ++ (t, b) :: s₂) n := by
  unfold docData
  rw [dataWins_body_congr .data s₁ s₂ t b b' hl, dataWins_body_congr .las3data s₁ s₂ t b b' hl]

theorem forall2_secRel_refl (s : List (Str × List Str)) : Forall2 SecRel s s := by
  induction s with
  | nil => exact .nil
  | cons x rest ih => exact .cons (secRel_refl x) ih

theorem forall2_secRel_replace (s₁ s₂ : List (Str × List Str)) (t : Str) (b b' : List Str) (h : SecRel (t, b) (t, b')) :
    Forall2 SecRel (s₁ ++ (t, b) :: s₂) (s₁ ++ (t, b') :: s₂) := by
  induction s₁ with
  | nil => exact .cons h (forall2_secRel_refl s₂)
  | cons x rest ih => exact .cons (secRel_refl x) ih

/-- the data windows the header-level reader reports for a document given by its structure -/
theorem readLines_data (o : Rd.ReadOpts) (pre : List Str) (secs : List (Str × List Str))
    (hpre : ∀ x ∈ pre, Rd.isTitle x = false) (hw : Rd.WellFormed secs) (hd : Rd.RHeader)
    (h : Rd.readLines o (pre ++ Rd.flat secs) = .ok hd) : hd.data = docData secs pre.length :=
  (readLines_rel o pre pre secs secs hpre hpre hw hw (forall2_secRel_refl secs) hd h).1

/-- what follows a section of a well-formed document: nothing, or the title line of the next section, whose first token
`float()` rejects -/
theorem after_next (ft : FloatTable) (htf : TildeNotFloat ft) (A C : List (Str × List Str)) (t : Str) (b : List Str)
    (hw : Rd.WellFormed (A ++ (t, b) :: C)) :
    Rd.flat C = [] ∨ ∃ ln rest tk ts, Rd.flat C = ln :: rest ∧ npTokens ln = tk :: ts ∧ toFloat ft tk = none :=
  afterOK_flat ft htf C (wellFormed_tail (wellFormed_append_right hw))


/-- HEADER LEVEL: the document with the body of one data section re-laid reads to the same sections, the same steering values
and the same data windows -/
theorem readLines_relayBody (o : Rd.ReadOpts) (pre : List Str) (s₁ s₂ : List (Str × List Str)) (t : Str) (body : List Str)
    (frm to : Dlm) (c : Nat) (seps : List Str) (hpre : ∀ x ∈ pre, Rd.isTitle x = false)
    (hw : Rd.WellFormed (s₁ ++ (t, body) :: s₂)) (hk : isDataKind (kindOf t)) (hb : numBody frm c body = true) (hs : SepsOK to seps)
    (h : Rd.RHeader) (hr : Rd.readLines o (pre ++ Rd.flat (s₁ ++ (t, body) :: s₂)) = .ok h) :
    Rd.readLines o (pre ++ Rd.flat (s₁ ++ (t, relayBody frm to seps body) :: s₂)) = .ok h := by
  have hw' := wellFormed_replace hw (numBodyD_no_title (bodyRel_numBodyD (bodyRel_relayBody frm to c seps body hb hs)).2)
  obtain ⟨hd, hr'⟩ :=
    readLines_rel o pre pre _ _ hpre hpre hw hw' (forall2_secRel_replace s₁ s₂ t body _ (secRel_data _ _ hk)) h hr
  rw [hr', docData_body_congr s₁ s₂ t body _ (relayBody_length frm to seps body), ← hd]

/-! ### `readFull`: the header-level reader, then `readData` on every window it reports -/

/-- every data record of a read is `readData` on its window, with the steering values and the declared count of the read -/
theorem readFull_record {o : Opts} {nullOf : Option Str → Option Str} {ft : FloatTable} {doc : Doc} {r : FullRead}
    (h : readFull o nullOf ft doc = .ok r) {x : DataRead} (hx : x ∈ r.data) :
    x.res = readData o.dat doc x.first x.last (dtSteer nullOf r.steer) (declaredCount r.sections) ft := by
  obtain ⟨hd, _, e1, e2, e3⟩ := readFull_data o nullOf ft doc r h
  rw [e3] at hx
  obtain ⟨w, _, rfl⟩ := List.mem_map.mp hx
  rw [e1, e2]

end Lasio.Tf

#print axioms Lasio.Tf.drow_lineTokens
#print axioms Lasio.Tf.drow_of_numCells
#print axioms Lasio.Tf.drow_relay
#print axioms Lasio.Tf.engineToks_congr
#print axioms Lasio.Tf.normalRead_rel
#print axioms Lasio.Tf.readBody_rel_ws
#print axioms Lasio.Tf.bodyRel_relayBody
#print axioms Lasio.Tf.bodyRel_mapAt
#print axioms Lasio.Tf.ftStrip_global_empty
#print axioms Lasio.Tf.base_repad_delimited
#print axioms Lasio.Tf.numpy_raises_comma
#print axioms Lasio.Tf.readLines_relayBody
