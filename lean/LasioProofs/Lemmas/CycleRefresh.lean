import LasioProofs.Props.C16
import LasioProofs.Lemmas.FileDlm
import LasioProofs.Lemmas.CycleDataLemmas
/-
Helper lemmas for C11Refresh: the refresh of STRT / STOP / STEP and of the units (`Wo.prepare`) inside the composed
load/save cycle.
-/
namespace Lasio.Cr
open Lasio Lasio.Wo

/-! ## `np.array_equal(index_initial, index)` for an index that was not touched -/

theorem feq_self (x : F64) (h : x.isNaN = false) : feq x x = true := by
  cases x with
  | nan => cases h
  | inf a => simp [feq]
  | finite n m e => simp [feq]

theorem arrayEqual_self (l : List F64) (h : ∀ x ∈ l, x.isNaN = false) : arrayEqual l l = true := by
  induction l with
  | nil => rfl
  | cons x xs ih =>
    simp only [arrayEqual, feq_self x (h x (by simp)), ih (fun y hy => h y (by simp [hy])), Bool.and_self]

/-- **the refresh decision of an object that `read` built**: `index_initial` is the index, so the decision is
`index_initial[-1] != STOP.value` under Python's cross-type comparison -/
theorem refreshDecision_reread (o1 : WObj) (idx : List F64) (hii : o1.indexInitial = some idx) (hidx : o1.index = some idx)
    (hnan : ∀ x ∈ idx, x.isNaN = false) (last : F64) (hl : idx.getLast? = some last) (stop : OItem)
    (hs : lookup o1.wellTr sSTOP o1.well = some stop) :
    refreshDecision o1 = .ok (pyNe last stop.value) := by
  unfold refreshDecision
  simp only [hii, hidx, hl, hs, arrayEqual_self idx hnan, Bool.not_true, Bool.false_or]

/-! ## `prepare` without refresh on aligned units changes nothing -/

theorem modify_id {α} (l : List α) (i : Nat) (f : α → α) (h : ∀ x, l[i]? = some x → f x = x) : l.modify i f = l := by
  apply List.ext_getElem?
  intro j
  rw [List.getElem?_modify]
  by_cases hij : i = j
  · subst hij
    cases hx : l[i]? with
    | none => simp
    | some x => simp [h x hx]
  · simp [hij]

theorem setUnit_same (u : Str) (x : OItem) (h : x.unit = u) : setUnit u x = x := by
  cases x; simp only [setUnit] at *; simp [h]

/-- the units of STRT, STOP, STEP (at positions `a b c`) and of the first curve are all `u` -/
structure UnitsAligned (o : WObj) (u : Str) (a b c : Nat) : Prop where
  ha : keyIdx o.wellTr sSTRT o.well = some a
  hb : keyIdx o.wellTr sSTOP o.well = some b
  hc : keyIdx o.wellTr sSTEP o.well = some c
  ua : ∀ x, o.well[a]? = some x → x.unit = u
  ub : ∀ x, o.well[b]? = some x → x.unit = u
  uc : ∀ x, o.well[c]? = some x → x.unit = u
  ucurve : ∀ c0, o.curves.head? = some c0 → c0.unit = u

theorem chosenUnit_aligned {o : WObj} {u : Str} {a b c : Nat} (h : UnitsAligned o u a b c) : chosenUnit o = some u := by
  have hstrt : (lookup o.wellTr sSTRT o.well).map (·.unit) = some u := by
    rw [lookup_eq, h.ha]
    have hlt := keyIdx_lt h.ha
    simp only [Option.bind_some, List.getElem?_eq_getElem hlt, Option.map_some, Option.some.injEq]
    exact h.ua _ (List.getElem?_eq_getElem hlt)
  unfold chosenUnit
  cases hcs : o.curves with
  | nil => exact hstrt
  | cons c0 cs =>
    simp only []
    split
    · rw [h.ucurve c0 (by rw [hcs]; rfl)]
    · exact hstrt

theorem wellUnits_aligned {o : WObj} {u : Str} {a b c : Nat} (h : UnitsAligned o u a b c) :
    wellUnits u a b c o.well = o.well := by
  unfold wellUnits
  rw [modify_id o.well a _ (fun x hx => setUnit_same u x (h.ua x hx)),
    modify_id o.well b _ (fun x hx => setUnit_same u x (h.ub x hx)),
    modify_id o.well c _ (fun x hx => setUnit_same u x (h.uc x hx))]

theorem setFirstUnit_aligned {o : WObj} {u : Str} {a b c : Nat} (h : UnitsAligned o u a b c) :
    setFirstUnit u o.curves = o.curves := by
  cases hcs : o.curves with
  | nil => rfl
  | cons c0 cs =>
    simp only [setFirstUnit]
    rw [setUnit_same u c0 (h.ucurve c0 (by rw [hcs]; rfl))]

/-- **no refresh decided, units aligned: `prepare` returns the object itself** (whatever `index[1] - index[0]` is) -/
theorem prepare_noop (sd : Option F64) (o : WObj) (u : Str) (a b c : Nat)
    (hd : refreshDecision o = .ok false) (h : UnitsAligned o u a b c) : prepare sd o = .ok o := by
  rw [prepare_of_shape (s := .none) (e := .none) (p := .none) hd h.ha h.hb h.hc (by intro hh; cases hh)
    (chosenUnit_aligned h)]
  simp only [wellVals, Bool.false_eq_true, if_false, wellUnits_aligned h, setFirstUnit_aligned h]

/-! ## the other steps of `writeObj` -/

theorem resolveVersion_given (cfg : WriteCfg) (tr : Bool) (vsec : List OItem) (v : String) (hv : cfg.version = some v)
    (hver : v = "1.2" ∨ v = "2.0") : resolveVersion cfg tr vsec = .ok v := by
  unfold resolveVersion
  rw [hv]
  rcases hver with rfl | rfl <;> rfl

/-- what the header step does to the values in memory: `standardize_value`, which leaves every number alone -/
theorem afterHeader_well (cfg : WriteCfg) (o : WObj) (j : Nat) (x : OItem) (hx : o.well[j]? = some x) :
    ∃ y, (afterHeader cfg o).well[j]? = some y ∧ y.value = stdP x.value x.unit ∧ y.unit = x.unit ∧
      (∀ f t, x.value = .num f t → y.value = x.value) := by
  refine ⟨stdItem x, by simp [afterHeader, hx], rfl, rfl, ?_⟩
  intro f t hv
  simp only [stdItem, hv, stdP_num]

end Lasio.Cr
