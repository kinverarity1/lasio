import Mathlib.Data.List.Induction
import LasioProofs.Props.C11
import LasioProofs.Props.C11File
/-
Helper lemmas for C13File (duplicates and blanks survive a write -> read round trip at FILE level): the reader model's
session names are those `SectionItems.append` hands out item after item; the header-line grammar, the written line and the
section / file round trip for an EMPTY original mnemonic, which `C04_main_all` and `C03_file` exclude; the session names as a
function of the original mnemonics.
-/
namespace Lasio.SF
open Lasio Lasio.C11

/-- the `HeaderItem` / `CurveItem` the reader builds for a parsed line (`HeaderItem(mnemonic, unit, value, descr)`:
the session mnemonic starts as the useful one) -/
def toItem (r : Rd.RItem) : Item := mkItem r.orig r.unit r.value r.descr

/-- the `SectionItems` object `read` builds for one item section: the parsed items appended in file order -/
def sectionOfRead (tr : Bool) (l : List Rd.RItem) : Section := rebuild ⟨[], tr⟩ (l.map toItem)

theorem cmpStr_symm (tr : Bool) (a b : Str) : cmpStr tr a b = cmpStr tr b a := Cy.cmpStr_comm tr a b

/-- what the item at position `i` of `l` looks like after all of `l` has been appended to an empty section: numbered with
its 1-based rank in its group when the group has more than one member, untouched otherwise -/
def numAt (tr : Bool) (l : List Item) (i : Nat) (it : Item) : Item :=
  if countGroup tr (useful it.orig) l > 1 then withSuffix it (countGroup tr (useful it.orig) (l.take i) + 1) else it

def numbered (tr : Bool) (l : List Item) : List Item := l.mapIdx (numAt tr l)

theorem numAt_pos (tr : Bool) (l : List Item) (i : Nat) (it : Item) (h : countGroup tr (useful it.orig) l > 1) :
    numAt tr l i it = withSuffix it (countGroup tr (useful it.orig) (l.take i) + 1) := by
  unfold numAt; rw [if_pos h]

theorem numAt_neg (tr : Bool) (l : List Item) (i : Nat) (it : Item) (h : ¬ countGroup tr (useful it.orig) l > 1) :
    numAt tr l i it = it := by
  unfold numAt; rw [if_neg h]

theorem numAt_orig (tr : Bool) (l : List Item) (i : Nat) (it : Item) : (numAt tr l i it).orig = it.orig := by
  unfold numAt; split <;> rfl

theorem numbered_origs (tr : Bool) (l : List Item) : (numbered tr l).map (·.orig) = l.map (·.orig) := by
  apply List.ext_getElem?
  intro i
  simp only [numbered, List.getElem?_map, List.getElem?_mapIdx]
  cases l[i]? <;> simp [numAt_orig]

theorem numbered_length (tr : Bool) (l : List Item) : (numbered tr l).length = l.length := by
  simp [numbered]

theorem take_origs (l1 l2 : List Item) (h : l1.map (·.orig) = l2.map (·.orig)) (i : Nat) :
    (l1.take i).map (·.orig) = (l2.take i).map (·.orig) := by
  rw [List.map_take, List.map_take, h]

/-- one `append` on the closed form -/
theorem assign_numbered (tr : Bool) (l : List Item) (a : Item) :
    ((⟨numbered tr l ++ [a], tr⟩ : Section).assignSuffixes (useful a.orig)) = ⟨numbered tr (l ++ [a]), tr⟩ := by
  have hor : (numbered tr l ++ [a]).map (·.orig) = (l ++ [a]).map (·.orig) := by
    simp [numbered_origs]
  have hcnt : countGroup tr (useful a.orig) (numbered tr l ++ [a]) = countGroup tr (useful a.orig) (l ++ [a]) :=
    countGroup_congr tr _ _ _ hor
  have htake : ∀ i, countGroup tr (useful a.orig) ((numbered tr l ++ [a]).take i) =
      countGroup tr (useful a.orig) ((l ++ [a]).take i) :=
    fun i => countGroup_congr tr _ _ _ (take_origs _ _ hor i)
  have hself : cmpStr tr (useful a.orig) (useful a.orig) = true := cmpStr_refl _ _
  have hitems : ((⟨numbered tr l ++ [a], tr⟩ : Section).assignSuffixes (useful a.orig)).items =
      numbered tr (l ++ [a]) := by
    apply List.ext_getElem?
    intro i
    rw [assign_getElem?]
    simp only [hcnt, htake]
    unfold numbered
    rw [List.getElem?_mapIdx]
    rcases Nat.lt_trichotomy i l.length with hi | rfl | hi
    · -- an item `x` of `l`
      rw [List.getElem?_append_left (by simpa using hi), List.getElem?_append_left hi, List.getElem?_mapIdx,
        List.getElem?_eq_getElem hi]
      simp only [Option.map_some, Option.some.injEq]
      generalize l[i] = x
      have hin : inGroup tr (useful a.orig) (numAt tr l i x) = cmpStr tr (useful x.orig) (useful a.orig) := by
        rw [inGroup, numAt_orig]
      rw [hin]
      cases hg : cmpStr tr (useful x.orig) (useful a.orig) with
      | true =>
        -- in the group of `a`: counted under the key of `a`
        have hk : ∀ l', countGroup tr (useful x.orig) l' = countGroup tr (useful a.orig) l' :=
          fun l' => countGroup_ckey tr _ _ l' ((cmpStr_true_iff _ _ _).mp hg)
        rw [Bool.true_and]
        unfold numAt
        simp only [decide_eq_true_eq, hk, gt_iff_lt]
        split
        · split <;> rfl
        · rw [if_neg (by rw [countGroup_append] at *; omega)]
      | false =>
        -- outside the group of `a`: the new item does not count
        have h0 : countGroup tr (useful x.orig) [a] = 0 := by
          have : cmpStr tr (useful a.orig) (useful x.orig) = false := by rw [cmpStr_symm]; exact hg
          simp [countGroup, this]
        rw [Bool.false_and, if_neg Bool.false_ne_true]
        unfold numAt
        rw [countGroup_append, h0, List.take_append_of_le_length (Nat.le_of_lt hi)]
        rfl
    · -- the new item
      rw [List.getElem?_append_right (by simp), List.getElem?_append_right (Nat.le_refl _)]
      simp only [List.length_mapIdx, Nat.sub_self, List.getElem?_cons_zero, Option.map_some, Option.some.injEq]
      rw [show inGroup tr (useful a.orig) a = true from hself, Bool.true_and]
      simp only [decide_eq_true_eq]
      rfl
    · rw [List.getElem?_eq_none (by simp; omega), List.getElem?_eq_none (by simp; omega)]
      rfl
  have htr := assign_tr ⟨numbered tr l ++ [a], tr⟩ (useful a.orig)
  revert hitems htr
  generalize (⟨numbered tr l ++ [a], tr⟩ : Section).assignSuffixes (useful a.orig) = s'
  obtain ⟨items', tr'⟩ := s'
  rintro (rfl : items' = _) (rfl : tr' = _)
  rfl
theorem rebuild_snoc (s : Section) (l : List Item) (a : Item) : rebuild s (l ++ [a]) = (rebuild s l).append a := by
  simp [rebuild, List.foldl_append]

/-- **closed form of a section built by appends** (no hypothesis on the items: an item that is never renumbered keeps
the session name it came with) -/
theorem rebuild_eq_numbered (tr : Bool) (l : List Item) : rebuild ⟨[], tr⟩ l = ⟨numbered tr l, tr⟩ := by
  induction l using List.reverseRecOn with
  | nil => rfl
  | append_singleton l a ih =>
    rw [rebuild_snoc, ih]
    exact assign_numbered tr l a

/-- number of strings of `l` that compare equal to `u` -/
def cnt (tr : Bool) (u : Str) (l : List Str) : Nat := (l.filter (fun v => Rd.mcmp tr v u)).length

theorem cnt_append (tr : Bool) (u : Str) (l1 l2 : List Str) : cnt tr u (l1 ++ l2) = cnt tr u l1 + cnt tr u l2 := by
  simp [cnt]

theorem mcmp_refl (tr : Bool) (u : Str) : Rd.mcmp tr u u = true := cmpStr_refl tr u

theorem sessionGo_getElem? (tr : Bool) (before after : List Str) (j : Nat) :
    (Rd.sessionGo tr before after)[j]? = (after[j]?).map fun u =>
      if cnt tr u (before ++ after) > 1 then u ++ ':' :: natToStr (cnt tr u (before ++ after.take j) + 1) else u := by
  induction after generalizing before j with
  | nil => simp [Rd.sessionGo]
  | cons u a' ih =>
    cases j with
    | zero =>
      simp only [Rd.sessionGo, List.getElem?_cons_zero, Option.map_some, List.take_zero, List.append_nil,
        Option.some.injEq]
      have e : cnt tr u (before ++ u :: a') = (before.filter fun v => Rd.mcmp tr v u).length + 1 +
          (a'.filter fun v => Rd.mcmp tr v u).length := by
        simp [cnt, mcmp_refl]; omega
      rw [e]
      rfl
    | succ j =>
      simp only [Rd.sessionGo, List.getElem?_cons_succ, List.take_succ_cons]
      rw [ih (before ++ [u]) j]
      simp

theorem cnt_map_U (tr : Bool) (t : Str) (L : List Rd.RItem) :
    cnt tr t (L.map fun r => Rd.usefulMn r.orig) = countGroup tr t (L.map toItem) := by
  simp only [cnt, countGroup, List.filter_map, List.length_map]
  congr 2
  funext r
  simp [toItem, mkItem, Cy.useful_eq, Cy.cmpStr_eq]

/-- **Reader = SectionItems.**  The session mnemonics the reader model computes for the items of a section are the
session mnemonics of the `SectionItems` object obtained by appending the parsed items, in file order, to an empty
section — for every list of read items and both settings of `mnemonic_transforms`. -/
theorem sessionNames_eq_rebuild (tr : Bool) (l : List Rd.RItem) :
    Rd.sessionNames tr l = (rebuild ⟨[], tr⟩ (l.map toItem)).keys := by
  rw [rebuild_eq_numbered]
  apply List.ext_getElem?
  intro i
  simp only [Rd.sessionNames, Section.keys, numbered, sessionGo_getElem?, List.getElem?_map, List.getElem?_mapIdx,
    List.nil_append]
  cases hl : l[i]? with
  | none => rfl
  | some r =>
    simp only [Option.map_some, Option.some.injEq]
    rw [← List.map_take, cnt_map_U, cnt_map_U]
    unfold numAt
    have e : useful (toItem r).orig = Rd.usefulMn r.orig := by simp [toItem, mkItem, Cy.useful_eq]
    rw [e, List.map_take]
    split
    · simp [withSuffix, e]
    · simp [toItem, mkItem, Cy.useful_eq]

theorem sectionOfRead_keys (tr : Bool) (l : List Rd.RItem) : (sectionOfRead tr l).keys = Rd.sessionNames tr l :=
  (sessionNames_eq_rebuild tr l).symm

theorem sectionOfRead_eq (tr : Bool) (l : List Rd.RItem) : sectionOfRead tr l = ⟨numbered tr (l.map toItem), tr⟩ :=
  rebuild_eq_numbered tr _

theorem sectionOfRead_tr (tr : Bool) (l : List Rd.RItem) : (sectionOfRead tr l).tr = tr := by
  rw [sectionOfRead_eq]

theorem sectionOfRead_origs (tr : Bool) (l : List Rd.RItem) : (sectionOfRead tr l).origs = l.map (·.orig) := by
  rw [sectionOfRead_eq]
  simp only [Section.origs, numbered_origs, List.map_map]
  rfl

end Lasio.SF

/-! ## the line written for a BLANK mnemonic

`C03_item` / `C04_main_all` require a non-empty mnemonic (`Conf.name_ne`, `TextConf.mnem_ne`).  The line written for an
item whose original mnemonic is the empty string is `<left padding>.unit  value : descr`; after `strip` it starts with the
period.  `name_re = \.?(?P<name>[^.]*)\.` first skips that period and looks for ANOTHER one: a period in the unit or before the
delimiter colon is found and ends a (wrong, non-empty) name — the known finding `blank-mnemonic-period`; a period after the
delimiter colon is found too, but then no colon is left for the value fragment, the match fails, and the regex falls back to the
alternative without skipping: the EMPTY name (`firstSome_nameDefault_blank`; the parsing lemmas of HeaderLineLemmas take the
empty name as the second case of `NameOK`). -/
-- up to the next `SF` block every lemma stands in the namespace of its non-blank counterpart (`Lasio`: line grammar, `Wr`: written
-- line and section, `RH`: title test, `Cy`: written file), whose names it uses unqualified
namespace Lasio

/-- conformant field contents of a line with an EMPTY name: `Conf` with the name conditions replaced by
"no period in unit, value and description" (`unit_nodd`, `unit_first`, `unit_last`, `value_nodd` of `Conf` follow) -/
structure ConfB (sec : SecName) (f : Fields) : Prop where
  name_nil : f.name = []
  unit_nosp : ∀ c ∈ f.unit, isPySpace c = false
  unit_nodot : ∀ c ∈ f.unit, c ≠ '.'
  value_strip : strip f.value = f.value
  value_nodot : ∀ c ∈ f.value, c ≠ '.'
  value_nocolon : (∀ c ∈ f.value, c ≠ ':') ∨ (sec = .parameter ∧ TimeLike f.value)
  descr_strip : strip f.descr = f.descr
  /-- a period in the description is harmless when the description has no colon (the name alternative that ends at that
  period finds no delimiter colon after it) -/
  descr_tail : (∀ c ∈ f.descr, c ≠ '.') ∨ (∀ c ∈ f.descr, c ≠ ':')
  descr_nocolon : sec ≠ .parameter → ∀ c ∈ f.descr, c ≠ ':'

theorem nodot_layout_blank (f : Fields) (p2 p3 : Str) (b2 : Blank p2) (b3 : Blank p3)
    (hu : ∀ c ∈ f.unit, c ≠ '.') (hv : ∀ c ∈ f.value, c ≠ '.') :
    ∀ c ∈ f.unit ++ (p2 ++ f.value ++ p3), c ≠ '.' := by
  intro c hc
  rcases List.mem_append.mp hc with h | h
  · exact hu c h
  · exact forall_mem_append3 _ _ _ b2.ne_dot hv b3.ne_dot c h

theorem tailOK_pad (d p4 p5 : Str) (b4 : Blank p4) (b5 : Blank p5)
    (h : (∀ c ∈ d, c ≠ '.') ∨ (∀ c ∈ d, c ≠ ':')) : TailOK (p4 ++ d ++ p5) := by
  rcases h with h | h
  · exact Or.inl (forall_mem_append3 _ _ _ b4.ne_dot h b5.ne_dot)
  · exact Or.inr (forall_mem_append3 _ _ _ b4.ne_colon h b5.ne_colon)

/-- **C04 for an empty name, sections other than ~Parameter**: the laid-out line `.unit p2 value p3 : p4 descr p5` parses
back to the fields -/
theorem C04_blank (sec : SecName) (hsec : sec ≠ .parameter) (f : Fields) (p2 p3 p4 p5 : Str)
    (hc : ConfB sec f) (hp : PadOK sec f [] [] p2 p3 p4 p5) :
    parseHeaderLine sec (layout f [] [] p2 p3 p4 p5) = some f := by
  obtain ⟨_, _, b2, b3, b4, b5⟩ := hp.blanks
  have hnil : [] ++ f.name ++ [] = ([] : Str) := by simp [hc.name_nil]
  have hnd := nodot_layout_blank f p2 p3 b2 b3 hc.unit_nodot hc.value_nodot
  have hD := forall_mem_append3 _ _ _ b4.ne_colon (hc.descr_nocolon hsec) b5.ne_colon
  rw [layout_assoc, parse_layout_ok sec hsec _ f.unit _ _ (Or.inr ⟨hnil, _, _, rfl, hnd, Or.inr hD⟩)
    (by rw [hnil]; exact fun _ h => nomatch h) hc.unit_nosp (getLast?_ne_of_forall hc.unit_nodot) hp.value_head
    (fun hne hd => second_pad (fun c => isPySpace c = true) _ _ _ b2.space b3.space (hp.digit_unit hne hd)) hD
    (fun _ => ⟨head?_ne_of_forall hc.unit_nodot, findDotDot_nodot _ hc.unit_nodot,
      findDotDot_nodot _ (fun c h => hnd c (List.mem_append_right _ h))⟩),
    strip_pads hp.blanks (by rw [hc.name_nil]; rfl) hc.value_strip hc.descr_strip]

/-- **C04 for an empty name, ~Parameter** -/
theorem C04_blank_parameter (f : Fields) (p2 p3 p4 p5 : Str)
    (hc : ConfB .parameter f) (hp : PadOK .parameter f [] [] p2 p3 p4 p5) :
    parseHeaderLine .parameter (layout f [] [] p2 p3 p4 p5) = some f := by
  obtain ⟨_, _, b2, b3, b4, b5⟩ := hp.blanks
  have hnil : [] ++ f.name ++ [] = ([] : Str) := by simp [hc.name_nil]
  obtain ⟨ht, h1, h2, hs⟩ := hp.param hc.value_nocolon
  rw [layout_assoc, parse_layout_param_ok _ f.unit _ _
    (Or.inr ⟨hnil, _, _, rfl, nodot_layout_blank f p2 p3 b2 b3 hc.unit_nodot hc.value_nodot,
      tailOK_pad f.descr p4 p5 b4 b5 hc.descr_tail⟩)
    (by rw [hnil]; exact fun _ h => nomatch h) hc.unit_nosp (getLast?_ne_of_forall hc.unit_nodot) hp.value_head ht
    (fun hne hd => second_pad (fun c => isPySpace c = true) _ _ _ b2.space b3.space (hp.digit_unit hne hd)) h1 h2 hs,
    strip_pads hp.blanks (by rw [hc.name_nil]; rfl) hc.value_strip hc.descr_strip]

theorem C04_blank_all (sec : SecName) (f : Fields) (p2 p3 p4 p5 : Str)
    (hc : ConfB sec f) (hp : PadOK sec f [] [] p2 p3 p4 p5) :
    parseHeaderLine sec (layout f [] [] p2 p3 p4 p5) = some f := by
  by_cases hsec : sec = .parameter
  · subst hsec; exact C04_blank_parameter f p2 p3 p4 p5 hc hp
  · exact C04_blank sec hsec f p2 p3 p4 p5 hc hp

end Lasio

namespace Lasio.Wr

/-- the field conditions on an item whose ORIGINAL mnemonic is the empty string (session mnemonic `UNKNOWN`), written in the
order `o` (`value:descr` everywhere in 2.0; `descr:value` in a 1.2 ~Well / ~Version section): those of `TextConf` on unit, value and
description, and NO PERIOD in the unit and in the field that is written BEFORE the delimiter colon (`rhsOf o it`: the value in
2.0).  The line is `.unit value : descr`; a second period before the colon is taken for the end of the name
(`C13_counterexample_blank_period`); one after the colon is harmless. -/
structure BlankConf (o : Order) (it : WItem) : Prop where
  mnem_nil : it.orig = []
  unit_nosp : ∀ c ∈ it.unit, isPySpace c = false
  unit_nodot : ∀ c ∈ it.unit, c ≠ '.'
  unit_notnum : it.unit = [] ∨ ¬ allDigits it.unit
  unit_nobr : isBracketed it.unit = false
  value_strip : strip it.value.text = it.value.text
  value_nocolon : ∀ c ∈ it.value.text, c ≠ ':'
  descr_strip : strip it.descr = it.descr
  descr_nocolon : ∀ c ∈ it.descr, c ≠ ':'
  rhs_nodot : ∀ c ∈ rhsOf o it, c ≠ '.'

theorem confB_of_blank (kind : SecName) (o : Order) (it : WItem) (h : BlankConf o it) : ConfB kind (lineFields o it) := by
  cases o with
  | valueDescr =>
    exact ⟨h.mnem_nil, h.unit_nosp, h.unit_nodot, h.value_strip, h.rhs_nodot, Or.inl h.value_nocolon,
      h.descr_strip, Or.inr h.descr_nocolon, fun _ => h.descr_nocolon⟩
  | descrValue =>
    exact ⟨h.mnem_nil, h.unit_nosp, h.unit_nodot, h.descr_strip, h.rhs_nodot, Or.inl h.descr_nocolon,
      h.value_strip, Or.inr h.value_nocolon, fun _ => h.value_nocolon⟩

/-- parsing the stripped line of an item with an empty mnemonic gives the item back -/
theorem readItem_layout_blank (v : String) (kind : SecName) (c : MCase) (o : Order) (it : WItem) (p2 p4 : Str)
    (hkind : kind ≠ .other) (hw : orderOf v (secKey kind) it.orig = .ok o)
    (hb : BlankConf o it) (b2 : Blank p2) (b4 : Blank p4)
    (hsep : rhsOf o it ≠ [] → p2 ≠ []) (h4 : lastOf o it ≠ [] → p4 ≠ []) :
    readItem v kind c (layout (lineFields o it) [] [] p2 [' '] p4 []) = some (expected c it) :=
  readItem_of_parse v kind c o it _ hkind hw
    (C04_blank_all kind (lineFields o it) p2 [' '] p4 [] (confB_of_blank kind o it hb)
      (padOK_writer kind (lineFields o it) [] p2 p4 blank_nil b2 b4 hsep hb.unit_notnum h4))
    (stripBrackets_id _ hb.unit_nosp hb.unit_nobr)

/-- the line of an item with an empty mnemonic as the reader sees it: it starts with the period -/
theorem strip_formatItem_blank (o : Order) (W : Widths) (it : WItem) (hnil : it.orig = [])
    (hl : strip (lastOf o it) = lastOf o it) :
    strip (formatItem o W it) = layout (lineFields o it) [] []
      (List.replicate (W.middle - it.unit.length - (rhsOf o it).length) ' ') [' ']
      (if lastOf o it = [] then [] else [' ']) [] :=
  strip_formatItem_of o W it W.left [] '.' (fun p4 p5 => by simp [layout, lineFields, hnil])
    (fun p4 => ⟨_, by simp [layout, lineFields, hnil]; rfl⟩) (by decide) hl

theorem lastOf_strip_blank (o : Order) (it : WItem) (hb : BlankConf o it) : strip (lastOf o it) = lastOf o it := by
  cases o
  · exact hb.descr_strip
  · exact hb.value_strip

/-- one iteration of the reader's loop on the line written for an item with an empty mnemonic -/
theorem readLine_formatItem_blank (v : String) (kind : SecName) (c : MCase) (o : Order) (W : Widths) (it : WItem)
    (hkind : kind ≠ .other) (hw : orderOf v (secKey kind) it.orig = .ok o) (hb : BlankConf o it)
    (hpad : rhsOf o it ≠ [] → 1 ≤ W.middle - it.unit.length - (rhsOf o it).length) :
    readLine v kind c (formatItem o W it) = .item (expected c it) := by
  obtain ⟨tl, htl⟩ : ∃ tl, layout (lineFields o it) [] []
      (List.replicate (W.middle - it.unit.length - (rhsOf o it).length) ' ') [' ']
      (if lastOf o it = [] then [] else [' ']) [] = '.' :: tl :=
    ⟨_, by simp [layout, lineFields, hb.mnem_nil]; rfl⟩
  refine readLine_of_strip v kind c _ '.' tl _
    ((strip_formatItem_blank o W it hb.mnem_nil (lastOf_strip_blank o it hb)).trans htl) (by decide) (by decide) ?_
  rw [← htl]
  exact readItem_layout_blank v kind c o it _ _ hkind hw hb (blank_replicate _)
    (by split; exact blank_nil; exact blank_one) (fun h => pad_ne_nil (hpad h)) (by intro h; simp [h])

/-- what `C03_file` asks of an item (`TextConf` + first character neither '#' nor '~'), OR an empty original mnemonic on a
line without a further period before the delimiter colon (`o` is the order in which version `v` writes the item) -/
def ItemOK (v : String) (kind : SecName) (it : WItem) : Prop :=
  (TextConf kind it ∧ it.orig.head? ≠ some '#' ∧ it.orig.head? ≠ some '~') ∨
  ∃ o, orderOf v (secKey kind) it.orig = .ok o ∧ BlankConf o it

/-- **Section round trip, blank mnemonics included** (`C03_section` extended to `ItemOK`) -/
theorem section_read_back (v : String) (kind : SecName) (c : MCase) (items : List WItem) (lines : List Str)
    (hkind : kind ≠ .other)
    (hw : writeSection v (secKey kind) items = .ok lines)
    (hok : ∀ it ∈ items, ItemOK v kind it) :
    readSection v kind c lines = some (items.map (expected c)) := by
  refine readSection_written v kind c items lines hw fun it hit o W hwo hpad => ?_
  rcases hok it hit with ⟨hconf, hmark⟩ | ⟨o', ho', hb⟩
  · exact readLine_formatItem v kind c o W it hkind hwo (conf_of_order hwo hconf) hconf.unit_notnum hconf.unit_nobr
      (fun _ => hpad) hmark
  · obtain rfl : o' = o := by rw [ho'] at hwo; exact Except.ok.inj hwo
    exact readLine_formatItem_blank v kind c o' W it hkind hwo hb (fun _ => hpad)

end Lasio.Wr

namespace Lasio.RH
open Lasio Lasio.Wr

/-- the line of an item with an empty mnemonic is not taken for a section title: it starts with blanks and a period -/
theorem isTitle_formatItem_blank (o : Wr.Order) (W : Wr.Widths) (it : Wr.WItem) (h : it.orig = []) :
    Rd.isTitle (Wr.formatItem o W it) = false := by
  have e : ∃ rest, Wr.formatItem o W it = List.replicate W.left ' ' ++ '.' :: rest :=
    ⟨_, by simp [Wr.formatItem, ljust, h]; rfl⟩
  obtain ⟨rest, hrest⟩ := e
  rw [Rd.isTitle_eq, hrest, Rd.strip_split _ '.' rest (Wr.space_replicate _) (by decide)]
  rfl

theorem writeSection_notitle_ok (v s : String) (kind : SecName) (items : List Wr.WItem) (lines : List Str)
    (h : Wr.writeSection v s items = .ok lines) (hi : ∀ it ∈ items, Wr.ItemOK v kind it) :
    ∀ l ∈ lines, Rd.isTitle l = false := by
  intro l hl
  obtain ⟨it, hit, o, W, rfl⟩ := writeSection_lines v s items lines h l hl
  rcases hi it hit with ⟨hc, hm⟩ | ⟨_, _, hb⟩
  · exact isTitle_formatItem o W it hc.mnem_ne hc.mnem_strip hm.2
  · exact isTitle_formatItem_blank o W it hb.mnem_nil

end Lasio.RH

namespace Lasio.Wr

theorem ReadsBack.of_itemOK {o : Rd.ReadOpts} {v : String} {kind : SecName} {items : List WItem} (hk : kind ≠ .other)
    (h : ∀ it ∈ items, ItemOK v kind it) :
    ReadsBack o v kind items (items.map (expected (RH.cvtCase o.mnemonicCase))) :=
  fun l hl => ⟨RH.writeSection_notitle_ok _ _ kind _ _ hl h, section_read_back v kind _ items l hk hl h⟩

end Lasio.Wr

namespace Lasio.Cy
open Lasio Lasio.Wr

/-- the hypotheses of `read_written_B` (`ItemOK` in every section, no DLM item in ~Version, needed for `readLines`): `FileConf` with blank
mnemonics allowed -/
structure FileConfB (o : Rd.ReadOpts) (version : String) (wrap : Option Bool) (las : WLas) : Prop where
  hov : ∀ it ∈ RH.versionCopy version wrap las, ItemOK version .version it
  how : ∀ it ∈ standardizeItems las.well, ItemOK version .well it
  hoc : ∀ it ∈ las.curves, ItemOK version .curves it
  hop : ∀ it ∈ standardizeItems las.params, ItemOK version .parameter it
  hvers : VersOK o version (RH.versionCopy version wrap las)
  ho : OtherOK las.other
  hdlm : ∀ it ∈ RH.versionCopy version wrap las, upper it.orig ≠ "DLM".toList

theorem FileConf.toB {o : Rd.ReadOpts} {version : String} {wrap : Option Bool} {las : WLas}
    (hc : FileConf o version wrap las) : FileConfB o version wrap las where
  hov := fun it hit => Or.inl ⟨hc.hcv it hit, hc.hmv it hit⟩
  how := fun it hit => Or.inl ⟨hc.hcw it hit,
    standardizeItems_orig las.well (fun o => o.head? ≠ some '#' ∧ o.head? ≠ some '~') hc.hmw it hit⟩
  hoc := fun it hit => Or.inl ⟨hc.hcc it hit, hc.hmc it hit⟩
  hop := fun it hit => Or.inl ⟨hc.hcp it hit,
    standardizeItems_orig las.params (fun o => o.head? ≠ some '#' ∧ o.head? ≠ some '~') hc.hmp it hit⟩
  hvers := hc.hvers
  ho := hc.ho
  hdlm := hc.hdlm

/-- **File-level round trip (header), blank mnemonics included**: `file_read_of` (of which `C03_file` is the instance for
`TextConf` + `hmark`) for items that satisfy `ItemOK`, in terms of `firstRead` -/
theorem read_written_B (o : Rd.ReadOpts) (version : String) (wrap : Option Bool) (w : Nat) (las las' : WLas)
    (lines : List Str) (h : headerLines version wrap w las = .ok (lines, las')) (hc : FileConfB o version wrap las) :
    ∃ steer, Rd.readLines o lines = .ok ⟨firstRead o version wrap las, steer, []⟩ ∧ steer.vers = some version.toList := by
  obtain ⟨_, _, _, _, hr⟩ := file_read_of o version wrap w las las' lines h _ _ _ _ (.of_itemOK (by decide) hc.hov)
    (.of_itemOK (by decide) hc.how) (.of_itemOK (by decide) hc.hoc) (.of_itemOK (by decide) hc.hop) hc.hvers.lookup hc.ho
  simp only [map_expected_toRd] at hr
  exact hr fun d hd => by rw [lookup_dlm_written o _ hc.hdlm] at hd; cases hd

end Lasio.Cy

namespace Lasio.SF
open Lasio Lasio.Wr Lasio.Cy Lasio.C11

/-- a fresh item with the given original mnemonic -/
def freshItem (o : Str) : Item := mkItem o [] [] []

/-- **the session names a section has when it is built by appending items with these original mnemonics, in this order, to an
empty section** (a function of the originals and of `mnemonic_transforms` only) -/
def namesOf (tr : Bool) (origs : List Str) : List Str := (rebuild ⟨[], tr⟩ (origs.map freshItem)).keys

/-- appending fresh items: the keys depend on the original mnemonics only -/
theorem rebuild_keys_eq_namesOf (tr : Bool) (l : List Item) (hfresh : ∀ it ∈ l, it.session = useful it.orig) :
    (rebuild ⟨[], tr⟩ l).keys = namesOf tr (l.map (·.orig)) := by
  unfold namesOf
  refine (C11_suffix_stable tr l ((l.map (·.orig)).map freshItem) hfresh ?_ ?_).1
  · intro it hit
    obtain ⟨o, _, rfl⟩ := List.mem_map.mp hit
    rfl
  · simp [List.map_map, Function.comp_def, freshItem, mkItem]

theorem sessionNames_eq_namesOf (tr : Bool) (R : List Rd.RItem) :
    Rd.sessionNames tr R = namesOf tr (R.map (·.orig)) := by
  rw [sessionNames_eq_rebuild, rebuild_keys_eq_namesOf]
  · simp [List.map_map, Function.comp_def, toItem, mkItem]
  · intro it hit
    obtain ⟨r, _, rfl⟩ := List.mem_map.mp hit
    rfl

/-- the section's session names are those of a section built by appends from its own original mnemonics -/
def BuiltByAppends (tr : Bool) (W : List WItem) : Prop := W.map (·.session) = namesOf tr (W.map (·.orig))

theorem zipWith_map_right {α β γ δ} (f : α → β → γ) (g : γ → δ) (k : β → δ) (hfg : ∀ a b, g (f a b) = k b) :
    ∀ (as : List α) (bs : List β), as.length = bs.length → (List.zipWith f as bs).map g = bs.map k := by
  intro as
  induction as with
  | nil => intro bs hl; cases bs with
    | nil => rfl
    | cons b bs => simp at hl
  | cons a as ih =>
    intro bs hl
    cases bs with
    | nil => simp at hl
    | cons b bs =>
      simp only [List.zipWith_cons_cons, List.map_cons, hfg, List.cons.injEq, true_and]
      exact ih bs (by simpa using hl)

theorem zipWith_map_left {α β γ δ} (f : α → β → γ) (g : γ → δ) (k : α → δ) (hfg : ∀ a b, g (f a b) = k a)
    (as : List α) (bs : List β) (hl : as.length = bs.length) : (List.zipWith f as bs).map g = as.map k := by
  rw [List.zipWith_comm]
  exact zipWith_map_right (fun b a => f a b) g k (fun b a => hfg a b) bs as hl.symm

/-- the `SectionItems` object `read` builds (`Cy.itemsOfRead`): its original mnemonics are the ones read, its session
mnemonics the reader model's -/
theorem itemsOfRead_origs (rv : Str → WVal) (tr : Bool) (R : List Rd.RItem) :
    (itemsOfRead rv tr R).map (·.orig) = R.map (·.orig) :=
  zipWith_map_right (mkRead rv) (·.orig) (·.orig) (fun _ _ => rfl) _ _ (sessionNames_length tr R)

theorem itemsOfRead_sessions (rv : Str → WVal) (tr : Bool) (R : List Rd.RItem) :
    (itemsOfRead rv tr R).map (·.session) = Rd.sessionNames tr R := by
  have := zipWith_map_left (mkRead rv) (·.session) id (fun _ _ => rfl) _ _ (sessionNames_length tr R)
  rw [List.map_id] at this
  exact this

/-- every section `read` builds is built by appends from its own originals -/
theorem builtByAppends_read (rv : Str → WVal) (tr : Bool) (R : List Rd.RItem) :
    BuiltByAppends tr (itemsOfRead rv tr R) := by
  unfold BuiltByAppends
  rw [itemsOfRead_sessions, itemsOfRead_origs, sessionNames_eq_namesOf]

/-- the items `write` formats in each of the four item sections -/
def writtenOf (version : String) (wrap : Option Bool) (las : WLas) : SecName → List WItem
  | .version => RH.versionCopy version wrap las
  | .well => standardizeItems las.well
  | .curves => las.curves
  | .parameter => standardizeItems las.params
  | .other => []

/-- the items of a LASFile's section -/
def itemsOf (las : WLas) : SecName → List WItem
  | .version => las.version
  | .well => las.well
  | .curves => las.curves
  | .parameter => las.params
  | .other => []

/-- the items the reader stores for a section of the written header -/
def rereadItems (o : Rd.ReadOpts) (version : String) (wrap : Option Bool) (las : WLas) (kind : SecName) : List Rd.RItem :=
  secItems (RH.keyOf kind) (firstRead o version wrap las)

theorem rereadItems_eq (o : Rd.ReadOpts) (version : String) (wrap : Option Bool) (las : WLas) (kind : SecName)
    (hk : kind ≠ .other) :
    rereadItems o version wrap las kind = (writtenOf version wrap las kind).map (rdExpected o) := by
  cases kind with
  | other => exact absurd rfl hk
  | version => rfl
  | well => rfl
  | curves => rfl
  | parameter => rfl

theorem itemsOf_lasOfRead (rv : Str → WVal) (o : Rd.ReadOpts) (version : String) (wrap : Option Bool) (las : WLas)
    (kind : SecName) (hk : kind ≠ .other) :
    itemsOf (lasOfRead rv o (firstRead o version wrap las)) kind =
      itemsOfRead rv (o.mnemonicCase != .preserve) (rereadItems o version wrap las kind) := by
  cases kind with
  | other => exact absurd rfl hk
  | version => rfl
  | well => rfl
  | curves => rfl
  | parameter => rfl

theorem standardizeItems_origs (l : List WItem) : (standardizeItems l).map (·.orig) = l.map (·.orig) := by
  simp [standardizeItems, List.map_map, Function.comp_def]

theorem standardizeItems_sessions (l : List WItem) : (standardizeItems l).map (·.session) = l.map (·.session) := by
  simp [standardizeItems, List.map_map, Function.comp_def]

/-- outside ~Version the written items carry the original and session mnemonics of the object's own items -/
theorem writtenOf_names (version : String) (wrap : Option Bool) (las : WLas) (kind : SecName) (hk : kind ≠ .version) :
    (writtenOf version wrap las kind).map (·.orig) = (itemsOf las kind).map (·.orig) ∧
    (writtenOf version wrap las kind).map (·.session) = (itemsOf las kind).map (·.session) := by
  cases kind with
  | version => exact absurd rfl hk
  | well => exact ⟨standardizeItems_origs _, standardizeItems_sessions _⟩
  | curves => exact ⟨rfl, rfl⟩
  | parameter => exact ⟨standardizeItems_origs _, standardizeItems_sessions _⟩
  | other => exact ⟨rfl, rfl⟩

theorem fileConfB_items {o : Rd.ReadOpts} {version : String} {wrap : Option Bool} {las : WLas}
    (hc : FileConfB o version wrap las) (kind : SecName) :
    ∀ it ∈ writtenOf version wrap las kind, ItemOK version kind it := by
  cases kind with
  | version => exact hc.hov
  | well => exact hc.how
  | curves => exact hc.hoc
  | parameter => exact hc.hop
  | other => intro it hit; cases hit

theorem upper_unknown : upper "UNKNOWN".toList = "UNKNOWN".toList := by decide

/-- a conformant or blank original mnemonic, read back under any case map, has a colon-free useful form -/
theorem useful_nocolon (tr : Bool) (c : MCase) (v : String) (kind : SecName) (it : WItem) (h : ItemOK v kind it) :
    ':' ∉ ckey tr (useful (caseMap c it.orig)) := by
  rcases h with ⟨hc, _⟩ | ⟨_, _, hb⟩
  · have hne := caseMap_ne_nil c it.orig hc.mnem_ne
    have hs := caseMap_strip c it.orig hc.mnem_strip
    have hu : useful (caseMap c it.orig) = caseMap c it.orig := by
      unfold useful
      rw [hs]
      simp [hne]
    rw [hu]
    have h1 : ∀ ch ∈ caseMap c it.orig, ch ≠ ':' :=
      caseMap_chars c it.orig ':' notLetter_marks.2.1 (fun x hx => (hc.mnem_chars x hx).2)
    cases tr
    · intro hm; exact h1 ':' hm rfl
    · intro hm
      have h2 : ∀ ch ∈ caseMap .upper (caseMap c it.orig), ch ≠ ':' :=
        caseMap_chars .upper _ ':' notLetter_marks.2.1 h1
      exact h2 ':' hm rfl
  · rw [hb.mnem_nil]
    have : caseMap c ([] : Str) = [] := by cases c <;> rfl
    rw [this]
    cases tr <;> decide

end Lasio.SF
