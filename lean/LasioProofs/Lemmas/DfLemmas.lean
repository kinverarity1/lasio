import LasioModel.Curves
import LasioProofs.Props.C14
import LasioProofs.Lemmas.StrLemmas
/-
Helper lemmas for C18Df (`set_data_from_df(df())` on the curve model of C14).

`df()` labels the frame with the SESSION mnemonics (`dfNames`), its values are the 2-D view of the arrays (`dfRows`, the
`dataView` of C14); `set_data_from_df(df)` is `set_data(values, names = labels)`.  The central lemma `setData_df` computes
that call in closed form: every curve is renamed to its own session name, the arrays are put back, all groups are re-suffixed.
-/
namespace Lasio

/-- the labels of `df()`: index name and column labels = the session mnemonics of the curves, in order -/
def dfNames (L : LasCurves) : List Str := L.sec.keys

/-- the values of `df()` with the index column in front, as a list of rows; `none` when the arrays have unequal lengths
(`np.vstack` raises) -/
def dfRows (L : LasCurves) : Option (List (List Cell)) :=
  match L.dataView with
  | .ok rows => some rows
  | .error _ => none

/-- `item.mnemonic = item.mnemonic` as `set_data` does it with the session name: the session name becomes the ORIGINAL -/
def renameToSession (it : Item) : Item := renameItem it it.session

theorem dfRows_some (L : LasCurves) (rows : List (List Cell)) (h : dfRows L = some rows) : L.dataView = .ok rows := by
  unfold dfRows at h
  split at h
  next r hv => cases h; exact hv
  next => cases h

theorem useful_nonblank (o : Str) : strip (useful o) ≠ [] := by
  unfold useful
  split
  · decide
  · rename_i h
    simpa using h

theorem useful_of_nonblank (k : Str) (h : strip k ≠ []) : useful k = k := by
  unfold useful
  simp [h]

/-- a session name of the form the suffix machinery produces is never blank -/
theorem session_nonblank_of_suffixForm (it : Item) (h : SuffixForm it) : strip it.session ≠ [] := by
  rcases h with h | ⟨k, _, h⟩
  · rw [h]; exact useful_nonblank _
  · rw [h]
    exact fun hs => absurd ((strip_eq_nil_iff _).mp hs ':' (by simp)) (by decide)

theorem cvMapIdx_eq_map {α β} (f : Nat → α → β) (g : α → β) (l : List α) (i0 : Nat)
    (h : ∀ n a, l[n]? = some a → f (i0 + n) a = g a) : cvMapIdx f i0 l = l.map g := by
  apply List.ext_getElem?
  intro n
  rw [cvMapIdx_getElem?, List.getElem?_map]
  cases hl : l[n]? with
  | none => rfl
  | some a => simp [h n a hl]

/-- the 2-D view of a non-empty well-formed curve list whose arrays all have length `r`: `r` rows, one cell per curve -/
theorem dataView_shape (L : LasCurves) (hwf : L.WF) (hn : 0 < L.sec.items.length) (r : Nat)
    (hlen : ∀ d ∈ L.data, d.length = r) (rows : List (List Cell)) (hrows : L.dataView = .ok rows) :
    rows.length = r ∧ ∀ row ∈ rows, row.length = L.sec.items.length := by
  obtain ⟨_, hrowlen, hdl⟩ := C14_data_column L rows hrows
  have hdn : L.data.length = L.sec.items.length := hwf.symm
  obtain ⟨d0, hd0⟩ : ∃ d0, d0 ∈ L.data := by
    cases hd : L.data with
    | nil => rw [hd] at hdn; simp at hdn; omega
    | cons d ds => exact ⟨d, by simp⟩
  exact ⟨by rw [← hdl d0 hd0, hlen d0 hd0], fun row h => by rw [hrowlen row h, hdn]⟩

theorem setData_df (L : LasCurves) (hwf : L.WF) (hn : 0 < L.sec.items.length) (r : Nat) (hr : 0 < r)
    (hlen : ∀ d ∈ L.data, d.length = r) (rows : List (List Cell)) (hrows : L.dataView = .ok rows) :
    L.setData rows (some (dfNames L)) false =
      (⟨Section.assignAll { L.sec with items := L.sec.items.map renameToSession }, L.data⟩, .ok) := by
  obtain ⟨hrl, hrowlen⟩ := dataView_shape L hwf hn r hlen rows hrows
  have hcol := (C14_data_column L rows hrows).1
  have hdn : L.data.length = L.sec.items.length := hwf.symm
  have hw : cvRowsWidth rows = L.sec.items.length := by
    cases rows with
    | nil => simp at hrl; omega
    | cons row rest => exact hrowlen row List.mem_cons_self
  unfold LasCurves.setData
  simp only [setDataRows, Bool.false_eq_true, if_false, hw, Nat.sub_self]
  have hpos : 0 < rows.length * L.sec.items.length := Nat.mul_pos (by omega) hn
  rw [if_pos hpos]
  unfold LasCurves.extend LasCurves.assignCols
  simp only [Nat.le_refl, if_true]
  -- the names
  have hkl : (dfNames L).length = L.sec.origs.length := by simp [dfNames, Section.keys, Section.origs]
  have hnames : effectiveNames L.sec.origs (some (dfNames L)) = dfNames L := by
    unfold effectiveNames
    cases hk : dfNames L with
    | nil =>
      rw [hk] at hkl
      simp [Section.origs] at hkl
      simp [hkl] at hn
    | cons k ks =>
      simp only []
      rw [← hk, hkl, Nat.sub_self]
      simp
  rw [hnames]
  congr 4
  · apply cvMapIdx_eq_map
    intro n a ha
    have hlt : n < L.sec.items.length := (List.getElem?_eq_some_iff.mp ha).1
    have hk : (dfNames L)[n]? = some a.session := by
      simp [dfNames, Section.keys, List.getElem?_map, ha]
    simp only [Nat.zero_add]
    rw [if_pos (by omega), List.getD_eq_getElem?_getD, hk]
    rfl
  · rw [cvMapIdx_eq_map _ id]
    · simp
    · intro n d hd
      have hlt : n < L.data.length := (List.getElem?_eq_some_iff.mp hd).1
      simp only [Nat.zero_add, id]
      rw [if_pos (by omega)]
      exact hcol n d hd

theorem renameToSession_orig (l : List Item) : (l.map renameToSession).map (·.orig) = l.map (·.session) := by
  simp [List.map_map, Function.comp_def, renameToSession, renameItem]

theorem countGroup_le_one_of_pairwise (tr : Bool) (l : List Item)
    (hp : l.Pairwise (fun a b => cmpStr tr (useful a.orig) (useful b.orig) = false)) (t : Str) :
    countGroup tr t l ≤ 1 := by
  induction l with
  | nil => simp [countGroup]
  | cons a l ih =>
    rw [List.pairwise_cons] at hp
    rw [countGroup_cons]
    by_cases ha : cmpStr tr (useful a.orig) t = true
    · have h0 : countGroup tr t l = 0 := by
        unfold countGroup
        rw [List.length_eq_zero_iff, List.filter_eq_nil_iff]
        intro b hb hbt
        have h1 := hp.1 b hb
        rw [cmpStr_true_iff] at ha hbt
        rw [cmpStr_false_iff] at h1
        exact h1 (ha.trans hbt.symm)
      simp [ha, h0]
    · have := ih hp.2
      simp [ha]; exact this

/-- when no two useful originals compare equal, `assign_duplicate_suffixes()` changes nothing -/
theorem assignAll_of_pairwise (s : Section)
    (hp : s.items.Pairwise (fun a b => cmpStr s.tr (useful a.orig) (useful b.orig) = false)) : s.assignAll = s := by
  apply cvSection_ext
  · apply List.ext_getElem?
    intro i
    rw [C14_assignAll_closed_form]
    cases hi : s.items[i]? with
    | none => rfl
    | some it =>
      have := countGroup_le_one_of_pairwise s.tr s.items hp (useful it.orig)
      simp only [Option.map_some]
      rw [if_neg (by omega)]
  · unfold Section.assignAll; rw [assignMany_tr]

end Lasio
