import LasioModel.WriteObj
import LasioProofs.Lemmas.SectionInv
import LasioProofs.Lemmas.StrLemmas
/-
Lemmas about the object-level writer model `Lasio.Wo` (used by Props/C16.lean).
-/
namespace Lasio.Wo
open Lasio

/-! ## `findFirst`, `keyIdx`, `lookup` -/

theorem findFirst_map {α β} (p : β → Bool) (f : α → β) (l : List α) :
    findFirst p (l.map f) = findFirst (fun x => p (f x)) l := by
  induction l with
  | nil => rfl
  | cons a l ih => simp [findFirst, ih]

theorem findFirst_append_hit {α} (p : α → Bool) (A : List α) (y : α) (B : List α)
    (hA : ∀ x ∈ A, p x = false) (hy : p y = true) : findFirst p (A ++ y :: B) = some A.length := by
  induction A with
  | nil => simp [findFirst, hy]
  | cons a A ih =>
    simp only [List.cons_append, findFirst, hA a (by simp), Bool.false_eq_true, if_false,
      ih (fun x hx => hA x (by simp [hx])), Option.map_some, List.length_cons]

theorem findFirst_decomp {α} (p : α → Bool) (l : List α) (i : Nat) (h : findFirst p l = some i) :
    ∃ A y B, l = A ++ y :: B ∧ A.length = i ∧ p y = true ∧ ∀ x ∈ A, p x = false := by
  induction l generalizing i with
  | nil => cases h
  | cons a l ih =>
    simp only [findFirst] at h
    by_cases ha : p a = true
    · simp only [ha, if_true, Option.some.injEq] at h
      exact ⟨[], a, l, rfl, by simpa using h, ha, by simp⟩
    · have ha' : p a = false := by simpa using ha
      simp only [ha', Bool.false_eq_true, if_false] at h
      cases hf : findFirst p l with
      | none => rw [hf] at h; cases h
      | some j =>
        rw [hf] at h
        simp only [Option.map_some, Option.some.injEq] at h
        obtain ⟨A, y, B, e, hl, hy, hA⟩ := ih j hf
        refine ⟨a :: A, y, B, by rw [e]; rfl, by simp [hl, h], hy, ?_⟩
        intro x hx
        rcases List.mem_cons.mp hx with rfl | hx
        · simpa using ha
        · exact hA x hx

theorem findFirst_some {α} {p : α → Bool} {l : List α} {i : Nat} (h : findFirst p l = some i) :
    ∃ x, l[i]? = some x ∧ p x = true ∧ ∀ j, j < i → ∀ y, l[j]? = some y → p y = false := by
  obtain ⟨A, x, B, rfl, rfl, hx, hA⟩ := findFirst_decomp p l i h
  refine ⟨x, by simp, hx, fun j hj y hy => hA y ?_⟩
  rw [List.getElem?_append_left hj] at hy
  exact List.mem_of_getElem? hy

theorem findFirst_none {α} {p : α → Bool} {l : List α} (h : findFirst p l = none) : ∀ x ∈ l, p x = false := by
  induction l with
  | nil => simp
  | cons a l ih =>
    unfold findFirst at h
    by_cases hp : p a = true
    · simp [hp] at h
    · simp [hp] at h
      intro x hx
      rcases List.mem_cons.mp hx with rfl | hx
      · simpa using hp
      · exact ih h x hx

theorem findFirst_congr {α} {p q : α → Bool} {l : List α} (h : ∀ x ∈ l, p x = q x) : findFirst p l = findFirst q l := by
  induction l with
  | nil => rfl
  | cons a l ih =>
    have h1 := h a (by simp)
    have h2 := ih (fun x hx => h x (by simp [hx]))
    simp [findFirst, h1, h2]

theorem keyIdx_eq (tr : Bool) (k : Str) (l : List OItem) :
    keyIdx tr k l = findFirst (fun s => cmpStr tr s k) (l.map (·.session)) := by
  unfold keyIdx
  rw [findFirst_map]

theorem keyIdx_of_sessions {tr : Bool} {k : Str} {l l' : List OItem}
    (h : l'.map (·.session) = l.map (·.session)) : keyIdx tr k l' = keyIdx tr k l := by
  rw [keyIdx_eq, keyIdx_eq, h]

theorem sessions_modify (l : List OItem) (i : Nat) (f : OItem → OItem) (hf : ∀ x, (f x).session = x.session) :
    (l.modify i f).map (·.session) = l.map (·.session) := by
  apply List.ext_getElem?
  intro j
  simp only [List.getElem?_map, List.getElem?_modify]
  cases l[j]? with
  | none => rfl
  | some x => by_cases h : i = j <;> simp [h, hf]

theorem sessions_map (l : List OItem) (f : OItem → OItem) (hf : ∀ x, (f x).session = x.session) :
    (l.map f).map (·.session) = l.map (·.session) := by
  simp [List.map_map, Function.comp_def, hf]

theorem lookup_eq (tr : Bool) (k : Str) (l : List OItem) :
    lookup tr k l = (keyIdx tr k l).bind (fun i => l[i]?) := by
  unfold lookup keyIdx
  induction l with
  | nil => rfl
  | cons a l ih =>
    by_cases hp : cmpStr tr a.session k = true
    · simp [findFirst, hp]
    · simp only [Bool.not_eq_true] at hp
      simp only [List.find?_cons, hp, findFirst, Bool.false_eq_true, ↓reduceIte, ih]
      cases findFirst (fun x => cmpStr tr x.session k) l <;> simp

theorem keyIdx_lt {tr : Bool} {k : Str} {l : List OItem} {i : Nat} (h : keyIdx tr k l = some i) : i < l.length := by
  obtain ⟨x, hx, _⟩ := findFirst_some h
  exact (List.getElem?_eq_some_iff.mp hx).1

/-! ## comparisons of the fixed keys -/

theorem cmpStr_trans_left {tr : Bool} {s k1 k2 : Str} (h1 : cmpStr tr s k1 = true) (h2 : cmpStr tr s k2 = true) :
    cmpStr tr k1 k2 = true := by
  unfold cmpStr at *
  cases tr <;> simp_all

theorem cmpStr_comm (tr : Bool) (a b : Str) : cmpStr tr a b = cmpStr tr b a := by
  unfold cmpStr
  cases tr
  · exact BEq.comm
  · exact BEq.comm

theorem wrap_ne_vers (tr : Bool) (s : Str) (h : cmpStr tr sWRAP s = true) : cmpStr tr s sVERS = false := by
  cases hv : cmpStr tr s sVERS with
  | false => rfl
  | true =>
    rw [cmpStr_comm] at h
    have := cmpStr_trans_left h hv
    have hne : cmpStr tr sWRAP sVERS = false := by cases tr <;> decide
    rw [hne] at this
    cases this

theorem keys_distinct (tr : Bool) :
    cmpStr tr sSTRT sSTOP = false ∧ cmpStr tr sSTRT sSTEP = false ∧ cmpStr tr sSTOP sSTEP = false := by
  cases tr <;> decide

theorem keyIdx_ne {tr : Bool} {k1 k2 : Str} {l : List OItem} {i j : Nat} (hk : cmpStr tr k1 k2 = false)
    (h1 : keyIdx tr k1 l = some i) (h2 : keyIdx tr k2 l = some j) : i ≠ j := by
  intro hij
  subst hij
  obtain ⟨x, hx, hpx, _⟩ := findFirst_some h1
  obtain ⟨y, hy, hpy, _⟩ := findFirst_some h2
  rw [hx] at hy
  cases hy
  have := cmpStr_trans_left hpx hpy
  rw [hk] at this
  exact absurd this (by simp)

/-! ## values -/

theorem fmtFixed_ne_nil (N : Nat) (x : F64) : Dw.fmtFixed N x ≠ [] := by
  cases x with
  | nan => simp [Dw.fmtFixed]
  | inf neg => cases neg <;> simp [Dw.fmtFixed]
  | finite neg m e =>
    unfold Dw.fmtFixed Dw.fixedDigits
    have : natToStr (Dw.fixedUnits N m e / 10 ^ N) ≠ [] := natToStr_ne_nil _
    cases neg <;> simp [this]

theorem stdP_idem (v : PVal) (u : Str) : stdP (stdP v u) u = stdP v u := by
  cases v with
  | str s => cases hs : s.isEmpty <;> cases hu : u.isEmpty <;> simp [stdP, PVal.falsy, PVal.isZero, PVal.intZero, hs, hu, fIsZero]
  | num x t => cases hx : fIsZero x <;> cases hu : u.isEmpty <;> simp [stdP, PVal.falsy, PVal.isZero, hx, hu]
  | none => cases hu : u.isEmpty <;> simp [stdP, PVal.falsy, PVal.isZero, PVal.intZero, hu, fIsZero]

theorem stdP_num (x : F64) (t u : Str) : stdP (.num x t) u = .num x t := by
  cases hx : fIsZero x <;> cases hu : u.isEmpty <;> simp [stdP, PVal.falsy, PVal.isZero, hx, hu]

theorem stdP_str_ne (s u : Str) (h : s ≠ []) : stdP (.str s) u = .str s := by
  have : s.isEmpty = false := by cases s <;> simp_all
  simp [stdP, PVal.falsy, this]

/-- the typed normalisation is the header writer's `standardize_value` -/
theorem stdP_toW (v : PVal) (u : Str) : (stdP v u).toW = Wr.standardizeValue v.toW u := by
  cases v with
  | str s =>
    cases hs : s.isEmpty <;> cases hu : u.isEmpty <;>
      simp [stdP, PVal.falsy, PVal.isZero, PVal.intZero, PVal.toW, Wr.standardizeValue, Wr.WVal.str, Wr.WVal.num,
        Wr.WVal.intZero, hs, hu, fIsZero]
  | num x t =>
    cases hx : fIsZero x <;> cases hu : u.isEmpty <;>
      simp [stdP, PVal.falsy, PVal.isZero, PVal.toW, Wr.standardizeValue, Wr.WVal.num, hx, hu]
  | none =>
    cases hu : u.isEmpty <;>
      simp [stdP, PVal.falsy, PVal.isZero, PVal.intZero, PVal.toW, Wr.standardizeValue, Wr.WVal.none, Wr.WVal.str,
        Wr.WVal.num, Wr.WVal.intZero, hu, fIsZero]

theorem PVal.toW_WF (v : PVal) : v.toW.WF := by
  cases v <;> simp [PVal.toW, Wr.WVal.WF, Wr.WVal.str, Wr.WVal.num, Wr.WVal.none]

theorem stdItem_idem (x : OItem) : stdItem (stdItem x) = stdItem x := by
  simp [stdItem, stdP_idem]

theorem stdItems_toW (l : List OItem) : (l.map stdItem).map OItem.toW = Wr.standardizeItems (l.map OItem.toW) := by
  simp [Wr.standardizeItems, List.map_map, Function.comp_def, stdItem, OItem.toW, stdP_toW]

theorem wrapOItem_toW (w : Bool) : (wrapOItem w).toW = Wr.wrapItem w := by
  cases w <;> rfl

/-! ## `set_item` on typed items is `Wr.wSetItem` -/

theorem oRenumber_toW (tr : Bool) (test : Str) (l : List OItem) (k : Nat) :
    (oRenumber tr test l k).map OItem.toW = Wr.wRenumber tr test (l.map OItem.toW) k := by
  induction l generalizing k with
  | nil => rfl
  | cons a l ih =>
    by_cases h : cmpStr tr (useful a.orig) test = true
    · simp [oRenumber, Wr.wRenumber, OItem.toW, h, ih]
    · simp [oRenumber, Wr.wRenumber, OItem.toW, h, ih]

theorem oAssign_toW (tr : Bool) (test : Str) (l : List OItem) :
    (oAssignSuffixes tr test l).map OItem.toW = Wr.wAssignSuffixes tr test (l.map OItem.toW) := by
  unfold oAssignSuffixes Wr.wAssignSuffixes
  have : ((l.map OItem.toW).filter fun it => cmpStr tr (useful it.orig) test).length =
      (l.filter fun it => cmpStr tr (useful it.orig) test).length := by
    rw [List.filter_map, List.length_map]
    rfl
  rw [this]
  split
  · exact oRenumber_toW tr test l 0
  · rfl

theorem oSetItem_toW (tr : Bool) (key : Str) (it : OItem) (l : List OItem) :
    (oSetItem tr key it l).map OItem.toW = Wr.wSetItem tr key it.toW (l.map OItem.toW) := by
  unfold oSetItem Wr.wSetItem
  rw [findFirst_map]
  have e : (fun x : OItem => cmpStr tr key (OItem.toW x).session) = fun x => cmpStr tr key x.session := rfl
  rw [e]
  cases findFirst (fun x : OItem => cmpStr tr key x.session) l with
  | none =>
    simp only []
    rw [oAssign_toW]
    simp [OItem.toW]
  | some i =>
    simp only []
    rw [oAssign_toW, List.map_set]
    rfl

/-! ## `set_item` when WRAP is unique -/

def AtMostOne (g : OItem → Bool) (l : List OItem) : Prop :=
  ∀ (i j : Nat) (x y : OItem), l[i]? = some x → l[j]? = some y → g x = true → g y = true → i = j

theorem filter_le_one {g : OItem → Bool} {l : List OItem} (h : AtMostOne g l) : (l.filter g).length ≤ 1 := by
  induction l with
  | nil => simp
  | cons a l ih =>
    have hl : AtMostOne g l := by
      intro i j x y hx hy gx gy
      have := h (i + 1) (j + 1) x y (by simpa using hx) (by simpa using hy) gx gy
      omega
    by_cases ga : g a = true
    · have : l.filter g = [] := by
        rw [List.filter_eq_nil_iff]
        intro y hy gy
        obtain ⟨j, hj⟩ := List.getElem?_of_mem hy
        have := h 0 (j + 1) a y (by simp) (by simpa using hj) ga gy
        omega
      simp [ga, this]
    · simp [ga]
      exact ih hl

/-- the WRAP item of ~Version is unique and carries its plain session name -/
structure WrapOK (tr : Bool) (l : List OItem) : Prop where
  unique : AtMostOne (fun x => cmpStr tr (useful x.orig) sWRAP) l
  consistent : ∀ x ∈ l, cmpStr tr sWRAP x.session = cmpStr tr (useful x.orig) sWRAP

theorem cmpStr_refl (tr : Bool) (s : Str) : cmpStr tr s s = true := by
  unfold cmpStr
  cases tr <;> simp

theorem wrapOItem_fields (w : Bool) :
    (wrapOItem w).orig = sWRAP ∧ (wrapOItem w).session = sWRAP ∧ useful (wrapOItem w).orig = sWRAP := by
  cases w <;> exact ⟨rfl, rfl, by decide⟩

theorem oAssign_noop {tr : Bool} {test : Str} {l : List OItem}
    (h : AtMostOne (fun x => cmpStr tr (useful x.orig) test) l) : oAssignSuffixes tr test l = l := by
  unfold oAssignSuffixes
  have := filter_le_one h
  split
  · omega
  · rfl

/-- a WRAP item appended to a section in which `section["WRAP"]` finds nothing is the only one -/
theorem atMostOne_append_new {tr : Bool} {l : List OItem} (w : Bool) (h : WrapOK tr l)
    (hf : findFirst (fun x => cmpStr tr sWRAP x.session) l = none) :
    AtMostOne (fun x => cmpStr tr (useful x.orig) sWRAP) (l ++ [wrapOItem w]) := by
  have hnone := findFirst_none hf
  have key : ∀ k z, (l ++ [wrapOItem w])[k]? = some z → cmpStr tr (useful z.orig) sWRAP = true → k = l.length := by
    intro k z hz gz
    by_cases hk : k < l.length
    · rw [List.getElem?_append_left hk] at hz
      have hm := List.mem_of_getElem? hz
      have := hnone z hm
      simp only [h.consistent z hm] at this
      rw [this] at gz
      exact absurd gz (by simp)
    · have hlen := (List.getElem?_eq_some_iff.mp hz).1
      simp at hlen
      omega
  intro i j x y hx hy gx gy
  rw [key i x hx gx, key j y hy gy]

/-- a WRAP item put in the place of the one `section["WRAP"]` finds is the only one -/
theorem atMostOne_set {tr : Bool} {l : List OItem} (w : Bool) (h : WrapOK tr l) {i : Nat}
    (hf : findFirst (fun x => cmpStr tr sWRAP x.session) l = some i) :
    AtMostOne (fun x => cmpStr tr (useful x.orig) sWRAP) (l.set i (wrapOItem w)) := by
  obtain ⟨xi, hxi, hpi, _⟩ := findFirst_some hf
  have hgi : cmpStr tr (useful xi.orig) sWRAP = true := by
    rw [← h.consistent xi (List.mem_of_getElem? hxi)]; exact hpi
  have key : ∀ k z, (l.set i (wrapOItem w))[k]? = some z → cmpStr tr (useful z.orig) sWRAP = true → k = i := by
    intro k z hz gz
    by_cases hk : i = k
    · exact hk.symm
    · rw [List.getElem?_set] at hz
      simp only [hk, ↓reduceIte] at hz
      exact (h.unique i k xi z hxi hz hgi gz).symm
  intro a b x y hx hy gx gy
  rw [key a x hx gx, key b y hy gy]

/-- with a unique, plainly named WRAP, `section["WRAP"] = item` replaces that item in place (or appends) and renames nothing -/
theorem oSetItem_wrap {tr : Bool} {l : List OItem} (w : Bool) (h : WrapOK tr l) :
    oSetItem tr sWRAP (wrapOItem w) l =
      (match findFirst (fun x => cmpStr tr sWRAP x.session) l with
       | some i => l.set i (wrapOItem w)
       | none => l ++ [wrapOItem w]) := by
  unfold oSetItem
  rw [(wrapOItem_fields w).2.2]
  cases hf : findFirst (fun x => cmpStr tr sWRAP x.session) l with
  | none => exact oAssign_noop (atMostOne_append_new w h hf)
  | some i => exact oAssign_noop (atMostOne_set w h hf)

theorem findFirst_set_same {α} {p : α → Bool} {l : List α} {i : Nat} {a : α} (h : findFirst p l = some i) (ha : p a = true) :
    findFirst p (l.set i a) = some i := by
  induction l generalizing i with
  | nil => simp [findFirst] at h
  | cons b l ih =>
    unfold findFirst at h
    by_cases hb : p b = true
    · simp [hb] at h
      subst h
      simp [findFirst, ha]
    · simp [hb] at h
      obtain ⟨k, hk, rfl⟩ := h
      simp [findFirst, hb, ih hk]

theorem wrapOK_after {tr : Bool} {l : List OItem} (w : Bool) (h : WrapOK tr l) :
    WrapOK tr (oSetItem tr sWRAP (wrapOItem w) l) := by
  obtain ⟨ho, hs, hu⟩ := wrapOItem_fields w
  rw [oSetItem_wrap w h]
  cases hf : findFirst (fun x => cmpStr tr sWRAP x.session) l with
  | none =>
    refine ⟨atMostOne_append_new w h hf, fun x hx => ?_⟩
    rcases List.mem_append.mp hx with hx | hx
    · exact h.consistent x hx
    · simp at hx
      subst hx
      rw [hs, hu]
  | some i =>
    refine ⟨atMostOne_set w h hf, fun x hx => ?_⟩
    rcases List.mem_or_eq_of_mem_set hx with hx | hx
    · exact h.consistent x hx
    · subst hx
      rw [hs, hu]

theorem oSetItem_wrap_idem {tr : Bool} {l : List OItem} (w : Bool) (h : WrapOK tr l) :
    oSetItem tr sWRAP (wrapOItem w) (oSetItem tr sWRAP (wrapOItem w) l) = oSetItem tr sWRAP (wrapOItem w) l := by
  obtain ⟨ho, hs, hu⟩ := wrapOItem_fields w
  rw [oSetItem_wrap w (wrapOK_after w h), oSetItem_wrap w h]
  have hp : cmpStr tr sWRAP (wrapOItem w).session = true := by rw [hs]; exact cmpStr_refl tr _
  cases hf : findFirst (fun x => cmpStr tr sWRAP x.session) l with
  | none =>
    simp only []
    rw [findFirst_append_hit _ l _ [] (findFirst_none hf) hp]
    simp
  | some i =>
    simp only []
    rw [findFirst_set_same hf hp]
    simp

/-! ## the header text depends on the object only through the object afterwards -/

/-- what `Wr.headerSections` leaves behind -/
def afterW (w : Option Bool) (las : Wr.WLas) : Wr.WLas :=
  { las with version := (match w with
                         | none => las.version
                         | some x => Wr.wSetItem las.versionTr sWRAP (Wr.wrapItem x) las.version),
             well := Wr.standardizeItems las.well, params := Wr.standardizeItems las.params }

theorem headerSections_congr (v : String) (w : Option Bool) (a b : Wr.WLas) (h : afterW w a = afterW w b) :
    Wr.headerSections v w a = Wr.headerSections v w b := by
  obtain ⟨av, atr, aw, ac, ap, ao⟩ := a
  obtain ⟨bv, btr, bw, bc, bp, bo⟩ := b
  simp only [afterW, Wr.WLas.mk.injEq] at h
  obtain ⟨h1, h2, h3, h4, h5, h6⟩ := h
  subst h2 h4 h6
  unfold Wr.headerSections
  cases w with
  | none =>
    simp only at h1
    subst h1
    simp only [h3, h5]
  | some x =>
    simp only at h1
    simp only [h1, h3, h5]

theorem toWLas_afterHeader (cfg : WriteCfg) (o : WObj) : toWLas (afterHeader cfg o) = afterW cfg.wrap (toWLas o) := by
  unfold toWLas afterHeader afterW
  cases cfg.wrap with
  | none => simp only [stdItems_toW]
  | some x => simp only [stdItems_toW, oSetItem_toW, wrapOItem_toW]

theorem headerLines_congr (v : String) (w : Option Bool) (hw : Nat) (a b : Wr.WLas) (h : afterW w a = afterW w b) :
    Wr.headerLines v w hw a = Wr.headerLines v w hw b := by
  unfold Wr.headerLines
  rw [headerSections_congr v w a b h]

/-! ## the ~Well pipeline, position by position -/

/-- the three assignments of `update_start_stop_step` (when the refresh is decided) -/
def wellVals (d : Bool) (s e p : PVal) (a b c : Nat) (l : List OItem) : List OItem :=
  if d then ((l.modify a (setValue s)).modify b (setValue e)).modify c (setValue p) else l

/-- the three assignments of `update_units_from_index_curve` -/
def wellUnits (u : Str) (a b c : Nat) (l : List OItem) : List OItem :=
  ((l.modify a (setUnit u)).modify b (setUnit u)).modify c (setUnit u)

/-- what one `write` does to the item at position `j` of ~Well -/
def wellItem (d : Bool) (s e p : PVal) (u : Str) (a b c j : Nat) (x : OItem) : OItem :=
  let x1 := if d && a == j then setValue s x else x
  let x2 := if d && b == j then setValue e x1 else x1
  let x3 := if d && c == j then setValue p x2 else x2
  let y1 := if a == j then setUnit u x3 else x3
  let y2 := if b == j then setUnit u y1 else y1
  let y3 := if c == j then setUnit u y2 else y2
  stdItem y3

theorem wellT_getElem? (d : Bool) (s e p : PVal) (u : Str) (a b c : Nat) (l : List OItem) (j : Nat) :
    ((wellUnits u a b c (wellVals d s e p a b c l)).map stdItem)[j]? = (l[j]?).map (wellItem d s e p u a b c j) := by
  -- both sides are the same nest of conditionals on the item at `j`
  unfold wellUnits wellVals wellItem
  cases d <;>
    simp only [Bool.false_eq_true, ↓reduceIte, List.getElem?_map, List.getElem?_modify, Bool.false_and, Bool.true_and,
      beq_iff_eq, Option.map_eq_map] <;>
    cases l[j]? <;> simp only [Option.map_none, Option.map_some]

theorem wellItem_idem (d : Bool) (s e p : PVal) (u : Str) (a b c j : Nat) (x : OItem) :
    wellItem d s e p u a b c j (wellItem d s e p u a b c j x) = wellItem d s e p u a b c j x := by
  unfold wellItem
  cases d <;> by_cases h1 : a = j <;> by_cases h2 : b = j <;> by_cases h3 : c = j <;>
    simp [h1, h2, h3, stdItem, setUnit, setValue, stdP_idem]

theorem wellItem_session (d : Bool) (s e p : PVal) (u : Str) (a b c j : Nat) (x : OItem) :
    (wellItem d s e p u a b c j x).session = x.session ∧ (wellItem d s e p u a b c j x).orig = x.orig ∧
      (wellItem d s e p u a b c j x).descr = x.descr := by
  simp only [wellItem, stdItem, setUnit, setValue, apply_ite OItem.session, apply_ite OItem.orig, apply_ite OItem.descr,
    ite_self, and_self]

/-- the whole ~Well transformation of one `write` -/
def wellT (d : Bool) (s e p : PVal) (u : Str) (a b c : Nat) (l : List OItem) : List OItem :=
  (wellUnits u a b c (wellVals d s e p a b c l)).map stdItem

theorem wellT_idem (d : Bool) (s e p : PVal) (u : Str) (a b c : Nat) (l : List OItem) :
    wellT d s e p u a b c (wellT d s e p u a b c l) = wellT d s e p u a b c l := by
  apply List.ext_getElem?
  intro j
  unfold wellT
  rw [wellT_getElem?, wellT_getElem?]
  cases l[j]? with
  | none => rfl
  | some x => simp [wellItem_idem]

theorem wellVals_sessions (d : Bool) (s e p : PVal) (a b c : Nat) (l : List OItem) :
    (wellVals d s e p a b c l).map (·.session) = l.map (·.session) := by
  unfold wellVals
  cases d
  · rfl
  · simp only [↓reduceIte]
    rw [sessions_modify _ c (setValue p) (fun _ => rfl), sessions_modify _ b (setValue e) (fun _ => rfl),
      sessions_modify _ a (setValue s) (fun _ => rfl)]

theorem wellUnits_sessions (u : Str) (a b c : Nat) (l : List OItem) :
    (wellUnits u a b c l).map (·.session) = l.map (·.session) := by
  unfold wellUnits
  rw [sessions_modify _ c (setUnit u) (fun _ => rfl), sessions_modify _ b (setUnit u) (fun _ => rfl),
    sessions_modify _ a (setUnit u) (fun _ => rfl)]

theorem wellT_sessions (d : Bool) (s e p : PVal) (u : Str) (a b c : Nat) (l : List OItem) :
    (wellT d s e p u a b c l).map (·.session) = l.map (·.session) := by
  unfold wellT
  rw [sessions_map _ stdItem (fun _ => rfl), wellUnits_sessions, wellVals_sessions]

theorem lookup_unit_wellVals (tr : Bool) (k : Str) (d : Bool) (s e p : PVal) (a b c : Nat) (l : List OItem) :
    (lookup tr k (wellVals d s e p a b c l)).map (·.unit) = (lookup tr k l).map (·.unit) := by
  rw [lookup_eq, lookup_eq, keyIdx_of_sessions (wellVals_sessions d s e p a b c l)]
  cases keyIdx tr k l with
  | none => rfl
  | some i =>
    simp only [Option.bind_some, wellVals]
    cases d
    · rfl
    · simp only [↓reduceIte, List.getElem?_modify]
      cases l[i]? with
      | none => rfl
      | some x => by_cases h1 : a = i <;> by_cases h2 : b = i <;> by_cases h3 : c = i <;> simp [h1, h2, h3, setValue]

theorem chosenUnit_wellVals (o : WObj) (d : Bool) (s e p : PVal) (a b c : Nat) :
    chosenUnit { o with well := wellVals d s e p a b c o.well } = chosenUnit o := by
  unfold chosenUnit
  simp only [lookup_unit_wellVals]

theorem liftErr_ok {α} {x : Except Err α} {a : α} (h : liftErr x = .ok a) : x = .ok a := by
  cases x with
  | error e => cases h
  | ok b => cases h; rfl

theorem updateUnits_ok {o o2 : WObj} : updateUnits o = .ok o2 ↔
    ∃ a b c u, keyIdx o.wellTr sSTRT o.well = some a ∧ keyIdx o.wellTr sSTOP o.well = some b ∧
      keyIdx o.wellTr sSTEP o.well = some c ∧ chosenUnit o = some u ∧
      o2 = { o with well := wellUnits u a b c o.well, curves := setFirstUnit u o.curves } := by
  unfold updateUnits
  constructor
  · intro h
    split at h
    · rename_i a b c u ha hb hc hu
      cases h
      exact ⟨a, b, c, u, ha, hb, hc, hu, rfl⟩
    · cases h
  · rintro ⟨a, b, c, u, ha, hb, hc, hu, rfl⟩
    simp only [ha, hb, hc, hu, wellUnits]

theorem updateStartStopStep_ok {sd : Option F64} {o o1 : WObj} : updateStartStopStep sd o = .ok o1 ↔
    ∃ a b c s e p, keyIdx o.wellTr sSTRT o.well = some a ∧ keyIdx o.wellTr sSTOP o.well = some b ∧
      keyIdx o.wellTr sSTEP o.well = some c ∧ sssValues sd o.index = some (s, e, p) ∧
      o1 = { o with well := wellVals true s e p a b c o.well } := by
  unfold updateStartStopStep
  constructor
  · intro h
    split at h
    · rename_i a b c ha hb hc
      split at h
      · cases h
      · rename_i s e p hv
        cases h
        exact ⟨a, b, c, s, e, p, ha, hb, hc, hv, rfl⟩
    · cases h
  · rintro ⟨a, b, c, s, e, p, ha, hb, hc, hv, rfl⟩
    simp only [ha, hb, hc, hv, wellVals, if_true]

/-- the three positions are found again after the values have been set -/
theorem keyIdx_wellVals (o : WObj) (k : Str) (d : Bool) (s e p : PVal) (a b c : Nat) :
    keyIdx o.wellTr k (wellVals d s e p a b c o.well) = keyIdx o.wellTr k o.well :=
  keyIdx_of_sessions (wellVals_sessions d s e p a b c o.well)

/-- **what `prepare` does**, in closed form -/
theorem prepare_shape {sd : Option F64} {o o2 : WObj} (h : prepare sd o = .ok o2) :
    ∃ d a b c s e p u, refreshDecision o = .ok d ∧
      keyIdx o.wellTr sSTRT o.well = some a ∧ keyIdx o.wellTr sSTOP o.well = some b ∧ keyIdx o.wellTr sSTEP o.well = some c ∧
      (d = true → sssValues sd o.index = some (s, e, p)) ∧ chosenUnit o = some u ∧
      o2 = { o with well := wellUnits u a b c (wellVals d s e p a b c o.well), curves := setFirstUnit u o.curves } := by
  unfold prepare at h
  obtain ⟨d, hd, h⟩ := bind_ok h
  cases d with
  | false =>
    obtain ⟨a, b, c, u, ha, hb, hc, hu, rfl⟩ := updateUnits_ok.mp h
    exact ⟨false, a, b, c, .none, .none, .none, u, hd, ha, hb, hc, nofun, hu, rfl⟩
  | true =>
    obtain ⟨o1, h1, h⟩ := bind_ok h
    obtain ⟨a', b', c', s, e, p, ha', hb', hc', hv, rfl⟩ := updateStartStopStep_ok.mp h1
    obtain ⟨a, b, c, u, ha, hb, hc, hu, rfl⟩ := updateUnits_ok.mp h
    simp only [keyIdx_wellVals, chosenUnit_wellVals] at ha hb hc hu
    cases ha'.symm.trans ha
    cases hb'.symm.trans hb
    cases hc'.symm.trans hc
    exact ⟨true, _, _, _, s, e, p, u, hd, ha, hb, hc, fun _ => hv, hu, rfl⟩

theorem prepare_of_shape {sd : Option F64} {o : WObj} {d : Bool} {a b c : Nat} {s e p : PVal} {u : Str}
    (hd : refreshDecision o = .ok d)
    (ha : keyIdx o.wellTr sSTRT o.well = some a) (hb : keyIdx o.wellTr sSTOP o.well = some b)
    (hc : keyIdx o.wellTr sSTEP o.well = some c)
    (hv : d = true → sssValues sd o.index = some (s, e, p)) (hu : chosenUnit o = some u) :
    prepare sd o =
      .ok { o with well := wellUnits u a b c (wellVals d s e p a b c o.well), curves := setFirstUnit u o.curves } := by
  unfold prepare
  simp only [hd, bind, Except.bind]
  cases d with
  | false => exact updateUnits_ok.mpr ⟨a, b, c, u, ha, hb, hc, hu, rfl⟩
  | true =>
    simp only [if_true, updateStartStopStep_ok.mpr ⟨a, b, c, s, e, p, ha, hb, hc, hv rfl, rfl⟩]
    exact updateUnits_ok.mpr ⟨a, b, c, u, (keyIdx_wellVals o _ true s e p a b c).trans ha,
      (keyIdx_wellVals o _ true s e p a b c).trans hb, (keyIdx_wellVals o _ true s e p a b c).trans hc,
      (chosenUnit_wellVals o true s e p a b c).trans hu, rfl⟩

/-- the steps of a successful `writeObj` -/
theorem writeObj_steps {cfg : WriteCfg} {sd : Option F64} {o : WObj} {t : List Str} {o3 : WObj}
    (h : writeObj cfg sd o = .ok (t, o3)) :
      (o.data.length != o.curves.length || !sameLengths o.data) = false ∧
      ∃ vsec v o2 hl null dl, setWrap cfg o = .ok vsec ∧ resolveVersion cfg o.versionTr vsec = .ok v ∧
        prepare sd o = .ok o2 ∧ Wr.headerLines v cfg.wrap cfg.headerWidth (toWLas o2) = .ok hl ∧
        o3 = afterHeader cfg o2 ∧ nullText o3 = .ok null ∧
        Dw.dataLines (dataCfg cfg) null (o3.curves.map (·.session)) (rowsOf o3.data) = some dl ∧ t = hl.1 ++ dl := by
  unfold writeObj at h
  cases hs : (o.data.length != o.curves.length || !sameLengths o.data)
  case true => simp [hs, bind, Except.bind, throw, throwThe, MonadExceptOf.throw] at h
  case false =>
  simp only [hs, Bool.false_eq_true, ↓reduceIte] at h
  obtain ⟨vsec, h1, h⟩ := bind_ok h
  obtain ⟨v, h2, h⟩ := bind_ok h
  obtain ⟨o2, h3, h⟩ := bind_ok h
  obtain ⟨hl, h4, h⟩ := bind_ok h
  obtain ⟨null, h5, h⟩ := bind_ok h
  cases h6 : Dw.dataLines (dataCfg cfg) null ((afterHeader cfg o2).curves.map (·.session))
      (rowsOf (afterHeader cfg o2).data) with
  | none => simp [h6, throw, throwThe, MonadExceptOf.throw] at h
  | some dl =>
    simp only [h6, pure, Except.pure, Except.ok.injEq, Prod.mk.injEq] at h
    obtain ⟨rfl, rfl⟩ := h
    exact ⟨rfl, vsec, v, o2, hl, null, dl, h1, h2, h3, liftErr_ok h4, rfl, h5, h6, rfl⟩

theorem writeObj_of_steps {cfg : WriteCfg} {sd : Option F64} {o : WObj} {vsec : List OItem} {v : String} {o2 : WObj}
    {hl : List Str × Wr.WLas} {null : Str} {dl : List Str}
    (hs : (o.data.length != o.curves.length || !sameLengths o.data) = false)
    (h1 : setWrap cfg o = .ok vsec) (h2 : resolveVersion cfg o.versionTr vsec = .ok v) (h3 : prepare sd o = .ok o2)
    (h4 : Wr.headerLines v cfg.wrap cfg.headerWidth (toWLas o2) = .ok hl)
    (h5 : nullText (afterHeader cfg o2) = .ok null)
    (h6 : Dw.dataLines (dataCfg cfg) null ((afterHeader cfg o2).curves.map (·.session)) (rowsOf (afterHeader cfg o2).data)
      = some dl) :
    writeObj cfg sd o = .ok (hl.1 ++ dl, afterHeader cfg o2) := by
  unfold writeObj
  simp only [hs, Bool.false_eq_true, ↓reduceIte, bind, Except.bind, pure, Except.pure, h1, h2, h3, h4, liftErr, h5, h6]

/-! ## the STRT / STOP / STEP keyword arguments -/



theorem sssValuesK_default (sd : Option F64) (idx : Option (List F64)) : sssValuesK {} sd idx = sssValues sd idx := by
  rcases idx with _ | ⟨_ | ⟨x, xs⟩⟩ <;> simp [sssValuesK, sssValues, ov]

theorem updateStartStopStepK_default (sd : Option F64) (o : WObj) : updateStartStopStepK {} sd o = updateStartStopStep sd o := by
  simp only [updateStartStopStepK, updateStartStopStep, sssValuesK_default]

theorem prepareK_default (sd : Option F64) (o : WObj) : prepareK {} sd o = prepare sd o := by
  simp only [prepareK, prepare, updateStartStopStepK_default]

theorem prepareK_no_refresh (k : SssArgs) (sd : Option F64) (o : WObj) (h : refreshDecision o = .ok false) :
    prepareK k sd o = prepare sd o := by
  simp [prepareK, prepare, h, bind, Except.bind]

theorem ov_given (g c : PVal) (h : g ≠ .none) : ov g c = g := by cases g <;> simp_all [ov]

theorem ov_none (c : PVal) : ov .none c = c := rfl

end Lasio.Wo
