import LasioModel.DataWrite
import LasioProofs.Lemmas.StrLemmas
/-
Helper lemmas for C01 (data-section writer): decimal digits and the decimal reader, the round-half-even quotient
(bound, exactness, uniqueness), whitespace tokenisation (`tokGo` splitting lemmas), plain tokens, the shape of a formatted
cell, row tokenisation under the separation condition, TextWrapper (munging keeps tokens, chunk invariants `ChunksOK`,
the line-filling loop: tokens, line length, no blank line), body lines of a data section.
-/
namespace Lasio.Dw
open Lasio

theorem digit_facts : ∀ d, d < 10 →
    isDigit (Char.ofNat (48 + d)) = true ∧ (Char.ofNat (48 + d)).toNat - 48 = d := by decide

theorem digitChar_isDigit (n : Nat) : isDigit (digitChar n) = true :=
  (digit_facts (n % 10) (Nat.mod_lt _ (by decide))).1

theorem digitChar_val (n : Nat) : (digitChar n).toNat - 48 = n % 10 :=
  (digit_facts (n % 10) (Nat.mod_lt _ (by decide))).2

theorem natToStr_all_digit (n : Nat) : ∀ c ∈ natToStr n, isDigit c = true := by
  induction n using Nat.strongRecOn with
  | _ n ih =>
    intro c hc
    by_cases h : n < 10
    · rw [natToStr_lt n h] at hc
      simp at hc; subst hc; exact digitChar_isDigit n
    · rw [natToStr_ge n (by omega)] at hc
      simp at hc
      rcases hc with hc | hc
      · exact ih (n / 10) (by omega) c hc
      · subst hc; exact digitChar_isDigit n

def dvFold (a : Nat) (s : Str) : Nat := s.foldl (fun a c => 10 * a + (c.toNat - 48)) a

theorem dwDigitsVal_eq (s : Str) : dwDigitsVal s = dvFold 0 s := rfl

theorem dvFold_append (a : Nat) (s t : Str) : dvFold a (s ++ t) = dvFold (dvFold a s) t := by
  simp [dvFold, List.foldl_append]

theorem dwDigitsVal_snoc (s : Str) (c : Char) : dwDigitsVal (s ++ [c]) = 10 * dwDigitsVal s + (c.toNat - 48) := by
  simp [dwDigitsVal, List.foldl_append]

theorem dwDigitsVal_natToStr (n : Nat) : dwDigitsVal (natToStr n) = n := by
  induction n using Nat.strongRecOn with
  | _ n ih =>
    by_cases h : n < 10
    · rw [natToStr_lt n h]
      simp [dwDigitsVal, digitChar_val]; omega
    · rw [natToStr_ge n (by omega), dwDigitsVal_snoc, ih (n / 10) (by omega), digitChar_val]; omega

theorem lastDigits_length (N q : Nat) : (lastDigits N q).length = N := by
  induction N generalizing q with
  | zero => rfl
  | succ N ih => simp [lastDigits, ih]

theorem lastDigits_all_digit (N q : Nat) : ∀ c ∈ lastDigits N q, isDigit c = true := by
  induction N generalizing q with
  | zero => simp [lastDigits]
  | succ N ih =>
    intro c hc
    simp [lastDigits] at hc
    rcases hc with hc | hc
    · exact ih _ c hc
    · subst hc; exact digitChar_isDigit q

theorem dvFold_lastDigits (N q a : Nat) : dvFold a (lastDigits N q) = a * 10 ^ N + q % 10 ^ N := by
  induction N generalizing q with
  | zero => simp [lastDigits, dvFold, Nat.mod_one]
  | succ N ih =>
    rw [lastDigits, dvFold_append, ih]
    simp only [dvFold, List.foldl_cons, List.foldl_nil, digitChar_val]
    have h1 : q % 10 ^ (N + 1) = q % 10 + 10 * (q / 10 % 10 ^ N) := by
      rw [Nat.pow_succ, Nat.mul_comm, Nat.mod_mul]
    rw [h1, Nat.pow_succ]
    have : a * (10 ^ N * 10) = 10 * (a * 10 ^ N) := by
      rw [Nat.mul_comm (10 ^ N) 10, ← Nat.mul_assoc, Nat.mul_comm a 10, Nat.mul_assoc]
    omega

theorem dwDigitsVal_lastDigits (N q : Nat) : dwDigitsVal (lastDigits N q) = q % 10 ^ N := by
  have := dvFold_lastDigits N q 0
  simpa [dwDigitsVal_eq] using this


theorem decOfUnsigned_fixedDigits (N q : Nat) : decOfUnsigned (fixedDigits N q) = some (q, N) := by
  unfold fixedDigits
  by_cases hN : N = 0
  · subst hN
    simp only [if_true, List.append_nil, Nat.pow_zero, Nat.div_one]
    obtain ⟨h1, h2⟩ := takeWhile_all (natToStr q) (natToStr_all_digit q)
    unfold decOfUnsigned
    simp only [h1, h2]
    have : (natToStr q).isEmpty = false := by
      cases h : natToStr q with
      | nil => exact absurd h (natToStr_ne_nil q)
      | cons _ _ => rfl
    simp [this, dwDigitsVal_natToStr]
  · simp only [hN, if_false]
    obtain ⟨h1, h2⟩ := takeWhile_append_stop (natToStr (q / 10 ^ N)) '.' (lastDigits N q) (natToStr_all_digit _) (by decide)
    unfold decOfUnsigned
    simp only [h1, h2]
    have hall : (lastDigits N q).all isDigit = true := by
      simp only [List.all_eq_true]; exact lastDigits_all_digit N q
    have hne : (natToStr (q / 10 ^ N)).isEmpty = false := by
      cases h : natToStr (q / 10 ^ N) with
      | nil => exact absurd h (natToStr_ne_nil _)
      | cons _ _ => rfl
    simp only [hall, hne, Bool.false_and, Bool.not_false, Bool.and_self, if_true, lastDigits_length,
      dwDigitsVal_natToStr, dwDigitsVal_lastDigits]
    rw [Nat.div_add_mod']

/-- the rounded quotient is the quotient, or one more, according to the doubled remainder -/
theorem divRoundHalfEven_cases (num den : Nat) :
    (2 * (num % den) ≤ den ∧ divRoundHalfEven num den = num / den) ∨
    (den ≤ 2 * (num % den) ∧ divRoundHalfEven num den = num / den + 1) := by
  unfold divRoundHalfEven
  simp only
  split
  · rename_i hc
    simp only [gt_iff_lt, Bool.or_eq_true, decide_eq_true_eq, Bool.and_eq_true, beq_iff_eq] at hc
    exact .inr ⟨by omega, rfl⟩
  · rename_i hc
    simp only [gt_iff_lt, Bool.or_eq_true, decide_eq_true_eq, Bool.and_eq_true, beq_iff_eq, not_or, Nat.not_lt] at hc
    exact .inl ⟨hc.1, rfl⟩

theorem divRoundHalfEven_bound (num den : Nat) (hd : 0 < den) :
    2 * ((divRoundHalfEven num den : Int) * den - num).natAbs ≤ den := by
  have h : (num : Int) = den * (num / den : Nat) + (num % den : Nat) := by exact_mod_cast (Nat.div_add_mod num den).symm
  rcases divRoundHalfEven_cases num den with ⟨h2, e⟩ | ⟨h2, e⟩
  · rw [e, Int.mul_comm]
    omega
  · have hr := Nat.mod_lt num hd
    rw [e, Int.natCast_add, Int.add_mul, Int.mul_comm]
    omega


theorem fixedDigits_head (N q : Nat) : ∃ d rest, fixedDigits N q = d :: rest ∧ isDigit d = true := by
  unfold fixedDigits
  cases h : natToStr (q / 10 ^ N) with
  | nil => exact absurd h (natToStr_ne_nil _)
  | cons d ds =>
    refine ⟨d, _, by simp; rfl, ?_⟩
    exact natToStr_all_digit (q / 10 ^ N) d (by simp [h])

theorem decOfTokS_digit (d : Char) (s : Str) (hd : isDigit d = true) :
    decOfTokS (d :: s) = (decOfUnsigned (d :: s)).map fun (a, k) => (false, a, k) := by
  unfold decOfTokS
  split
  · rename_i h; simp at h; obtain ⟨h, _⟩ := h; subst h; exact absurd hd (by decide)
  · rename_i h; simp at h; obtain ⟨h, _⟩ := h; subst h; exact absurd hd (by decide)
  · rfl

theorem decOfTokS_fmtFixed (N : Nat) (neg : Bool) (m : Nat) (e : Int) :
    decOfTokS (fmtFixed N (.finite neg m e)) = some (neg, fixedUnits N m e, N) := by
  unfold fmtFixed
  cases neg with
  | true => simp [decOfTokS, decOfUnsigned_fixedDigits]
  | false =>
    obtain ⟨d, rest, h, hd⟩ := fixedDigits_head N (fixedUnits N m e)
    simp only [Bool.false_eq_true, if_false, List.nil_append]
    rw [h, decOfTokS_digit d rest hd, ← h, decOfUnsigned_fixedDigits]
    rfl

def sgn (neg : Bool) : Int := if neg then -1 else 1

/-! ### whitespace tokenisation -/

def flushTok (cur : Str) : List Str := if cur.isEmpty then [] else [cur.reverse]

theorem tokGo_space (cur : Str) (c : Char) (r : Str) (hc : isPySpace c = true) :
    tokGo cur (c :: r) = flushTok cur ++ tokGo [] r := by
  simp only [tokGo, hc, if_true, flushTok]
  cases cur <;> simp

theorem tokGo_nonspace (cur : Str) (c : Char) (r : Str) (hc : isPySpace c = false) :
    tokGo cur (c :: r) = tokGo (c :: cur) r := by
  simp [tokGo, hc]

theorem tokGo_split (cur a : Str) (c : Char) (r : Str) (hc : isPySpace c = true) :
    tokGo cur (a ++ c :: r) = tokGo cur a ++ tokGo [] r := by
  induction a generalizing cur with
  | nil => rw [List.nil_append, tokGo_space cur c r hc]; rfl
  | cons x a ih =>
    cases hx : isPySpace x with
    | true => rw [List.cons_append, tokGo_space _ _ _ hx, tokGo_space _ _ _ hx, ih, List.append_assoc]
    | false => rw [List.cons_append, tokGo_nonspace _ _ _ hx, tokGo_nonspace _ _ _ hx, ih]

theorem tokGo_space_prefix (ws r : Str) (h : ∀ c ∈ ws, isPySpace c = true) : tokGo [] (ws ++ r) = tokGo [] r := by
  induction ws with
  | nil => rfl
  | cons x ws ih =>
    rw [List.cons_append, tokGo_space [] x _ (h x (by simp))]
    exact ih (fun c hc => h c (by simp [hc]))

theorem tokGo_word (cur t r : Str) (h : ∀ c ∈ t, isPySpace c = false) :
    tokGo cur (t ++ r) = tokGo (t.reverse ++ cur) r := by
  induction t generalizing cur with
  | nil => rfl
  | cons x t ih =>
    rw [List.cons_append, tokGo_nonspace cur x _ (h x (by simp)), ih (x :: cur) (fun c hc => h c (by simp [hc]))]
    simp

/-- a token: non-empty, no whitespace -/
def IsTok (t : Str) : Prop := t ≠ [] ∧ ∀ c ∈ t, isPySpace c = false

theorem tokensWs_tok (t : Str) (h : IsTok t) : tokensWs t = [t] := by
  have := tokGo_word [] t [] h.2
  simp only [List.append_nil] at this
  unfold tokensWs
  rw [this, tokGo]
  have : t.reverse.isEmpty = false := by
    cases t with
    | nil => exact absurd rfl h.1
    | cons a b => simp
  simp [this]

theorem tokensWs_blank (ws : Str) (h : ∀ c ∈ ws, isPySpace c = true) : tokensWs ws = [] := by
  have := tokGo_space_prefix ws [] h
  simpa [tokensWs, tokGo] using this

/-- leading whitespace, a token, then either the end or a whitespace character -/
theorem tokensWs_cell_then_space (ws t : Str) (c : Char) (r : Str) (hws : ∀ c ∈ ws, isPySpace c = true) (ht : IsTok t)
    (hc : isPySpace c = true) : tokensWs (ws ++ t ++ c :: r) = t :: tokensWs (c :: r) := by
  have h2 : tokensWs (c :: r) = tokensWs r := tokGo_space_prefix [c] r (by simpa using hc)
  rw [h2]
  unfold tokensWs
  rw [tokGo_split [] (ws ++ t) c r hc, tokGo_space_prefix ws t hws]
  have := tokensWs_tok t ht
  unfold tokensWs at this
  rw [this]; rfl

theorem tokensWs_cell_end (ws t : Str) (hws : ∀ c ∈ ws, isPySpace c = true) (ht : IsTok t) :
    tokensWs (ws ++ t) = [t] := by
  unfold tokensWs
  rw [tokGo_space_prefix ws t hws]
  exact tokensWs_tok t ht


theorem pySpace_not_digit (c : Char) (h : isPySpace c = true) : isDigit c = false ∧ c ≠ '-' ∧ c ≠ '.' := by
  have hd := isDigit_iff c
  refine ⟨?_, ?_, ?_⟩
  · cases hdc : isDigit c with
    | false => rfl
    | true =>
      have := hd.mp hdc
      simp [isPySpace] at h
      omega
  · intro hc; subst hc; revert h; decide
  · intro hc; subst hc; revert h; decide


/-! ### printed tokens are plain -/

/-- the characters `%.Nf` prints for a finite value -/
def isPlainChar (c : Char) : Bool := c == '-' || isDigit c || c == '.'

theorem plainChar_facts (c : Char) (h : isPlainChar c = true) :
    isPySpace c = false ∧ c ≠ '"' ∧ c ≠ '\'' ∧ c ≠ '#' ∧ c ≠ ',' := by
  simp only [isPlainChar, Bool.or_eq_true, beq_iff_eq] at h
  rcases h with (h | h) | h
  · subst h; decide
  · refine ⟨?_, ?_, ?_, ?_, ?_⟩
    · cases hs : isPySpace c with
      | false => rfl
      | true => have := (pySpace_not_digit c hs).1; rw [h] at this; cases this
    all_goals (intro hc; subst hc; exact absurd h (by decide))
  · subst h; decide

theorem fixedDigits_plain (N q : Nat) : ∀ c ∈ fixedDigits N q, isPlainChar c = true := by
  intro c hc
  unfold fixedDigits at hc
  simp only [List.mem_append] at hc
  rcases hc with hc | hc
  · simp [isPlainChar, natToStr_all_digit _ c hc]
  · by_cases hN : N = 0
    · simp [hN] at hc
    · simp only [hN, if_false, List.mem_cons] at hc
      rcases hc with hc | hc
      · subst hc; decide
      · simp [isPlainChar, lastDigits_all_digit _ _ c hc]

theorem fmtFixed_plain (N : Nat) (neg : Bool) (m : Nat) (e : Int) :
    ∀ c ∈ fmtFixed N (.finite neg m e), isPlainChar c = true := by
  intro c hc
  unfold fmtFixed at hc
  simp only [List.mem_append] at hc
  rcases hc with hc | hc
  · cases neg <;> simp at hc
    subst hc; decide
  · exact fixedDigits_plain _ _ c hc

theorem fixedDigits_ne_nil (N q : Nat) : fixedDigits N q ≠ [] := by
  obtain ⟨d, r, h, _⟩ := fixedDigits_head N q
  rw [h]; simp

theorem fmtFixed_isTok (N : Nat) (x : F64) : IsTok (fmtFixed N x) := by
  cases x with
  | nan => exact ⟨by simp [fmtFixed], by show ∀ c ∈ ['n', 'a', 'n'], isPySpace c = false; decide⟩
  | inf neg =>
    cases neg
    · exact ⟨by simp [fmtFixed], by show ∀ c ∈ ['i', 'n', 'f'], isPySpace c = false; decide⟩
    · exact ⟨by simp [fmtFixed], by show ∀ c ∈ ['-', 'i', 'n', 'f'], isPySpace c = false; decide⟩
  | finite neg m e =>
    refine ⟨?_, fun c hc => (plainChar_facts c (fmtFixed_plain N neg m e c hc)).1⟩
    unfold fmtFixed
    have := fixedDigits_ne_nil N (fixedUnits N m e)
    cases neg <;> simp [this]

/-! ### cells and rows -/

/-- the token a cell contributes: the NULL text for NaN, else the bare `%.Nf` rendering -/
def cellToken (null : Str) (f : Fmt) (x : F64) : Str := if x.isNaN then null else fmtFixed f.prec x

def Blank (s : Str) : Prop := ∀ c ∈ s, c = ' '

theorem Blank.ws {s : Str} (h : Blank s) : ∀ c ∈ s, isPySpace c = true := by
  intro c hc; rw [h c hc]; decide

theorem blank_replicate (k : Nat) : Blank (List.replicate k ' ') := by
  intro c hc; exact (List.mem_replicate.mp hc).2

theorem blank_append {a b : Str} (ha : Blank a) (hb : Blank b) : Blank (a ++ b) := by
  intro c hc; rcases List.mem_append.mp hc with h | h
  · exact ha c h
  · exact hb c h

theorem cellValue_shape (null : Str) (f : Fmt) (x : F64) :
    ∃ pad, Blank pad ∧ cellValue null f x = pad ++ cellToken null f x := by
  unfold cellValue cellToken
  cases hx : x.isNaN with
  | true => exact ⟨[], (by intro c hc; cases hc), (by simp)⟩
  | false =>
    simp only [Bool.false_eq_true, if_false]
    unfold fmtApply
    cases f.width with
    | none => exact ⟨[], (by intro c hc; cases hc), (by simp)⟩
    | some w => exact ⟨_, ⟨blank_replicate _, rfl⟩⟩

/-- `format_data_section_line` = spacing characters, blank padding, the token -/
theorem formatCell_shape (null : Str) (f : Fmt) (l : Int) (sp : Str) (x : F64) :
    ∃ pad, Blank pad ∧ formatCell null f l sp x = sp ++ pad ++ cellToken null f x := by
  obtain ⟨p, hp, hv⟩ := cellValue_shape null f x
  unfold formatCell
  by_cases hl : (l == -1) = true
  · simp only [hl, if_true]
    exact ⟨p, ⟨hp, by rw [hv]; simp⟩⟩
  · simp only [hl]
    refine ⟨List.replicate (l.toNat - (cellValue null f x).length) ' ' ++ p, ⟨blank_append (blank_replicate _) hp, ?_⟩⟩
    unfold rjust
    rw [hv]; simp


/-- the tokens of a row, cell by cell -/
def rowTokensFrom (c : RowCfg) (null : Str) : Nat → List F64 → List Str
  | _, [] => []
  | j, x :: xs => cellToken null (c.colFmt j) x :: rowTokensFrom c null (j + 1) xs

def rowTokens (c : RowCfg) (null : Str) (cells : List F64) : List Str := rowTokensFrom c null 0 cells

/-- the supported row configurations: a non-empty whitespace spacer between columns, whitespace (possibly empty)
on the left-hand side, and a NULL text that is one whitespace-free token -/
structure CfgOK (c : RowCfg) (null : Str) : Prop where
  spacer_ne : c.spacer ≠ []
  spacer_ws : ∀ ch ∈ c.spacer, isPySpace ch = true
  lhs_ws : ∀ ch ∈ c.lhsSpacer, isPySpace ch = true
  null_tok : IsTok null

theorem cellToken_isTok (null : Str) (hn : IsTok null) (f : Fmt) (x : F64) : IsTok (cellToken null f x) := by
  unfold cellToken
  cases x.isNaN
  · exact fmtFixed_isTok _ _
  · exact hn

/-! ### TextWrapper: whitespace munging does not change the tokens -/

/-- what follows a character is tokenised alike: so is the whole -/
theorem tokGo_cons_congr (c : Char) {r r' : Str} (h : ∀ cur, tokGo cur r = tokGo cur r') (cur : Str) :
    tokGo cur (c :: r) = tokGo cur (c :: r') := by
  cases hs : isPySpace c with
  | true => rw [tokGo_space _ _ _ hs, tokGo_space _ _ _ hs, h]
  | false => rw [tokGo_nonspace _ _ _ hs, tokGo_nonspace _ _ _ hs, h]

theorem blank_isPySpace : isPySpace ' ' = true := by decide

theorem tokGo_blanks (cur : Str) (k : Nat) (r : Str) :
    tokGo cur (List.replicate (k + 1) ' ' ++ r) = flushTok cur ++ tokGo [] r := by
  rw [List.replicate_succ, List.cons_append, tokGo_space cur ' ' _ blank_isPySpace,
    tokGo_space_prefix (List.replicate k ' ') r (blank_replicate k).ws]

theorem tab_isPySpace : isPySpace '\t' = true := by decide

theorem tokGo_expandTabs (cur : Str) (col : Nat) (s : Str) : tokGo cur (expandTabs col s) = tokGo cur s := by
  induction s generalizing cur col with
  | nil => rfl
  | cons c cs ih =>
    unfold expandTabs
    by_cases hc : (c == '\t') = true
    · simp only [hc, if_true]
      have hc' : c = '\t' := by simpa using hc
      subst hc'
      have hk : 8 - col % 8 = (8 - col % 8 - 1) + 1 := by
        have := Nat.mod_lt col (by decide : 0 < 8); omega
      rw [hk, tokGo_blanks, ih, tokGo_space cur '\t' cs tab_isPySpace]
    · simp only [hc, Bool.false_eq_true, if_false]
      split <;> exact tokGo_cons_congr c (fun cur => ih cur _) cur

theorem wrapSpace_isPySpace (c : Char) (h : isWrapSpace c = true) : isPySpace c = true := by
  simp only [isWrapSpace, Bool.or_eq_true, beq_iff_eq] at h
  rcases h with ((((h | h) | h) | h) | h) | h <;> (subst h; decide)

theorem tokGo_map_munge (cur : Str) (s : Str) :
    tokGo cur (s.map (fun c => if isWrapSpace c then ' ' else c)) = tokGo cur s := by
  induction s generalizing cur with
  | nil => rfl
  | cons c cs ih =>
    simp only [List.map_cons]
    by_cases hw : isWrapSpace c = true
    · simp only [hw, if_true]
      rw [tokGo_space _ _ _ blank_isPySpace, tokGo_space _ _ _ (wrapSpace_isPySpace c hw), ih]
    · simp only [hw, Bool.false_eq_true, if_false]
      exact tokGo_cons_congr c ih cur

theorem tokensWs_wrapMunge (s : Str) : tokensWs (wrapMunge s) = tokensWs s := by
  unfold tokensWs wrapMunge
  rw [tokGo_map_munge, tokGo_expandTabs]


/-! ### chunks -/

/-- the kind of a chunk: `true` = a run of blanks -/
def kindOf : Str → Bool
  | c :: _ => c == ' '
  | [] => false

/-- non-empty and homogeneous: all blanks or no blank -/
def Homog (a : Str) : Prop := a ≠ [] ∧ ∀ c ∈ a, (c == ' ') = kindOf a

/-- chunks are homogeneous non-empty runs and neighbours are of different kinds -/
def ChunksOK : List Str → Prop
  | [] => True
  | a :: r => Homog a ∧ (∀ b, r.head? = some b → kindOf a ≠ kindOf b) ∧ ChunksOK r


theorem homog_single (c : Char) : Homog [c] := by
  refine ⟨by simp, ?_⟩
  intro x hx; simp at hx; subst hx; rfl

theorem wrapChunks_ok (s : Str) : ChunksOK (wrapChunks s) := by
  induction s with
  | nil => trivial
  | cons c cs ih =>
    rw [wrapChunks]
    cases h : wrapChunks cs with
    | nil => exact ⟨homog_single c, by simp, trivial⟩
    | cons a rest =>
      rw [h] at ih
      obtain ⟨ha, hnext, hrest⟩ := ih
      cases a with
      | nil => exact absurd rfl ha.1
      | cons d ds =>
        simp only
        by_cases hk : ((c == ' ') == (d == ' ')) = true
        · simp only [hk, if_true]
          have hk' : (c == ' ') = (d == ' ') := by simpa using hk
          refine ⟨⟨by simp, ?_⟩, ?_, hrest⟩
          · intro x hx
            simp only [List.mem_cons] at hx
            rcases hx with hx | hx
            · subst hx; rfl
            · have := ha.2 x (by simpa using hx)
              simp only [kindOf] at this ⊢
              rw [this, hk']
          · intro b hb
            have := hnext b hb
            simp only [kindOf] at this ⊢
            rw [hk']; exact this
        · simp only [hk]
          refine ⟨homog_single c, ?_, ha, hnext, hrest⟩
          intro b hb
          simp at hb; subst hb
          simp only [kindOf]
          intro heq; apply hk; simp [heq]

theorem ChunksOK.ne_nil {cs : List Str} (h : ChunksOK cs) : ∀ a ∈ cs, a ≠ [] := by
  induction cs with
  | nil => intro a ha; cases ha
  | cons x r ih =>
    intro a ha
    simp only [List.mem_cons] at ha
    rcases ha with ha | ha
    · subst ha; exact h.1.1
    · exact ih h.2.2 a ha

theorem wrapChunks_flatten (s : Str) : (wrapChunks s).flatten = s := by
  induction s with
  | nil => rfl
  | cons c cs ih =>
    have hok := wrapChunks_ok cs
    rw [wrapChunks]
    cases h : wrapChunks cs with
    | nil => rw [h] at ih; simp at ih; simp [← ih]
    | cons a rest =>
      rw [h] at ih hok
      cases a with
      | nil => exact absurd rfl hok.1.1
      | cons d ds =>
        simp only
        split <;> simp [← ih]

theorem ChunksOK.append_left {a b : List Str} (h : ChunksOK (a ++ b)) : ChunksOK a := by
  induction a with
  | nil => trivial
  | cons x a ih =>
    obtain ⟨hx, hn, hr⟩ := h
    refine ⟨hx, ?_, ih hr⟩
    intro y hy
    apply hn y
    cases a with
    | nil => simp at hy
    | cons z a => simpa using hy

theorem ChunksOK.append_right {a b : List Str} (h : ChunksOK (a ++ b)) : ChunksOK b := by
  induction a with
  | nil => exact h
  | cons x a ih => exact ih h.2.2

theorem Homog.blank_of_kind {a : Str} (h : Homog a) (hk : kindOf a = true) : ∀ c ∈ a, isPySpace c = true := by
  intro c hc
  have := h.2 c hc
  rw [hk] at this
  have : c = ' ' := by simpa using this
  subst this; decide

theorem tokensWs_append_left_blank (a X : Str) (ha : ∀ c ∈ a, isPySpace c = true) :
    tokensWs (a ++ X) = tokensWs a ++ tokensWs X := by
  rw [tokensWs_blank a ha]
  exact tokGo_space_prefix a X ha

theorem tokensWs_append_right_space (a : Str) (c : Char) (Y : Str) (hc : isPySpace c = true) :
    tokensWs (a ++ c :: Y) = tokensWs a ++ tokensWs (c :: Y) := by
  have h2 : tokensWs (c :: Y) = tokensWs Y := tokGo_space_prefix [c] Y (by simpa using hc)
  rw [h2]
  exact tokGo_split [] a c Y hc

/-- tokenising the concatenation of well-formed chunks = tokenising chunk by chunk -/
theorem tokensWs_flatten_chunks (cs : List Str) (h : ChunksOK cs) :
    tokensWs cs.flatten = cs.flatMap tokensWs := by
  induction cs with
  | nil => rfl
  | cons a r ih =>
    obtain ⟨ha, hn, hr⟩ := h
    simp only [List.flatten_cons, List.flatMap_cons]
    rw [← ih hr]
    cases hk : kindOf a with
    | true => exact tokensWs_append_left_blank a _ (ha.blank_of_kind hk)
    | false =>
      cases r with
      | nil => simp [tokensWs, tokGo]
      | cons b r' =>
        have hkb : kindOf b = true := by
          have := hn b rfl
          rw [hk] at this
          cases hb : kindOf b with
          | true => rfl
          | false => exact absurd hb.symm this
        have hb := hr.1
        cases b with
        | nil => exact absurd rfl hb.1
        | cons x b' =>
          have hx : isPySpace x = true := hb.blank_of_kind hkb x (by simp)
          simp only [List.flatten_cons, List.cons_append]
          exact tokensWs_append_right_space a x _ hx


/-! ### the line-filling loop -/

theorem isBlankChunk_tokens (l : Str) (h : isBlankChunk l = true) : tokensWs l = [] := by
  apply tokensWs_blank
  simpa [isBlankChunk, List.all_eq_true] using h

theorem closeLine_blank (l : Str) (rest : List Str) (hb : isBlankChunk l = true) :
    closeLine (l :: rest) = if rest.isEmpty then none else some rest.reverse.flatten := by
  unfold closeLine; simp only [hb, if_true]

theorem closeLine_nonblank (l : Str) (rest : List Str) (hb : ¬ isBlankChunk l = true) :
    closeLine (l :: rest) = some (l :: rest).reverse.flatten := by
  unfold closeLine; simp only [hb]; rfl

theorem toList_some_flatMap (X : Str) : (some X : Option Str).toList.flatMap tokensWs = tokensWs X := by
  simp [Option.toList]

theorem closeLine_tokens (cur : List Str) (h : ChunksOK cur.reverse) :
    (closeLine cur).toList.flatMap tokensWs = cur.reverse.flatMap tokensWs := by
  cases cur with
  | nil => simp [closeLine]
  | cons l rest =>
    by_cases hb : isBlankChunk l = true
    · rw [closeLine_blank l rest hb, List.reverse_cons, List.flatMap_append]
      simp only [List.flatMap_cons, List.flatMap_nil, isBlankChunk_tokens l hb, List.append_nil]
      cases rest with
      | nil => simp
      | cons x xs =>
        have hok : ChunksOK (x :: xs).reverse := by
          rw [List.reverse_cons] at h; exact h.append_left
        rw [← tokensWs_flatten_chunks _ hok]
        simp only [List.isEmpty_cons, Bool.false_eq_true, if_false]
        exact toList_some_flatMap _
    · rw [closeLine_nonblank l rest hb, toList_some_flatMap]
      exact tokensWs_flatten_chunks _ h

theorem wrapLines_tokens (w : Nat) (cs : List Str) (has : Bool) (cur : List Str) (n : Nat)
    (h : ChunksOK (cur.reverse ++ cs)) :
    (wrapLines w cs has cur n).flatMap tokensWs = (cur.reverse ++ cs).flatMap tokensWs := by
  induction cs generalizing has cur n with
  | nil =>
    simp only [wrapLines, List.append_nil] at h ⊢
    exact closeLine_tokens cur h
  | cons c cs ih =>
    rw [wrapLines]
    by_cases hfit : n + c.length ≤ w
    · simp only [hfit, if_true]
      have h' : ChunksOK ((c :: cur).reverse ++ cs) := by simpa using h
      rw [ih _ _ _ h']; simp
    · simp only [hfit, if_false]
      have hcur : ChunksOK cur.reverse := h.append_left
      have hccs : ChunksOK (c :: cs) := h.append_right
      rw [List.flatMap_append, closeLine_tokens cur hcur, List.flatMap_append]
      congr 1
      split
      · rename_i hd
        have hb : isBlankChunk c = true := by simp at hd; exact hd.2
        have := ih (has || (closeLine cur).isSome) [] 0 (by simpa using hccs.2.2)
        rw [this]
        simp [isBlankChunk_tokens c hb]
      · have := ih (has || (closeLine cur).isSome) [c] c.length (by simpa using hccs)
        rw [this]; simp

/-- the line `closeLine` emits: the chunks of the current line, without its last chunk when that is blank, if any are left -/
theorem mem_closeLine {cur : List Str} {l : Str} (h : l ∈ (closeLine cur).toList) :
    ∃ x kept, l = (x :: kept).reverse.flatten ∧
      (cur = x :: kept ∧ ¬ isBlankChunk x = true ∨ ∃ b, cur = b :: x :: kept ∧ isBlankChunk b = true) := by
  cases cur with
  | nil => simp [closeLine] at h
  | cons b rest =>
    by_cases hb : isBlankChunk b = true
    · rw [closeLine_blank b rest hb] at h
      cases rest with
      | nil => simp at h
      | cons x kept => exact ⟨x, kept, by simpa using h, .inr ⟨b, rfl, hb⟩⟩
    · rw [closeLine_nonblank b rest hb] at h
      exact ⟨b, rest, by simpa using h, .inl ⟨rfl, hb⟩⟩

theorem length_reverse_flatten (k : List Str) : k.reverse.flatten.length = k.flatten.length := by
  induction k with
  | nil => rfl
  | cons x k ih => simp [List.flatten_append, ih]; omega

theorem closeLine_length (cur : List Str) : ∀ l ∈ (closeLine cur).toList, l.length ≤ cur.flatten.length := by
  intro l hl
  obtain ⟨x, kept, rfl, ⟨rfl, -⟩ | ⟨b, rfl, -⟩⟩ := mem_closeLine hl
  · exact Nat.le_of_eq (length_reverse_flatten _)
  · rw [length_reverse_flatten, List.flatten_cons (l := b), List.length_append]; omega

/-- Every line the loop emits is `closeLine` of a line it has built.  To show `Q` of all of them, give an invariant `I cur n cs`
of the loop state (chunks on the current line, their total length, chunks to come) that yields `Q` of the closed line and is
kept by the three ways the loop goes on: the chunk is added; the line is closed and the blank chunk dropped; the line is closed
and the chunk starts the next one. -/
theorem wrapLines_forall (w : Nat) (Q : Str → Prop) (I : List Str → Nat → List Str → Prop)
    (hclose : ∀ cur n cs, I cur n cs → ∀ l ∈ (closeLine cur).toList, Q l)
    (hadd : ∀ cur n c cs, I cur n (c :: cs) → n + c.length ≤ w → I (c :: cur) (n + c.length) cs)
    (hdrop : ∀ cur n c cs, I cur n (c :: cs) → I [] 0 cs)
    (hnew : ∀ cur n c cs, I cur n (c :: cs) → I [c] c.length cs)
    (cs : List Str) (has : Bool) (cur : List Str) (n : Nat) (h : I cur n cs) :
    ∀ l ∈ wrapLines w cs has cur n, Q l := by
  induction cs generalizing has cur n with
  | nil =>
    intro l hl
    rw [wrapLines] at hl
    exact hclose cur n [] h l hl
  | cons c cs ih =>
    intro l hl
    rw [wrapLines] at hl
    by_cases hfit : n + c.length ≤ w
    · rw [if_pos hfit] at hl
      exact ih has _ _ (hadd cur n c cs h hfit) l hl
    · rw [if_neg hfit] at hl
      rcases List.mem_append.mp hl with hl | hl
      · exact hclose cur n _ h l hl
      · split at hl
        · exact ih _ [] 0 (hdrop cur n c cs h) l hl
        · exact ih _ [c] c.length (hnew cur n c cs h) l hl

theorem closeLine_ne_nil (cur : List Str) (hne : ∀ a ∈ cur, a ≠ []) : ∀ l ∈ (closeLine cur).toList, l ≠ [] := by
  intro l hl
  obtain ⟨x, kept, rfl, hc⟩ := mem_closeLine hl
  have hx : x ≠ [] := by
    rcases hc with ⟨rfl, -⟩ | ⟨b, rfl, -⟩
    · exact hne x List.mem_cons_self
    · exact hne x (List.mem_cons_of_mem _ List.mem_cons_self)
  rw [List.reverse_cons, List.flatten_append]
  exact fun h => hx (by simpa using (List.append_eq_nil_iff.mp h).2)
theorem wrapLines_ne_nil (w : Nat) (cs : List Str) (has : Bool) (cur : List Str) (n : Nat)
    (hcur : ∀ a ∈ cur, a ≠ []) (hcs : ∀ a ∈ cs, a ≠ []) :
    ∀ l ∈ wrapLines w cs has cur n, l ≠ [] := by
  refine wrapLines_forall w (· ≠ []) (fun cur _ cs => (∀ a ∈ cur, a ≠ []) ∧ ∀ a ∈ cs, a ≠ [])
    (fun cur _ _ h => closeLine_ne_nil cur h.1) ?_ ?_ ?_ cs has cur n ⟨hcur, hcs⟩
  · exact fun cur _ c cs h _ => ⟨List.forall_mem_cons.mpr ⟨(List.forall_mem_cons.mp h.2).1, h.1⟩, (List.forall_mem_cons.mp h.2).2⟩
  · exact fun _ _ c cs h => ⟨(fun _ ha => nomatch ha), (List.forall_mem_cons.mp h.2).2⟩
  · exact fun _ _ c cs h => ⟨List.forall_mem_cons.mpr ⟨(List.forall_mem_cons.mp h.2).1, (fun _ ha => nomatch ha)⟩,
      (List.forall_mem_cons.mp h.2).2⟩


theorem textWrap_eq {w : Nat} {s : Str} {ls : List Str} (h : textWrap w s = some ls) :
    w ≠ 0 ∧ ls = wrapLines w (wrapChunks (wrapMunge s)) false [] 0 := by
  unfold textWrap at h
  split at h
  · cases h
  · rename_i hc
    exact ⟨hc, by injection h with h; exact h.symm⟩

/-- a line is longer than the width only when it consists of one chunk (generic in what is known about the chunks) -/
theorem wrapLines_length_or (w : Nat) (P : Str → Prop) (cs : List Str) (has : Bool) (cur : List Str) (n : Nat)
    (hn : n = cur.flatten.length) (hinv : n ≤ w ∨ ∃ c, cur = [c] ∧ P c) (hcs : ∀ c ∈ cs, P c) :
    ∀ l ∈ wrapLines w cs has cur n, l.length ≤ w ∨ (P l ∧ ¬ isBlankChunk l = true) := by
  refine wrapLines_forall w _ (fun cur n cs => n = cur.flatten.length ∧ (n ≤ w ∨ ∃ c, cur = [c] ∧ P c) ∧ ∀ c ∈ cs, P c)
    ?_ ?_ ?_ ?_ cs has cur n ⟨hn, hinv, hcs⟩
  · rintro cur n _ ⟨hn, hinv, -⟩ l hl
    rcases hinv with hle | ⟨c, rfl, hP⟩
    · have := closeLine_length cur l hl; left; omega
    · obtain ⟨x, kept, rfl, ⟨e, hb⟩ | ⟨b, e, -⟩⟩ := mem_closeLine hl
      · cases e
        simp only [List.reverse_cons, List.reverse_nil, List.nil_append, List.flatten_cons, List.flatten_nil, List.append_nil]
        exact Or.inr ⟨hP, hb⟩
      · cases e
  · rintro cur n c cs ⟨hn, -, hcs⟩ hfit
    exact ⟨by rw [List.flatten_cons, List.length_append, hn]; omega, Or.inl hfit, (List.forall_mem_cons.mp hcs).2⟩
  · rintro _ _ c cs ⟨-, -, hcs⟩
    exact ⟨rfl, Or.inl (Nat.zero_le _), (List.forall_mem_cons.mp hcs).2⟩
  · rintro _ _ c cs ⟨-, -, hcs⟩
    refine ⟨by simp, ?_, (List.forall_mem_cons.mp hcs).2⟩
    by_cases hcw : c.length ≤ w
    · exact Or.inl hcw
    · exact Or.inr ⟨c, rfl, (List.forall_mem_cons.mp hcs).1⟩

theorem wrapLines_length (w : Nat) (cs : List Str) (has : Bool) (cur : List Str) (n : Nat)
    (hn : n = cur.flatten.length) (hle : n ≤ w) (hcs : ∀ c ∈ cs, c.length ≤ w) :
    ∀ l ∈ wrapLines w cs has cur n, l.length ≤ w := fun l hl =>
  (wrapLines_length_or w (·.length ≤ w) cs has cur n hn (Or.inl hle) hcs l hl).elim id (·.1)

theorem textWrap_tokens {w : Nat} {s : Str} {ls : List Str} (h : textWrap w s = some ls) :
    ls.flatMap tokensWs = tokensWs s := by
  obtain ⟨_, rfl⟩ := textWrap_eq h
  have hok := wrapChunks_ok (wrapMunge s)
  rw [wrapLines_tokens w _ false [] 0 (by simpa using hok)]
  simp only [List.reverse_nil, List.nil_append]
  rw [← tokensWs_flatten_chunks _ hok, wrapChunks_flatten, tokensWs_wrapMunge]

theorem textWrap_ne_nil {w : Nat} {s : Str} {ls : List Str} (h : textWrap w s = some ls) :
    ∀ l ∈ ls, l ≠ [] := by
  obtain ⟨_, rfl⟩ := textWrap_eq h
  exact wrapLines_ne_nil w _ false [] 0 (by simp) (wrapChunks_ok (wrapMunge s)).ne_nil


/-! ### no blank line (when the only whitespace is TextWrapper's whitespace) -/

/-- every whitespace character of the text is a plain blank -/
def NoExotic (a : Str) : Prop := ∀ c ∈ a, isPySpace c = true → c = ' '

theorem mem_expandTabs (col : Nat) (s : Str) (c : Char) (h : c ∈ expandTabs col s) : c = ' ' ∨ c ∈ s := by
  induction s generalizing col with
  | nil => simp [expandTabs] at h
  | cons x xs ih =>
    have tail : ∀ col, c ∈ expandTabs col xs → c = ' ' ∨ c ∈ x :: xs := fun col h =>
      (ih col h).imp id (List.mem_cons_of_mem _)
    have head : ∀ col, c ∈ x :: expandTabs col xs → c = ' ' ∨ c ∈ x :: xs := fun col h =>
      (List.mem_cons.mp h).elim (fun e => Or.inr (e ▸ List.mem_cons_self)) (tail col)
    unfold expandTabs at h
    split at h
    · exact (List.mem_append.mp h).elim (fun h => Or.inl (List.mem_replicate.mp h).2) (tail _)
    · split at h <;> exact head _ h

theorem wrapMunge_noExotic (s : Str) (hs : ∀ c ∈ s, isPySpace c = true → isWrapSpace c = true) :
    NoExotic (wrapMunge s) := by
  intro c hc hsp
  unfold wrapMunge at hc
  obtain ⟨c', hc', rfl⟩ := List.mem_map.mp hc
  by_cases hw : isWrapSpace c' = true
  · simp [hw]
  · simp only [hw, Bool.false_eq_true, if_false] at hsp ⊢
    rcases mem_expandTabs 0 s c' hc' with h | h
    · exact h
    · exact absurd (hs c' h hsp) hw

theorem chunk_noExotic {m : Str} (h : NoExotic m) : ∀ a ∈ wrapChunks m, NoExotic a := by
  intro a ha c hc
  apply h c
  rw [← wrapChunks_flatten m]
  exact List.mem_flatten.mpr ⟨a, ha, hc⟩

theorem Homog.isTok_of_kind_false {a : Str} (h : Homog a) (hx : NoExotic a) (hk : kindOf a = false) : IsTok a := by
  refine ⟨h.1, ?_⟩
  intro c hc
  cases hs : isPySpace c with
  | false => rfl
  | true =>
    have h1 := hx c hc hs
    have h2 := h.2 c hc
    rw [hk, h1] at h2
    exact absurd h2 (by decide)

theorem Homog.kind_of_blank {a : Str} (h : Homog a) (hx : NoExotic a) (hb : isBlankChunk a = true) : kindOf a = true := by
  cases a with
  | nil => exact absurd rfl h.1
  | cons c r =>
    have hs : isPySpace c = true := by
      simp only [isBlankChunk, List.all_cons, Bool.and_eq_true] at hb; exact hb.1
    have := hx c (by simp) hs
    simp [kindOf, this]

theorem Homog.blank_of_kind_true {a : Str} (h : Homog a) (hk : kindOf a = true) : isBlankChunk a = true := by
  simp only [isBlankChunk, List.all_eq_true]
  exact h.blank_of_kind hk

theorem ChunksOK.homog {cs : List Str} (h : ChunksOK cs) : ∀ a ∈ cs, Homog a := by
  induction cs with
  | nil => intro a ha; cases ha
  | cons x r ih =>
    intro a ha
    rcases List.mem_cons.mp ha with ha | ha
    · subst ha; exact h.1
    · exact ih h.2.2 a ha

/-- in general: a line longer than the width is one non-blank chunk of the row, i.e. a single value, unbroken -/
theorem textWrap_length_or {w : Nat} {s : Str} {ls : List Str} (h : textWrap w s = some ls) :
    ∀ l ∈ ls, l.length ≤ w ∨ (l ∈ wrapChunks (wrapMunge s) ∧ ' ' ∉ l) := by
  obtain ⟨_, rfl⟩ := textWrap_eq h
  intro l hl
  rcases wrapLines_length_or w (fun c => c ∈ wrapChunks (wrapMunge s)) _ false [] 0 rfl (Or.inl (Nat.zero_le _))
      (fun c hc => hc) l hl with hle | ⟨hm, hb⟩
  · exact Or.inl hle
  · refine Or.inr ⟨hm, ?_⟩
    have hh : Homog l := (wrapChunks_ok (wrapMunge s)).homog l hm
    intro hmem
    have hk : kindOf l = true := by
      have := hh.2 ' ' hmem
      simpa using this.symm
    exact hb (hh.blank_of_kind_true hk)

theorem closeLine_nonblank_line (cur : List Str) (h : ChunksOK cur.reverse) (hx : ∀ a ∈ cur, NoExotic a) :
    ∀ l ∈ (closeLine cur).toList, tokensWs l ≠ [] := by
  intro l hl
  obtain ⟨x, kept, rfl, hc⟩ := mem_closeLine hl
  -- the last chunk kept is a token: it is not blank itself, or it stands before the blank chunk that was dropped
  have hok : ChunksOK (x :: kept).reverse ∧ IsTok x := by
    rcases hc with ⟨rfl, hb⟩ | ⟨b, rfl, hb⟩
    · have hhom := h.homog x (by simp)
      have hk : kindOf x = false := by
        cases hk : kindOf x with
        | false => rfl
        | true => exact absurd (hhom.blank_of_kind_true hk) hb
      exact ⟨h, hhom.isTok_of_kind_false (hx x (by simp)) hk⟩
    · have h' : ChunksOK (kept.reverse ++ ([x] ++ [b])) := by
        simpa [List.reverse_cons, List.append_assoc] using h
      have hpair := h'.append_right
      have hxk : kindOf x = false := by
        have hne := hpair.2.1 b rfl
        rw [(h.homog b (by simp)).kind_of_blank (hx b (by simp)) hb] at hne
        cases hk : kindOf x with
        | false => rfl
        | true => exact absurd hk hne
      rw [List.reverse_cons] at h
      exact ⟨h.append_left, hpair.1.isTok_of_kind_false (hx x (by simp)) hxk⟩
  rw [tokensWs_flatten_chunks _ hok.1, List.reverse_cons, List.flatMap_append]
  simp [tokensWs_tok x hok.2]

theorem wrapLines_nonblank (w : Nat) (cs : List Str) (has : Bool) (cur : List Str) (n : Nat)
    (h : ChunksOK (cur.reverse ++ cs)) (hcur : ∀ a ∈ cur, NoExotic a) (hcs : ∀ a ∈ cs, NoExotic a) :
    ∀ l ∈ wrapLines w cs has cur n, tokensWs l ≠ [] := by
  refine wrapLines_forall w _
    (fun cur _ cs => ChunksOK (cur.reverse ++ cs) ∧ (∀ a ∈ cur, NoExotic a) ∧ ∀ a ∈ cs, NoExotic a)
    (fun cur _ _ h => closeLine_nonblank_line cur h.1.append_left h.2.1) ?_ ?_ ?_ cs has cur n ⟨h, hcur, hcs⟩
  · rintro cur _ c cs ⟨h, hcur, hcs⟩ _
    exact ⟨by simpa using h, List.forall_mem_cons.mpr ⟨(List.forall_mem_cons.mp hcs).1, hcur⟩, (List.forall_mem_cons.mp hcs).2⟩
  · rintro cur _ c cs ⟨h, -, hcs⟩
    exact ⟨h.append_right.2.2, (fun _ ha => nomatch ha), (List.forall_mem_cons.mp hcs).2⟩
  · rintro cur _ c cs ⟨h, -, hcs⟩
    exact ⟨h.append_right, List.forall_mem_cons.mpr ⟨(List.forall_mem_cons.mp hcs).1, (fun _ ha => nomatch ha)⟩,
      (List.forall_mem_cons.mp hcs).2⟩
theorem divRoundHalfEven_exact (q d : Nat) (hd : 0 < d) : divRoundHalfEven (q * d) d = q := by
  unfold divRoundHalfEven
  have h1 : q * d / d = q := Nat.mul_div_cancel q hd
  have h2 : q * d % d = 0 := Nat.mul_mod_left q d
  simp only [h1, h2]
  have : ¬ (2 * 0 > d) := by omega
  have h3 : (2 * 0 == d) = false := by simp; omega
  simp [h3]

/-- the nearest integer is unique away from ties: anything strictly within half a unit of `q` rounds to `q` -/
theorem divRoundHalfEven_unique (num den q : Nat) (hd : 0 < den)
    (h : 2 * ((q : Int) * den - num).natAbs < den) : divRoundHalfEven num den = q := by
  have hb := divRoundHalfEven_bound num den hd
  generalize divRoundHalfEven num den = D at hb ⊢
  -- `D · den` and `q · den` both lie within `den / 2` of `num`, one of them strictly: they are less than `den` apart
  rcases Nat.lt_trichotomy D q with hlt | rfl | hlt
  · have key : ((D : Int) + 1) * den ≤ q * den := by exact_mod_cast Nat.mul_le_mul_right den hlt
    rw [Int.add_mul, Int.one_mul] at key
    omega
  · rfl
  · have key : ((q : Int) + 1) * den ≤ D * den := by exact_mod_cast Nat.mul_le_mul_right den hlt
    rw [Int.add_mul, Int.one_mul] at key
    omega

/-! ### the exact separation condition -/

/-- the formatted cell `j` begins with a whitespace character -/
def SepAt (c : RowCfg) (null : Str) (j : Nat) (y : F64) : Prop :=
  ∃ ch r, formatCell null (c.colFmt j) c.lenNumericField (c.leftSpacing j) y = ch :: r ∧ isPySpace ch = true

/-- every cell of the list (columns `j`, `j+1`, …) begins with a whitespace character -/
def RowSep (c : RowCfg) (null : Str) : Nat → List F64 → Prop
  | _, [] => True
  | j, y :: ys => SepAt c null j y ∧ RowSep c null (j + 1) ys

/-- weaker than `CfgOK`: spacers are whitespace (possibly empty), NULL is a token -/
structure SpacersWs (c : RowCfg) (null : Str) : Prop where
  spacer_ws : ∀ ch ∈ c.spacer, isPySpace ch = true
  lhs_ws : ∀ ch ∈ c.lhsSpacer, isPySpace ch = true
  null_tok : IsTok null

theorem SpacersWs.left {c : RowCfg} {null : Str} (h : SpacersWs c null) (j : Nat) :
    ∀ ch ∈ c.leftSpacing j, isPySpace ch = true := by
  unfold RowCfg.leftSpacing
  by_cases hj : j = 0
  · simp only [hj, if_true]; exact h.lhs_ws
  · simp only [hj, if_false]; exact h.spacer_ws

/-- a formatted cell is whitespace followed by the cell's token -/
theorem SpacersWs.cell_shape {c : RowCfg} {null : Str} (h : SpacersWs c null) (j : Nat) (x : F64) :
    ∃ ws, (∀ ch ∈ ws, isPySpace ch = true) ∧
      formatCell null (c.colFmt j) c.lenNumericField (c.leftSpacing j) x = ws ++ cellToken null (c.colFmt j) x := by
  obtain ⟨pad, hpad, hshape⟩ := formatCell_shape null (c.colFmt j) c.lenNumericField (c.leftSpacing j) x
  refine ⟨c.leftSpacing j ++ pad, fun ch hch => ?_, hshape⟩
  rcases List.mem_append.mp hch with h1 | h1
  · exact h.left j ch h1
  · exact hpad.ws ch h1

theorem tokensWs_dataRowFrom_sep {c : RowCfg} {null : Str} (h : SpacersWs c null) (j : Nat) (x : F64) (xs : List F64)
    (hsep : RowSep c null (j + 1) xs) :
    tokensWs (dataRowFrom c null j (x :: xs)) = rowTokensFrom c null j (x :: xs) := by
  induction xs generalizing j x with
  | nil =>
    obtain ⟨ws, hws, hshape⟩ := h.cell_shape j x
    simp only [dataRowFrom, rowTokensFrom, hshape, List.append_nil]
    exact tokensWs_cell_end _ _ hws (cellToken_isTok null h.null_tok (c.colFmt j) x)
  | cons y ys ih =>
    obtain ⟨ws, hws, hshape⟩ := h.cell_shape j x
    obtain ⟨⟨ch, r, hr, hch⟩, hrest⟩ := hsep
    have hrow : dataRowFrom c null (j + 1) (y :: ys) = ch :: (r ++ dataRowFrom c null (j + 1 + 1) ys) := by
      simp only [dataRowFrom, hr, List.cons_append]
    rw [dataRowFrom, rowTokensFrom, hshape, hrow,
      tokensWs_cell_then_space _ _ ch _ hws (cellToken_isTok null h.null_tok (c.colFmt j) x) hch, ← hrow, ih (j + 1) y hrest]

theorem CfgOK.spacersWs {c : RowCfg} {null : Str} (h : CfgOK c null) : SpacersWs c null :=
  ⟨h.spacer_ws, h.lhs_ws, h.null_tok⟩

theorem CfgOK.rowSep {c : RowCfg} {null : Str} (h : CfgOK c null) (j : Nat) (xs : List F64) :
    RowSep c null (j + 1) xs := by
  induction xs generalizing j with
  | nil => trivial
  | cons y ys ih =>
    refine ⟨?_, ih (j + 1)⟩
    cases hs : c.spacer with
    | nil => exact absurd hs h.spacer_ne
    | cons ch sp =>
      refine ⟨ch, sp ++ (if c.lenNumericField == -1 then cellValue null (c.colFmt (j + 1)) y
          else rjust c.lenNumericField.toNat (cellValue null (c.colFmt (j + 1)) y)), ?_, h.spacer_ws ch (by simp [hs])⟩
      simp only [formatCell, RowCfg.leftSpacing, Nat.add_eq_zero_iff, Nat.one_ne_zero, and_false, if_false, hs,
        List.cons_append]

/-- under `CfgOK` the non-empty spacer separates the cells -/
theorem tokensWs_dataRowFrom {c : RowCfg} {null : Str} (h : CfgOK c null) (j : Nat) (cells : List F64) :
    tokensWs (dataRowFrom c null j cells) = rowTokensFrom c null j cells := by
  cases cells with
  | nil => rfl
  | cons x xs => exact tokensWs_dataRowFrom_sep h.spacersWs j x xs (h.rowSep j xs)

/-- right-justified fields wider than every value also keep cells apart (even with an empty spacer) -/
theorem justified_sepAt (c : RowCfg) (null : Str) (j : Nat) (y : F64)
    (hl : c.lenNumericField ≠ -1) (hlen : (cellValue null (c.colFmt j) y).length < c.lenNumericField.toNat)
    (hws : ∀ ch ∈ c.leftSpacing j, isPySpace ch = true) : SepAt c null j y := by
  unfold SepAt formatCell
  have hl' : (c.lenNumericField == -1) = false := by simpa using hl
  simp only [hl', Bool.false_eq_true, if_false, rjust]
  obtain ⟨k, hk⟩ : ∃ k, c.lenNumericField.toNat - (cellValue null (c.colFmt j) y).length = k + 1 :=
    ⟨c.lenNumericField.toNat - (cellValue null (c.colFmt j) y).length - 1, by omega⟩
  rw [hk, List.replicate_succ]
  cases hsp : c.leftSpacing j with
  | nil => exact ⟨' ', _, rfl, by decide⟩
  | cons ch sp => exact ⟨ch, _, rfl, hws ch (by simp [hsp])⟩


theorem rowTokensFrom_length (c : RowCfg) (null : Str) (j : Nat) (cells : List F64) :
    (rowTokensFrom c null j cells).length = cells.length := by
  induction cells generalizing j with
  | nil => rfl
  | cons x xs ih => simp [rowTokensFrom, ih]

theorem rowLines_tokens {wrap : Bool} {dw : Nat} {row : Str} {ls : List Str} (h : rowLines wrap dw row = some ls) :
    ls.flatMap tokensWs = tokensWs row := by
  unfold rowLines at h
  cases wrap with
  | true => simp only [if_true] at h; exact textWrap_tokens h
  | false =>
    simp only [Bool.false_eq_true, if_false] at h
    injection h with h; subst h; simp

theorem dwBodyLines_tokens {c : RowCfg} {null : Str} (hok : CfgOK c null) (wrap : Bool) (dw : Nat)
    (rows : List (List F64)) (body : List Str) (h : dwBodyLines c null wrap dw rows = some body) :
    body.flatMap tokensWs = rows.flatMap (rowTokens c null) := by
  induction rows generalizing body with
  | nil => simp only [dwBodyLines] at h; injection h with h; subst h; rfl
  | cons r rs ih =>
    rw [dwBodyLines] at h
    split at h
    · rename_i a b ha hb
      injection h with h; subst h
      rw [List.flatMap_append, rowLines_tokens ha, ih b hb, List.flatMap_cons]
      congr 1
      exact tokensWs_dataRowFrom hok 0 r
    · cases h

theorem dwBodyLines_length {c : RowCfg} {null : Str} (dw : Nat)
    (rows : List (List F64)) (body : List Str) (h : dwBodyLines c null true dw rows = some body) :
    ∀ l ∈ body, (l.length ≤ dw ∨ ' ' ∉ l) ∧ l ≠ [] := by
  induction rows generalizing body with
  | nil => simp only [dwBodyLines] at h; injection h with h; subst h; intro l hl; cases hl
  | cons r rs ih =>
    rw [dwBodyLines] at h
    split at h
    · rename_i a b ha hb
      injection h with h; subst h
      intro l hl
      rcases List.mem_append.mp hl with hl | hl
      · simp only [rowLines, if_true] at ha
        refine ⟨?_, textWrap_ne_nil ha l hl⟩
        rcases textWrap_length_or ha l hl with h1 | h2
        · exact Or.inl h1
        · exact Or.inr h2.2
      · exact ih b hb l hl
    · cases h

end Lasio.Dw
