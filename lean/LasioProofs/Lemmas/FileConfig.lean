import LasioProofs.Props.C01File
import LasioProofs.Props.C12
/-
Helper lemmas for C12File: one object written under two configurations, both texts read by `Tf.readFull`.
-/
namespace Lasio.Fc
open Lasio

/-! ## `set_item` seen through a filter that drops the new item and every item it could replace -/

theorem wRenumber_back (tr : Bool) (t : Str) (L : List Wr.WItem) (k : Nat) :
    ∀ z ∈ Wr.wRenumber tr t L k, ∃ x ∈ L, RH.textOf z = RH.textOf x ∧
      (z.session = x.session ∨ ∃ n, z.session = useful x.orig ++ ':' :: natToStr n) := by
  induction L generalizing k with
  | nil => intro z hz; simp [Wr.wRenumber] at hz
  | cons a L ih =>
    intro z hz
    unfold Wr.wRenumber at hz
    split at hz
    · rcases List.mem_cons.mp hz with rfl | hz
      · exact ⟨a, List.mem_cons_self, rfl, Or.inr ⟨_, rfl⟩⟩
      · obtain ⟨x, hx, h1, h2⟩ := ih (k + 1) z hz
        exact ⟨x, List.mem_cons_of_mem _ hx, h1, h2⟩
    · rcases List.mem_cons.mp hz with rfl | hz
      · exact ⟨z, List.mem_cons_self, rfl, Or.inl rfl⟩
      · obtain ⟨x, hx, h1, h2⟩ := ih k z hz
        exact ⟨x, List.mem_cons_of_mem _ hx, h1, h2⟩

theorem wAssignSuffixes_back (tr : Bool) (t : Str) (L : List Wr.WItem) :
    ∀ z ∈ Wr.wAssignSuffixes tr t L, ∃ x ∈ L, RH.textOf z = RH.textOf x ∧
      (z.session = x.session ∨ ∃ n, z.session = useful x.orig ++ ':' :: natToStr n) := by
  intro z hz
  unfold Wr.wAssignSuffixes at hz
  split at hz
  · exact wRenumber_back tr t L 0 z hz
  · exact ⟨z, hz, rfl, Or.inl rfl⟩

theorem filter_orig_text (Q : Str → Bool) (l : List Wr.WItem) :
    (l.filter (fun z => Q z.orig)).map RH.textOf = (l.map RH.textOf).filter (fun t => Q t.1) := by
  rw [List.filter_map]
  rfl

theorem wSetItem_filter (tr : Bool) (key : Str) (it : Wr.WItem) (items : List Wr.WItem) (Q : Str → Bool)
    (hit : Q it.orig = false) (hrep : ∀ y ∈ items, cmpStr tr key y.session = true → Q y.orig = false) :
    ((Wr.wSetItem tr key it items).filter (fun z => Q z.orig)).map RH.textOf =
      (items.filter (fun z => Q z.orig)).map RH.textOf := by
  obtain ⟨L, e, hL⟩ := Cy.wSetItem_cases tr key it items
  rw [e, filter_orig_text, RH.wAssignSuffixes_text, ← filter_orig_text]
  rcases hL with rfl | ⟨A, y, B, rfl, rfl, hy⟩
  · simp [List.filter_append, hit]
  · have hQy := hrep y (by simp) hy
    simp [List.filter_append, hit, hQy]

theorem wSetItem_back (tr : Bool) (key : Str) (it : Wr.WItem) (items : List Wr.WItem) :
    ∀ z ∈ Wr.wSetItem tr key it items, ∃ x, (x = it ∨ x ∈ items) ∧ RH.textOf z = RH.textOf x ∧
      (z.session = x.session ∨ ∃ n, z.session = useful x.orig ++ ':' :: natToStr n) := by
  intro z hz
  obtain ⟨L, e, hL⟩ := Cy.wSetItem_cases tr key it items
  rw [e] at hz
  obtain ⟨x, hx, h1, h2⟩ := wAssignSuffixes_back tr _ L z hz
  refine ⟨x, ?_, h1, h2⟩
  rcases hL with rfl | ⟨A, y, B, rfl, rfl, _⟩
  · rcases List.mem_append.mp hx with h | h
    · exact Or.inr h
    · exact Or.inl (by simpa using h)
  · simp only [List.mem_append, List.mem_cons] at hx ⊢
    rcases hx with h | rfl | h
    · exact Or.inr (Or.inl h)
    · exact Or.inl rfl
    · exact Or.inr (Or.inr (Or.inr h))

/-! ## the written ~Version section apart from VERS and WRAP -/

/-- the mnemonic is VERS or WRAP for the reader -/
def isVW (o : Rd.ReadOpts) (orig : Str) : Bool :=
  Rd.mcmp (o.mnemonicCase != .preserve) (Rd.usefulMn (Wr.caseMap (RH.cvtCase o.mnemonicCase) orig)) "VERS".toList ||
  Rd.mcmp (o.mnemonicCase != .preserve) (Rd.usefulMn (Wr.caseMap (RH.cvtCase o.mnemonicCase) orig)) "WRAP".toList

/-- a re-read item that is neither VERS nor WRAP -/
def notVW (o : Rd.ReadOpts) (r : Rd.RItem) : Bool :=
  !(Rd.mcmp (o.mnemonicCase != .preserve) (Rd.U r) "VERS".toList || Rd.mcmp (o.mnemonicCase != .preserve) (Rd.U r) "WRAP".toList)

/-- **the session mnemonics of ~Version are sane for the reader**: an item that `version["VERS"]` / `version["WRAP"]` finds (by its
SESSION mnemonic, under the section's own `mnemonic_transforms`) is a VERS / WRAP item for the reader (by its mnemonic as re-read) -/
def SessionsSane (o : Rd.ReadOpts) (las : Wr.WLas) : Prop :=
  ∀ y ∈ las.version, (cmpStr las.versionTr "WRAP".toList y.session = true ∨ cmpStr las.versionTr "VERS".toList y.session = true) →
    isVW o y.orig = true

theorem isVW_VERS (o : Rd.ReadOpts) : isVW o "VERS".toList = true := by
  obtain ⟨ig, mc⟩ := o
  unfold isVW
  cases mc <;> dsimp only <;> decide

theorem isVW_WRAP (o : Rd.ReadOpts) : isVW o "WRAP".toList = true := by
  obtain ⟨ig, mc⟩ := o
  unfold isVW
  cases mc <;> dsimp only <;> decide

theorem versItem_orig (version : String) (vers : Wr.WItem) (h : Wr.versItem version = some vers) : vers.orig = "VERS".toList :=
  (Cy.versItem_facts true version vers h).1

/-- **The written ~Version section differs from `las.version` in VERS and WRAP items only** -/
theorem versionCopy_filter (o : Rd.ReadOpts) (version : String) (wrap : Option Bool) (las : Wr.WLas)
    (hs : SessionsSane o las) :
    ((RH.versionCopy version wrap las).filter (fun z => !isVW o z.orig)).map RH.textOf =
      (las.version.filter (fun z => !isVW o z.orig)).map RH.textOf := by
  have hkV : ':' ∉ Rd.ck las.versionTr "VERS".toList := Rd.steerKey_nocolon _ _ (by simp [Rd.steerKeys])
  -- the WRAP step
  have hW : ((RH.wrapSection wrap las).filter (fun z => !isVW o z.orig)).map RH.textOf =
      (las.version.filter (fun z => !isVW o z.orig)).map RH.textOf := by
    cases wrap with
    | none => rfl
    | some b =>
      apply wSetItem_filter las.versionTr "WRAP".toList (Wr.wrapItem b) las.version (fun s => !isVW o s)
      · rw [Cy.wrapItem_orig, isVW_WRAP]; rfl
      · intro y hy hc
        rw [hs y hy (Or.inl hc)]; rfl
  -- an item of the section after the WRAP step that `version["VERS"]` finds is VERS / WRAP for the reader
  have hrepV : ∀ y ∈ RH.wrapSection wrap las, cmpStr las.versionTr "VERS".toList y.session = true → (!isVW o y.orig) = false := by
    intro y hy hc
    cases wrap with
    | none => rw [hs y hy (Or.inr hc)]; rfl
    | some b =>
      obtain ⟨x, hx, ht, hsess⟩ := wSetItem_back las.versionTr "WRAP".toList (Wr.wrapItem b) las.version y hy
      have ho : y.orig = x.orig := Cy.textOf_orig ht
      rcases hsess with e | ⟨n, e⟩
      · rcases hx with rfl | hx
        · rw [ho, Cy.wrapItem_orig, isVW_WRAP]; rfl
        · rw [ho, hs x hx (Or.inr (by rw [← e]; exact hc))]; rfl
      · rw [e, Cy.cmpStr_suffixed _ _ _ _ hkV] at hc
        cases hc
  unfold RH.versionCopy
  cases hv : Wr.versItem version with
  | none => exact hW
  | some vers =>
    simp only []
    rw [wSetItem_filter las.versionTr "VERS".toList vers (RH.wrapSection wrap las) (fun s => !isVW o s)
      (by rw [versItem_orig version vers hv, isVW_VERS]; rfl) hrepV]
    exact hW

theorem map_rdExpected_of_text (o : Rd.ReadOpts) (l1 l2 : List Wr.WItem) (h : l1.map RH.textOf = l2.map RH.textOf) :
    l1.map (Wr.rdExpected o) = l2.map (Wr.rdExpected o) := by
  have e : ∀ l : List Wr.WItem, l.map (Wr.rdExpected o) =
      (l.map RH.textOf).map (fun t => (⟨Wr.caseMap (RH.cvtCase o.mnemonicCase) t.1, t.2.1, t.2.2.1.text, t.2.2.2⟩ : Rd.RItem)) := by
    intro l; rw [List.map_map]; rfl
  rw [e l1, e l2, h]

/-- **the re-read ~Version items apart from VERS and WRAP do not depend on the configuration** -/
theorem version_items_independent (o : Rd.ReadOpts) (v1 v2 : String) (w1 w2 : Option Bool) (las : Wr.WLas)
    (hs : SessionsSane o las) :
    ((RH.versionCopy v1 w1 las).map (Wr.rdExpected o)).filter (notVW o) =
      ((RH.versionCopy v2 w2 las).map (Wr.rdExpected o)).filter (notVW o) := by
  have hP : notVW o ∘ Wr.rdExpected o = fun z : Wr.WItem => !isVW o z.orig := rfl
  rw [List.filter_map, List.filter_map, hP]
  apply map_rdExpected_of_text
  rw [versionCopy_filter o v1 w1 las hs, versionCopy_filter o v2 w2 las hs]

/-! ## the WRAP steering value when `wrap` is given -/

theorem steerVal_wrap_given (o : Rd.ReadOpts) (version : String) (b : Bool) (las : Wr.WLas)
    (hw : Cy.WrapOK o (RH.versionCopy version (some b) las)) :
    Fr.steerVal o "WRAP" (RH.versionCopy version (some b) las) = some (if b then Dt.yesTxt else "NO".toList) := by
  obtain ⟨x, hx⟩ := hw
  obtain ⟨z, hz, hzt⟩ := Cy.versionCopy_has_wrap version b las
  have hzx : z = x := Cy.filter_single_elem _ _ x z hx hz
    (Cy.inGroup_WRAP o z ((Cy.textOf_orig hzt).trans (Cy.wrapItem_orig b)))
  unfold Fr.steerVal
  rw [hx]
  simp only []
  rw [← hzx]
  have : z.value = (Wr.wrapItem b).value := congrArg (·.2.2.1) hzt
  rw [this]
  cases b <;> rfl

/-! ## the two halves of one file fit -/

/-- the header and the data section fit: WRAP = YES in the written header, or the data were written with `wrap=False` and the
written WRAP value is not YES (`Wo.writeObj` always produces one of the two) -/
def Fit (o : Rd.ReadOpts) (version : String) (wrap : Option Bool) (las : Wr.WLas) (cfg : Dw.DataCfg) : Prop :=
  Fr.steerVal o "WRAP" (RH.versionCopy version wrap las) = some Dt.yesTxt ∨
  (cfg.wrap = false ∧ ∃ t, Fr.steerVal o "WRAP" (RH.versionCopy version wrap las) = some t ∧ t ≠ Dt.yesTxt)

end Lasio.Fc
