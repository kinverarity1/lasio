import LasioModel.ReadObjFull
import LasioProofs.Props.C11Typed
/-
Lemmas for the end-to-end cycle (`Props/C11EndToEnd.lean`):
  A. `rowsOf_transpose`     `Wo.rowsOf` of the columns of a rectangular matrix is the matrix;
  B. `dataOf_written`       the curve data `Ro.dataOf` makes of what the strict reader returns for the written tokens
                            (`assignCurves n (applyNull true (some nv) (matrixColumns ft n (tokenRows c null rows)))`) are, row by row, the
                            re-read matrix `Cd.reRows ft val null nv c rows`; all curves are declared float curves;
  C. `readObjFullLines_of_readFull`   `Ro.readObjFullLines` in terms of `Tf.readFull` (same header read, same `readData` calls).
-/
namespace Lasio.Ro
open Lasio Lasio.Wo

/-! ## A. rows of columns -/

theorem zipWith_head_tail (d : F64) (M : List (List F64)) (h : ∀ row ∈ M, row ≠ []) :
    List.zipWith (· :: ·) (M.map fun row => row.getD 0 d) (M.map List.tail) = M := by
  induction M with
  | nil => rfl
  | cons row M ih =>
    simp only [List.map_cons, List.zipWith_cons_cons, List.cons.injEq]
    refine ⟨?_, ih (fun r hr => h r (by simp [hr]))⟩
    cases row with
    | nil => exact absurd rfl (h [] (by simp))
    | cons a t => rfl

/-- **`rowsOf` undoes "columns of"**: `cols` are the `cols.length ≥ 1` columns of the rectangular matrix `M` -/
theorem rowsOf_transpose (d : F64) : ∀ (cols : List (List F64)) (M : List (List F64)), cols ≠ [] →
    (∀ row ∈ M, row.length = cols.length) →
    (∀ j c, cols[j]? = some c → c = M.map fun row => row.getD j d) → rowsOf cols = M := by
  intro cols
  induction cols with
  | nil => intro M h; exact absurd rfl h
  | cons c cs ih =>
    intro M _ hlen hcol
    cases cs with
    | nil =>
      have hc := hcol 0 c rfl
      subst hc
      simp only [rowsOf, List.map_map]
      conv => rhs; rw [← List.map_id M]
      apply List.map_congr_left
      intro row hrow
      have := hlen row hrow
      match row, this with
      | [a], _ => rfl
    | cons c' cs' =>
      have hc := hcol 0 c rfl
      have ih' := ih (M.map List.tail) (by simp)
        (by
          intro row hrow
          obtain ⟨r0, hr0, rfl⟩ := List.mem_map.mp hrow
          have := hlen r0 hr0
          simp only [List.length_tail, this, List.length_cons]
          omega)
        (by
          intro j x hx
          have := hcol (j + 1) x (by simpa using hx)
          rw [this, List.map_map]
          apply List.map_congr_left
          intro row _
          cases row <;> rfl)
      show List.zipWith (· :: ·) c (rowsOf (c' :: cs')) = M
      rw [ih', hc]
      apply zipWith_head_tail
      intro row hrow e
      have := hlen row hrow
      rw [e] at this
      simp at this

/-! ## B. the curves of the written tokens -/

theorem floatCells_numeric (ft : Dt.FloatTable) (toks : List Str) (h : ∀ t ∈ toks, (Dt.toFloat ft t).isSome = true) :
    Dt.floatCells ft toks = some (toks.map fun t => (Dt.toFloat ft t).getD []) := by
  induction toks with
  | nil => rfl
  | cons t ts ih =>
    have ht := h t (by simp)
    cases hv : Dt.toFloat ft t with
    | none => rw [hv] at ht; cases ht
    | some v =>
      simp only [Dt.floatCells, hv, ih (fun x hx => h x (by simp [hx])), List.map_cons, Option.getD_some]

/-- the float text the strict reader stores for the token `tok` of column `j` -/
def cellTxt (ft : Dt.FloatTable) (nv : Str) (j : Nat) (tok : Str) : Str :=
  let v := (Dt.toFloat ft tok).getD []
  if j != 0 && Dt.feq v nv then Dt.nanTxt else v

/-- column `j` of the strict reader's result for a numeric rectangular token matrix -/
theorem strictColumn (ft : Dt.FloatTable) (nv : Str) (n : Nat) (T : List (List Str)) (hrect : ∀ r ∈ T, r.length = n)
    (hnum : Dt.Numeric ft T) (j : Nat) (hj : j < n) :
    (Dt.applyNull true (some nv) (Dt.matrixColumns ft n T))[j]? =
      some (.floats (T.map fun r => cellTxt ft nv j (r.getD j []))) := by
  unfold Dt.applyNull
  rw [Dt.applyNullFrom_getElem?]
  have hm : (Dt.matrixColumns ft n T)[j]? = some (.floats (T.map fun r => (Dt.toFloat ft (r.getD j [])).getD [])) := by
    rw [Dt.matrixColumns_getElem? ft hj, Dt.typedColumn]
    rw [floatCells_numeric]
    · simp only [List.map_map]; rfl
    · intro t ht
      obtain ⟨r, hr, rfl⟩ := List.mem_map.mp ht
      apply hnum r hr
      have hl := hrect r hr
      rw [List.getD_eq_getElem?_getD, List.getElem?_eq_getElem (by omega)]
      simp
  rw [hm]
  simp only [Option.map_some, Option.some.injEq, Nat.zero_add, Dt.applyNullCol, Bool.true_and]
  -- `cellTxt` makes, cell by cell, the test on the column number that `applyNullCol` makes once
  cases hj0 : j != 0 <;> simp [cellTxt, hj0, Dt.nullCells]

/-- **B.**  `rows` the written r × n matrix (n ≥ 1), every written token converts.  The curves the strict reader returns for the written
tokens are `n` declared float curves, and `dataOf` of them is — row by row — the re-read matrix `Cd.reRows`. -/
theorem dataOf_written (ft : Dt.FloatTable) (val : Str → Option F64) (null nv : Str) (c : Dw.RowCfg) (rows : List (List F64)) (n : Nat)
    (hn : 0 < n) (hrect : ∀ r ∈ rows, r.length = n) (hnum : Dt.Numeric ft (Rt.tokenRows c null rows)) :
    let curves := Dt.assignCurves n (Dt.applyNull true (some nv) (Dt.matrixColumns ft n (Rt.tokenRows c null rows)))
    numericCurves curves = true ∧ (dataOf val curves).length = n ∧
    (∀ col ∈ dataOf val curves, col.length = rows.length) ∧
    rowsOf (dataOf val curves) = Cd.reRows ft val null nv c rows := by
  intro curves
  have hT := Rt.tokenRows_rect c null rows n hrect
  have hlen : (Dt.applyNull true (some nv) (Dt.matrixColumns ft n (Rt.tokenRows c null rows))).length = n := by
    rw [Dt.applyNull_length, Fr.matrixColumns_length]
  obtain ⟨hclen, hsnd, hfst⟩ : curves.length = n ∧ curves.map Prod.snd = _ ∧
    ∀ j, j < n → (curves[j]?).map Prod.fst = some (.declared j) := Fr.assignCurves_square n _ hlen
  have hcurve : ∀ j, j < n → curves[j]? = some (Dt.Slot.declared j,
      .floats ((Rt.tokenRows c null rows).map fun r => cellTxt ft nv j (r.getD j []))) := by
    intro j hj
    have h1 := hfst j hj
    have h2 := strictColumn ft nv n _ hT hnum j hj
    rw [← hsnd, List.getElem?_map] at h2
    cases hc : curves[j]? with
    | none => rw [hc] at h1; cases h1
    | some x =>
      rw [hc] at h1 h2
      simp only [Option.map_some, Option.some.injEq] at h1 h2
      rw [← h1, ← h2]
  -- column j of the data
  have hdata : ∀ j, j < n → (dataOf val curves)[j]? =
      some ((Cd.reRows ft val null nv c rows).map fun row => row.getD j .nan) := by
    intro j hj
    unfold dataOf textColumns
    simp only [List.getElem?_map, hcurve j hj, Option.map_some, floatColumn, Option.getD_some, Option.some.injEq]
    unfold Rt.tokenRows Cd.reRows
    simp only [List.map_map]
    apply List.map_congr_left
    intro row hrow
    obtain ⟨x, hx⟩ : ∃ x, row[j]? = some x := ⟨row[j]'(by rw [hrect row hrow]; exact hj), List.getElem?_eq_getElem _⟩
    have hsome := hnum _ (List.mem_map_of_mem hrow) (Dw.cellToken null (c.colFmt j) x)
      (List.mem_of_getElem? (by rw [Rt.rowTokens_getElem?, hx]; rfl))
    simp only [Function.comp, List.getD_eq_getElem?_getD, Rt.rowTokens_getElem?, Cd.reRowFrom_getElem?, hx, Option.map_some,
      Option.getD_some, Nat.zero_add]
    -- one cell
    cases hv : Dt.toFloat ft (Dw.cellToken null (c.colFmt j) x) with
    | none => rw [hv] at hsome; cases hsome
    | some v =>
      simp only [cellTxt, hv, Option.getD_some, valD, Cd.reCell, Cd.reTok, Cd.readTxt, Option.map_some, Option.bind_some]
  have hdl : (dataOf val curves).length = n := by simp [dataOf, textColumns, hclen]
  have hcol : ∀ j col, (dataOf val curves)[j]? = some col →
      col = (Cd.reRows ft val null nv c rows).map fun row => row.getD j .nan := by
    intro j col hj
    rw [hdata j (hdl ▸ (List.getElem?_eq_some_iff.mp hj).1)] at hj
    exact (Option.some.inj hj).symm
  refine ⟨?_, hdl, ?_, ?_⟩
  · unfold numericCurves
    rw [List.all_eq_true]
    intro sc hsc
    obtain ⟨j, hj⟩ := List.getElem?_of_mem hsc
    rw [hcurve j (hclen ▸ (List.getElem?_eq_some_iff.mp hj).1)] at hj
    cases hj
    rfl
  · intro col hmem
    obtain ⟨j, hj⟩ := List.getElem?_of_mem hmem
    rw [hcol j col hj]
    simp [Cd.reRows]
  · apply rowsOf_transpose .nan
    · intro e
      rw [e] at hdl
      exact absurd hdl (Nat.ne_of_lt hn)
    · intro row hrow
      rw [Cd.reRows_rect ft val null nv c rows n hrect row hrow, hdl]
    · exact hcol

/-! ## C. `readObjFullLines` and `Tf.readFull` -/

/-- `Tf.readFull` found one data window and `readData` returned the numeric curves `cols` for it: `readObjFullLines` returns the typed header
of the same header read with `dataOf cols` as data and column 0 as `index_initial` -/
theorem readObjFullLines_of_readFull (env : Env) (opts : Tf.Opts) (lines : Tf.Doc) (S : List (Rd.RKey × Rd.SecVal)) (St : Rd.Steer)
    (a b : Nat) (res : Except Dt.DErr (Dt.Engine × List (Dt.Slot × Dt.Column))) (cols : List (Dt.Slot × Dt.Column))
    (h : Tf.readFull opts env.nullOf env.ft lines = .ok ⟨S, St, [⟨a, b, res⟩]⟩) (hres : res.map Prod.snd = .ok cols)
    (hnum : numericCurves cols = true) :
    ∃ th, readObjLines opts.hdr lines = .ok th ∧ th.raw.sections = S ∧ th.raw.steer = St ∧
      readObjFullLines env opts lines =
        .ok (withData (headerObj env.py opts.hdr th) (dataOf env.val cols) (dataOf env.val cols).head?) := by
  unfold Tf.readFull at h
  cases hr : Rd.readLines opts.hdr lines with
  | error e => rw [hr] at h; cases h
  | ok hd =>
    rw [hr] at h
    simp only [Except.ok.injEq, Tf.FullRead.mk.injEq] at h
    obtain ⟨h1, h2, h3⟩ := h
    obtain ⟨th, hth, rfl⟩ := readObjLines_of_readLines opts.hdr lines hd hr
    refine ⟨th, hth, h1, h2, ?_⟩
    cases res with
    | error e => cases hres
    | ok ec =>
      obtain ⟨e, cols'⟩ := ec
      simp only [Except.map, Except.ok.injEq] at hres
      subst hres
      have hdr : dataResults env opts lines th.raw = [.ok (e, cols')] := by
        unfold dataResults
        have := congrArg (List.map Tf.DataRead.res) h3
        simpa [List.map_map, Function.comp] using this
      unfold readObjFullLines readFullCols
      simp only [hth, hdr, hnum, if_true]

theorem readObjFullLines_index (env : Env) (opts : Tf.Opts) (lines : Tf.Doc) (o : WObj)
    (h : readObjFullLines env opts lines = .ok o) : o.indexInitial = o.index := by
  unfold readObjFullLines at h
  split at h
  · cases h
  · cases h; rfl

end Lasio.Ro
