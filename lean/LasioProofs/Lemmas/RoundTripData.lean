import LasioProofs.Lemmas.DataLemmas
import LasioProofs.Lemmas.DataWriteLemmas
/-
Bridge between the data-section WRITER model (`LasioModel/DataWrite.lean`, namespace `Lasio.Dw`) and the data-section READER
model (`LasioModel/Data.lean`, namespace `Lasio.Dt`): the reader inverts the writer on the data section (model level).

Part 1  the two tokenisers: on ANY line whose whitespace tokens (`Dw.tokensWs`, = `str.split()`) are all quiet tokens
        (`Dt.QuietTok`) the reader's `lineTokens` / `splitWs` / `npTokens` return exactly those tokens and the read
        substitutions are the identity on the whole line.
Part 2  every token the writer prints (`Dw.cellToken`) is quiet; a printed finite sample is in the plain decimal grammar.
Part 3  write -> read: normal engine (wrapped or not), sniffer and genfromtxt specification (unwrapped).
Part 4  the NaN mask through `applyNull`.
Part 5  presentation options do not change what is read.
Part 6  the same through `readData`.
-/
namespace Lasio.Rt
open Lasio

/-! ## Part 1: the two tokenisers agree -/

/-- **`str.split()` is modelled twice** (`Dt.pySplit` for `genfromtxt`, `Dw.tokensWs` for the writer proofs): the two models
agree on every string -/
theorem pySplit_eq_tokensWs (l : Str) : Dt.pySplit l = Dw.tokensWs l := by
  induction l using Tf.words_induction with
  | nil => rfl
  | ws c cs hc ih => rw [Tf.pySplit_ws c cs hc, ih]; exact (Dw.tokGo_space_prefix [c] cs (by simpa using hc)).symm
  | word w tail hw ht hsp ih =>
    rw [hsp, ih]
    rcases ht with rfl | ⟨b, r, rfl, hb⟩
    · rw [List.append_nil]; exact (Dw.tokensWs_cell_end [] w Tf.allWs_nil hw).symm
    · exact (Dw.tokensWs_cell_then_space [] w b r Tf.allWs_nil hw hb).symm

theorem tokensWs_append_ws (l eol : Str) (h : Dt.AllWs eol) : Dw.tokensWs (l ++ eol) = Dw.tokensWs l := by
  rw [← pySplit_eq_tokensWs, ← pySplit_eq_tokensWs]
  exact Tf.pySplit_ws_right l eol h

/-- **Shape of a line with quiet tokens**: it is blank, or it is a data line (`Dt.RowLine`) of exactly its `str.split()` tokens -/
theorem line_shape' (l : Str) (hq : ∀ t ∈ Dw.tokensWs l, Dt.QuietTok t) :
    (Dw.tokensWs l = [] ∧ Dt.AllWs l) ∨ Dt.RowLine (Dw.tokensWs l) l := by
  rw [← pySplit_eq_tokensWs] at hq ⊢
  induction l using Tf.words_induction with
  | nil => exact .inl ⟨rfl, Tf.allWs_nil⟩
  | ws c cs hc ih =>
    rw [Tf.pySplit_ws c cs hc] at hq ⊢
    rcases ih hq with ⟨he, hws⟩ | ⟨pre, core, post, hpre, hpost, hcore, e⟩
    · exact .inl ⟨he, Tf.allWs_cons hc hws⟩
    · exact .inr ⟨c :: pre, core, post, Tf.allWs_cons hc hpre, hpost, hcore, by rw [e]; rfl⟩
  | word w tail hw ht hsp ih =>
    rw [hsp] at hq ⊢
    have hqt : Dt.QuietTok w := hq w List.mem_cons_self
    right
    rcases ih (fun x hx => hq x (List.mem_cons_of_mem _ hx)) with
      ⟨he, hws⟩ | ⟨pre2, core2, post2, hpre2, hpost2, hcore2, hr2⟩
    · rw [he]
      exact ⟨[], w, tail, Tf.allWs_nil, hws, Dt.Core.one hqt, rfl⟩
    · have hne : pre2 ≠ [] := by
        intro e
        subst e
        obtain ⟨c, cs, hc, hcc⟩ := Dt.core_head_tok hcore2
        rcases ht with hr | ⟨x, r, hr, hx⟩
        · rw [hr, hc] at hr2; simp at hr2
        · rw [hr, hc] at hr2
          simp only [List.nil_append, List.cons_append, List.cons.injEq] at hr2
          have := (Dt.tokChar_parts c hcc).1
          rw [← hr2.1, hx] at this
          cases this
      exact ⟨[], w ++ (pre2 ++ core2), post2, Tf.allWs_nil, hpost2, Dt.Core.cons hqt hne hpre2 hcore2, by rw [hr2]; simp⟩

/-- the normal engine's items of a line = its `str.split()` tokens, whichever substitutions are active -/
theorem lineTokens_eq_tokensWs (sb : Dt.Subs) (l : Str) (hq : ∀ t ∈ Dw.tokensWs l, Dt.QuietTok t) :
    Dt.lineTokens sb .space l = Dw.tokensWs l := by
  rcases line_shape' l hq with ⟨he, hws⟩ | hrow
  · rw [he]; exact Dt.lineTokens_skip sb .space (Or.inl hws)
  · exact hrow.lineToks.items sb

/-- `genfromtxt`'s tokens of a line = its `str.split()` tokens -/
theorem npTokens_eq_tokensWs (l : Str) (hq : ∀ t ∈ Dw.tokensWs l, Dt.QuietTok t) :
    Dt.npTokens l = Dw.tokensWs l := by
  rcases line_shape' l hq with ⟨he, hws⟩ | hrow
  · rw [he]; exact Dt.npTokens_skip (Or.inl hws)
  · exact Dt.npTokens_row hrow

/-- the reader's whitespace splitter (`sow_regex.findall`, groups joined) on the RAW line = `str.split()` -/
theorem splitWs_eq_tokensWs (l : Str) (hq : ∀ t ∈ Dw.tokensWs l, Dt.QuietTok t) : Dt.splitWs l = Dw.tokensWs l := by
  rcases line_shape' l hq with ⟨he, hws⟩ | ⟨pre, core, post, hpre, hpost, hcore, hl⟩
  · rw [he]; exact Dt.scanTok_allWs_nil _ Dt.mSplit_ws l hws
  · conv => lhs; rw [hl]
    unfold Dt.splitWs
    rw [Dt.scanTok_allWs _ Dt.mSplit_ws pre _ hpre]
    exact Dt.scanTok_core _ Dt.mSplit_ws Dt.mSplit_takes hcore post hpost

theorem noMatch_allWs (m : Str → Option (Str × Nat)) (hws : ∀ w r, isPySpace w = true → m (w :: r) = none)
    (hnil : m [] = none) (a : Str) (ha : Dt.AllWs a) : Dt.NoMatch m a := by
  have := Dt.noMatch_allWs_append m hws a [] ha (Dt.noMatch_nil m hnil)
  simpa using this

theorem noMatch_line (m : Str → Option (Str × Nat)) (hl : Dt.Local m)
    (hws : ∀ w r, isPySpace w = true → m (w :: r) = none) (hnil : m [] = none)
    (hq : ∀ t, Dt.QuietTok t → Dt.NoMatch m t) (l : Str) (hql : ∀ t ∈ Dw.tokensWs l, Dt.QuietTok t) :
    Dt.NoMatch m l := by
  rcases line_shape' l hql with ⟨_, hws'⟩ | ⟨pre, core, post, hpre, hpost, hcore, hl'⟩
  · exact noMatch_allWs m hws hnil l hws'
  · rw [hl']
    apply Dt.noMatch_allWs_append m hws pre _ hpre
    exact Dt.noMatch_append m hl core post (Dt.core_noMatch m hl hws hq hcore) (noMatch_allWs m hws hnil post hpost)
      (Dt.wsHead_allWs post hpost)

/-- the read substitutions (any subset) leave the whole RAW line unchanged -/
theorem applySubs_line (sb : Dt.Subs) (l : Str) (hq : ∀ t ∈ Dw.tokensWs l, Dt.QuietTok t) : Dt.applySubs sb l = l :=
  Dt.applySubs_of_noMatch sb (noMatch_line Dt.mComma Dt.mComma_local Dt.mComma_ws rfl (fun _ ht => ht.comma) l hq)
    (noMatch_line Dt.mHyphen Dt.mHyphen_local Dt.mHyphen_ws rfl (fun _ ht => ht.hyphen) l hq)
    (noMatch_line Dt.mDot Dt.mDot_local Dt.mDot_ws rfl (fun _ ht => ht.dot) l hq)

/-! ### the tokenisers themselves (no condition on the tokens) -/

/-- **the reader's whitespace splitter** (`sow_regex.findall`, groups joined) **is `str.split()` on every line without quote
characters**: the scanner never starts on whitespace and takes a whole run of other characters -/
theorem splitWs_eq_tokensWs_noquote (l : Str) (h : ∀ x ∈ l, x ≠ '"' ∧ x ≠ '\'') : Dt.splitWs l = Dw.tokensWs l := by
  rw [← pySplit_eq_tokensWs]
  unfold Dt.splitWs
  induction l using Tf.words_induction with
  | nil => rfl
  | ws c cs hc ih =>
    rw [Tf.pySplit_ws c cs hc, ← ih fun x hx => h x (List.mem_cons_of_mem _ hx)]
    exact Dt.scanTok_allWs _ Dt.mSplit_ws [c] cs (Tf.allWs_cons hc Tf.allWs_nil)
  | word w tail hw ht hsp ih =>
    obtain ⟨c, t, rfl⟩ := List.exists_cons_of_ne_nil hw.1
    have hq := fun x hx => h x (List.mem_append_left tail hx)
    rw [hsp, Dt.scanTok_take _ c t tail (Dt.mSplit_takes_run isPySpace c t tail
        (fun x hx => ⟨hw.2 x hx, by simp [(hq x hx).1], by simp [(hq x hx).2]⟩) ht),
      ih fun x hx => h x (List.mem_append_right _ hx)]

/-! ## Part 2: what the writer prints is quiet -/

theorem charClass_digit (c : Char) (h : isDigit c = true) : Dt.charClass c = .digit := by
  simp [Dt.charClass, h]

theorem pRun_int_digits (ds r : Str) (h : ∀ c ∈ ds, isDigit c = true) : Dt.pRun .int (ds ++ r) = Dt.pRun .int r := by
  induction ds with
  | nil => rfl
  | cons d ds ih =>
    simp only [List.cons_append, Dt.pRun, charClass_digit d (h d (by simp)), Dt.pStep]
    exact ih (fun c hc => h c (by simp [hc]))

theorem pRun_frac_digits (ds : Str) (h : ∀ c ∈ ds, isDigit c = true) : Dt.pRun .frac ds = true := by
  induction ds with
  | nil => rfl
  | cons d ds ih =>
    simp only [Dt.pRun, charClass_digit d (h d (by simp)), Dt.pStep]
    exact ih (fun c hc => h c (by simp [hc]))

theorem pRun_intDot_digits (ds : Str) (h : ∀ c ∈ ds, isDigit c = true) : Dt.pRun .intDot ds = true := by
  cases ds with
  | nil => rfl
  | cons d ds =>
    simp only [Dt.pRun, charClass_digit d (h d (by simp)), Dt.pStep]
    exact pRun_frac_digits ds (fun c hc => h c (by simp [hc]))

/-- digits, then nothing or `.` and digits, read from state `int` -/
theorem pRun_int_tail (N q : Nat) :
    Dt.pRun .int (if N = 0 then [] else '.' :: Dw.lastDigits N q) = true := by
  by_cases hN : N = 0
  · simp [hN, Dt.pRun, Dt.pAccept]
  · simp only [hN, if_false, Dt.pRun]
    have : Dt.charClass '.' = .dot := by decide
    simp only [this, Dt.pStep]
    exact pRun_intDot_digits _ (Dw.lastDigits_all_digit N q)

theorem pRun_fixedDigits (N q : Nat) :
    Dt.pRun .start (Dw.fixedDigits N q) = true ∧ Dt.pRun .sign (Dw.fixedDigits N q) = true := by
  unfold Dw.fixedDigits
  have hall := Dw.natToStr_all_digit (q / 10 ^ N)
  cases h : natToStr (q / 10 ^ N) with
  | nil => exact absurd h (natToStr_ne_nil _)
  | cons d ds =>
    rw [h] at hall
    have hd := charClass_digit d (hall d (by simp))
    have hds : ∀ c ∈ ds, isDigit c = true := fun c hc => hall c (by simp [hc])
    simp only [List.cons_append, Dt.pRun, hd, Dt.pStep, pRun_int_digits ds _ hds, pRun_int_tail, and_self]

/-- **A printed finite sample is in the plain decimal grammar** `[+-]?(\d+\.?\d*|\.\d+)([eE][+-]?\d+)?` -/
theorem fmtFixed_isPlainDecimal (N : Nat) (neg : Bool) (m : Nat) (e : Int) :
    Dt.isPlainDecimal (Dw.fmtFixed N (.finite neg m e)) = true := by
  unfold Dt.isPlainDecimal Dw.fmtFixed
  cases neg with
  | false => simpa using (pRun_fixedDigits N _).1
  | true =>
    have : Dt.charClass '-' = .sg := by decide
    simp only [if_true, List.singleton_append, Dt.pRun, this, Dt.pStep]
    exact (pRun_fixedDigits N _).2

theorem quiet_fmtFixed_finite (N : Nat) (neg : Bool) (m : Nat) (e : Int) :
    Dt.QuietTok (Dw.fmtFixed N (.finite neg m e)) :=
  Dt.quietTok_of_simple _ (Dt.simplePlain_of_grammar _ (fmtFixed_isPlainDecimal N neg m e))

/-- a Boolean test on every suffix -/
def allTails (p : Str → Bool) : Str → Bool
  | [] => p []
  | c :: cs => p (c :: cs) && allTails p cs

/-- executable test of `NoMatch` for concrete texts -/
theorem noMatch_of_tails (m : Str → Option (Str × Nat)) (l : Str) (h : allTails (fun s => (m s).isNone) l = true) :
    Dt.NoMatch m l := by
  induction l with
  | nil =>
    intro s hs
    have : s = [] := by simpa using hs
    subst this
    simpa [allTails] using h
  | cons c cs ih =>
    simp only [allTails, Bool.and_eq_true] at h
    intro s hs
    rw [List.suffix_cons_iff] at hs
    rcases hs with rfl | hs
    · simpa using h.1
    · exact ih h.2 s hs

theorem quietTok_of_check (t : Str)
    (h : (!t.isEmpty && t.all Dt.tokChar && allTails (fun s => (Dt.mComma s).isNone) t &&
      allTails (fun s => (Dt.mHyphen s).isNone) t && allTails (fun s => (Dt.mDot s).isNone) t) = true) : Dt.QuietTok t := by
  simp only [Bool.and_eq_true] at h
  obtain ⟨⟨⟨⟨h1, h2⟩, h3⟩, h4⟩, h5⟩ := h
  exact {
    ne := by intro e; subst e; simp at h1
    chars := fun c hc => List.all_eq_true.mp h2 c hc
    comma := noMatch_of_tails _ _ h3
    hyphen := noMatch_of_tails _ _ h4
    dot := noMatch_of_tails _ _ h5 }

/-- every `%.Nf` rendering (finite, `inf`, `-inf`, `nan`) is a quiet token -/
theorem quiet_fmtFixed (N : Nat) (x : Dw.F64) : Dt.QuietTok (Dw.fmtFixed N x) := by
  cases x with
  | finite neg m e => exact quiet_fmtFixed_finite N neg m e
  | nan => exact quietTok_of_check ['n', 'a', 'n'] (by decide)
  | inf neg =>
    cases neg
    · exact quietTok_of_check ['i', 'n', 'f'] (by decide)
    · exact quietTok_of_check ['-', 'i', 'n', 'f'] (by decide)

/-- every token the writer puts in a cell is quiet, when the NULL text is -/
theorem quiet_cellToken (null : Str) (hn : Dt.QuietTok null) (f : Dw.Fmt) (x : Dw.F64) :
    Dt.QuietTok (Dw.cellToken null f x) := by
  unfold Dw.cellToken
  cases x.isNaN
  · exact quiet_fmtFixed _ _
  · exact hn

theorem quiet_rowTokensFrom (c : Dw.RowCfg) (null : Str) (hn : Dt.QuietTok null) (j : Nat) (cells : List Dw.F64) :
    ∀ t ∈ Dw.rowTokensFrom c null j cells, Dt.QuietTok t := by
  induction cells generalizing j with
  | nil => intro t ht; cases ht
  | cons x xs ih =>
    intro t ht
    simp only [Dw.rowTokensFrom, List.mem_cons] at ht
    rcases ht with rfl | ht
    · exact quiet_cellToken null hn _ x
    · exact ih (j + 1) t ht

theorem rowTokensFrom_getElem? (c : Dw.RowCfg) (null : Str) (j : Nat) (cells : List Dw.F64) (i : Nat) :
    (Dw.rowTokensFrom c null j cells)[i]? = (cells[i]?).map (Dw.cellToken null (c.colFmt (j + i))) := by
  induction cells generalizing j i with
  | nil => rfl
  | cons x xs ih =>
    cases i with
    | zero => rfl
    | succ i => exact (ih (j + 1) i).trans (by rw [Nat.add_assoc, Nat.add_comm 1 i]; rfl)

theorem rowTokens_getElem? (c : Dw.RowCfg) (null : Str) (row : List Dw.F64) (j : Nat) :
    (Dw.rowTokens c null row)[j]? = (row[j]?).map (Dw.cellToken null (c.colFmt j)) := by
  rw [Dw.rowTokens, rowTokensFrom_getElem?, Nat.zero_add]

/-- the tokens of a row are the cell tokens, by column index -/
theorem rowTokens_eq_mapIdx (c : Dw.RowCfg) (null : Str) (cells : List Dw.F64) :
    Dw.rowTokens c null cells = cells.mapIdx (fun j x => Dw.cellToken null (c.colFmt j) x) :=
  List.ext_getElem? fun j => by rw [rowTokens_getElem?, List.getElem?_mapIdx]
/-! ## Part 3: write -> read -/

/-- the r × c matrix of written tokens: entry (i, j) is the token of cell (i, j) -/
def tokenRows (c : Dw.RowCfg) (null : Str) (rows : List (List Dw.F64)) : List (List Str) :=
  rows.map (Dw.rowTokens c null)

/-- the hypotheses of the round trip, bundled: a supported configuration, a quiet NULL text, a successful `dataLines`,
a non-empty r × n matrix -/
structure Written (cfg : Dw.DataCfg) (null : Str) (mn : List Str) (rows : List (List Dw.F64)) (c : Dw.RowCfg) (n : Nat)
    (hdr : Str) (body : List Str) : Prop where
  rowCfg : cfg.rowCfg = some c
  ok : Dw.CfgOK c null
  nullQuiet : Dt.QuietTok null
  lines : Dw.dataLines cfg null mn rows = some (hdr :: body)
  rne : rows ≠ []
  npos : 0 < n
  rect : ∀ r ∈ rows, r.length = n

theorem dataLines_body {cfg : Dw.DataCfg} {null : Str} {mn : List Str} {rows : List (List Dw.F64)} {c : Dw.RowCfg}
    {hdr : Str} {body : List Str} (hc : cfg.rowCfg = some c) (h : Dw.dataLines cfg null mn rows = some (hdr :: body)) :
    Dw.dwBodyLines c null cfg.wrap cfg.dataWidth rows = some body := by
  unfold Dw.dataLines at h
  rw [hc] at h
  simp only at h
  split at h
  · rename_i hd b _ hb
    simp only [Option.some.injEq, List.cons.injEq] at h
    rw [hb, h.2]
  · cases h

theorem Written.body_eq {cfg : Dw.DataCfg} {null : Str} {mn : List Str} {rows : List (List Dw.F64)} {c : Dw.RowCfg} {n : Nat}
    {hdr : Str} {body : List Str} (w : Written cfg null mn rows c n hdr body) :
    Dw.dwBodyLines c null cfg.wrap cfg.dataWidth rows = some body := dataLines_body w.rowCfg w.lines

theorem tokenRows_rect (c : Dw.RowCfg) (null : Str) (rows : List (List Dw.F64)) (n : Nat) (h : ∀ r ∈ rows, r.length = n) :
    ∀ r ∈ tokenRows c null rows, r.length = n := by
  intro r hr
  simp only [tokenRows, List.mem_map] at hr
  obtain ⟨x, hx, rfl⟩ := hr
  rw [Dw.rowTokens, Dw.rowTokensFrom_length]
  exact h x hx

theorem tokenRows_ne (c : Dw.RowCfg) (null : Str) (rows : List (List Dw.F64)) (h : rows ≠ []) : tokenRows c null rows ≠ [] :=
  fun e => h (List.map_eq_nil_iff.mp e)

/-- every `str.split()` token of every body line is quiet -/
theorem body_tokens_quiet {c : Dw.RowCfg} {null : Str} (hok : Dw.CfgOK c null) (hq : Dt.QuietTok null) (wrap : Bool) (dw : Nat)
    (rows : List (List Dw.F64)) (body : List Str) (h : Dw.dwBodyLines c null wrap dw rows = some body) :
    ∀ l ∈ body, ∀ t ∈ Dw.tokensWs l, Dt.QuietTok t := by
  intro l hl t ht
  have hmem : t ∈ body.flatMap Dw.tokensWs := List.mem_flatMap.mpr ⟨l, hl, ht⟩
  rw [Dw.dwBodyLines_tokens hok wrap dw rows body h] at hmem
  obtain ⟨row, _, hrow⟩ := List.mem_flatMap.mp hmem
  exact quiet_rowTokensFrom c null hq 0 row t hrow

/-- lines with quiet tokens, each followed by a whitespace line end: the normal engine's flat item list is the
concatenation of the `str.split()` tokens of the lines -/
theorem normalTokens_lines (sb : Dt.Subs) (body : List Str) (eol : Str) (heol : Dt.AllWs eol)
    (hq : ∀ l ∈ body, ∀ t ∈ Dw.tokensWs l, Dt.QuietTok t) :
    Dt.normalTokens sb .space (body.map (· ++ eol)) = body.flatMap Dw.tokensWs := by
  induction body with
  | nil => rfl
  | cons l ls ih =>
    have hl : ∀ t ∈ Dw.tokensWs (l ++ eol), Dt.QuietTok t := by
      rw [tokensWs_append_ws l eol heol]; exact hq l (by simp)
    have := ih (fun x hx => hq x (by simp [hx]))
    simp only [Dt.normalTokens] at this ⊢
    simp only [List.map_cons, List.flatMap_cons, this, lineTokens_eq_tokensWs sb _ hl, tokensWs_append_ws l eol heol]

/-- the flat item list the normal engine builds from a written body is the row-major flattening of the token matrix -/
theorem normalTokens_written {cfg : Dw.DataCfg} {null : Str} {mn : List Str} {rows : List (List Dw.F64)} {c : Dw.RowCfg} {n : Nat}
    {hdr : Str} {body : List Str} (w : Written cfg null mn rows c n hdr body) (sb : Dt.Subs) (eol : Str) (heol : Dt.AllWs eol) :
    Dt.normalTokens sb .space (body.map (· ++ eol)) = (tokenRows c null rows).flatten := by
  rw [normalTokens_lines sb body eol heol (body_tokens_quiet w.ok w.nullQuiet _ _ rows body w.body_eq),
    Dw.dwBodyLines_tokens w.ok _ _ rows body w.body_eq, tokenRows, List.flatMap_def]

/-- **write -> read, normal engine** (wrapped or not) -/
theorem roundtrip_normal {cfg : Dw.DataCfg} {null : Str} {mn : List Str} {rows : List (List Dw.F64)} {c : Dw.RowCfg} {n : Nat}
    {hdr : Str} {body : List Str} (w : Written cfg null mn rows c n hdr body) (ft : Dt.FloatTable) (sb : Dt.Subs)
    (eol : Str) (heol : Dt.AllWs eol) :
    Dt.normalEngineLines ft sb .space n (body.map (· ++ eol)) = .ok (Dt.matrixColumns ft n (tokenRows c null rows)) :=
  Dt.normalEngineLines_matrix ft sb .space _ _ n w.npos (tokenRows_ne c null rows w.rne)
    (tokenRows_rect c null rows n w.rect) (normalTokens_written w sb eol heol)

/-! ### unwrapped output: one line per row -/

theorem dwBodyLines_unwrapped (c : Dw.RowCfg) (null : Str) (dw : Nat) (rows : List (List Dw.F64)) :
    Dw.dwBodyLines c null false dw rows = some (rows.map (Dw.dataRow c null)) := by
  induction rows with
  | nil => rfl
  | cons r rs ih => simp [Dw.dwBodyLines, Dw.rowLines, ih]

/-- a written row followed by a whitespace line end is a data line of exactly its cell tokens -/
theorem rowLine_dataRow {c : Dw.RowCfg} {null : Str} (hok : Dw.CfgOK c null) (hq : Dt.QuietTok null) (r : List Dw.F64)
    (hr : r ≠ []) (eol : Str) (heol : Dt.AllWs eol) :
    Dt.RowLine (Dw.rowTokens c null r) (Dw.dataRow c null r ++ eol) := by
  have ht : Dw.tokensWs (Dw.dataRow c null r ++ eol) = Dw.rowTokens c null r := by
    rw [tokensWs_append_ws _ _ heol]; exact Dw.tokensWs_dataRowFrom hok 0 r
  rcases line_shape' _ (by rw [ht]; exact quiet_rowTokensFrom c null hq 0 r) with ⟨he, _⟩ | h
  · rw [ht] at he
    cases r with
    | nil => exact absurd rfl hr
    | cons x xs => cases he
  · rwa [ht] at h

theorem body_unwrapped {c : Dw.RowCfg} {null : Str} (hok : Dw.CfgOK c null) (hq : Dt.QuietTok null) (n : Nat) (hn : 0 < n)
    (rows : List (List Dw.F64)) (hrows : ∀ r ∈ rows, r.length = n) (eol : Str) (heol : Dt.AllWs eol) :
    Dt.Body n ((rows.map (Dw.dataRow c null)).map (· ++ eol)) (tokenRows c null rows) := by
  induction rows with
  | nil => exact Dt.Body.nil
  | cons r rs ih =>
    have hlen : r.length = n := hrows r (by simp)
    have hr : r ≠ [] := by intro e; rw [e] at hlen; simp at hlen; omega
    simp only [List.map_cons, tokenRows]
    refine Dt.Body.row (rowLine_dataRow hok hq r hr eol heol) ?_ (ih (fun x hx => hrows x (by simp [hx])))
    rw [Dw.rowTokens, Dw.rowTokensFrom_length]; exact hlen

/-- unwrapped output is a plain data section in the sense of C02: one data line of `n` quiet tokens per row -/
theorem Written.body_plain {cfg : Dw.DataCfg} {null : Str} {mn : List Str} {rows : List (List Dw.F64)} {c : Dw.RowCfg} {n : Nat}
    {hdr : Str} {body : List Str} (w : Written cfg null mn rows c n hdr body) (hwrap : cfg.wrap = false)
    (eol : Str) (heol : Dt.AllWs eol) :
    Dt.Body n (body.map (· ++ eol)) (tokenRows c null rows) ∧ (body.map (· ++ eol)).length = rows.length := by
  have hb := w.body_eq
  rw [hwrap, dwBodyLines_unwrapped] at hb
  simp only [Option.some.injEq] at hb
  subst hb
  exact ⟨body_unwrapped w.ok w.nullQuiet n w.npos rows w.rect eol heol, by simp⟩

/-! ## Part 4: the NaN mask through `applyNull` -/

/-- cell (i, j) of the matrix of a numeric rectangular token matrix is the float of token (i, j) -/
theorem floatCell_matrix (ft : Dt.FloatTable) (n : Nat) (toks : List (List Str)) (hrect : ∀ r ∈ toks, r.length = n)
    (hnum : Dt.Numeric ft toks) (i j : Nat) (row : List Str) (hi : toks[i]? = some row) (t : Str) (ht : row[j]? = some t) :
    Dt.floatCell (Dt.matrixColumns ft n toks) j i = Dt.toFloat ft t := by
  have hrow : row ∈ toks := List.mem_of_getElem? hi
  have hj : j < n := by
    rw [← hrect row hrow]
    exact (List.getElem?_eq_some_iff.mp ht).1
  have hall : ∀ t' ∈ toks.map (fun r => r.getD j []), (Dt.toFloat ft t').isSome := by
    intro t' ht'
    obtain ⟨r, hr, rfl⟩ := List.mem_map.mp ht'
    exact hnum r hr _ (Dt.getD_mem (by rw [hrect r hr]; exact hj))
  obtain ⟨vs, hvs⟩ := Dt.floatCells_of_all ft _ hall
  unfold Dt.floatCell
  rw [Dt.matrixColumns_getElem? ft hj]
  simp only [Dt.typedColumn, hvs]
  apply Dt.floatCells_getElem? ft _ vs hvs i t
  simp [hi, List.getD_eq_getElem?_getD, ht]

theorem floatCell_applyNull_strict (nv : Str) (cols : List Dt.Column) (j i : Nat) (hj : j ≠ 0) :
    Dt.floatCell (Dt.applyNull true (some nv) cols) j i =
      (Dt.floatCell cols j i).map (fun v => if Dt.feq v nv then Dt.nanTxt else v) := by
  rw [Dt.floatCell_applyNull]
  simp [hj]

theorem floatCell_applyNull_zero (u : Bool) (null : Option Str) (cols : List Dt.Column) (i : Nat) :
    Dt.floatCell (Dt.applyNull u null cols) 0 i = Dt.floatCell cols 0 i := by
  rw [Dt.floatCell_applyNull]
  simp

/-- what is asked of the float service (`float()`), of the NULL text `null` and of the header NULL value `nv` -/
structure TableOK (ft : Dt.FloatTable) (null nv : Str) (c : Dw.RowCfg) (rows : List (List Dw.F64)) : Prop where
  /-- the NULL text converts to the header NULL value -/
  null_val : Dt.toFloat ft null = some nv
  /-- the header NULL is a number, not NaN (`nv == nv`) -/
  null_num : Dt.feq nv nv = true
  /-- every written token converts -/
  numeric : Dt.Numeric ft (tokenRows c null rows)
  /-- the `%.Nf` rendering of a value that is not NaN is not read as NaN -/
  no_nan : ∀ N x, Dw.F64.isNaN x = false → Dt.toFloat ft (Dw.fmtFixed N x) ≠ some Dt.nanTxt

/-- **NoNullClash**: no cell outside column 0 that is not NaN is printed to a token whose float is `==` the header NULL -/
def NoNullClash (ft : Dt.FloatTable) (nv : Str) (c : Dw.RowCfg) (rows : List (List Dw.F64)) : Prop :=
  ∀ row ∈ rows, ∀ j x, j ≠ 0 → row[j]? = some x → Dw.F64.isNaN x = false →
    ∀ v, Dt.toFloat ft (Dw.fmtFixed (c.colFmt j).prec x) = some v → Dt.feq v nv = false

theorem toFloat_ne_of_table {ft : Dt.FloatTable} {v : Str} (h : ft.all (fun e => e.2 != v) = true) (t : Str) :
    Dt.toFloat ft t ≠ some v := by
  unfold Dt.toFloat
  induction ft with
  | nil => intro h'; cases h'
  | cons e es ih =>
    rw [List.all_cons, Bool.and_eq_true, bne_iff_ne] at h
    rw [List.lookup_cons]
    cases t == e.1 with
    | true => exact fun h' => h.1 (Option.some.inj h')
    | false => exact ih h.2

/-- `TableOK` from facts that can be evaluated: no entry of the table is NaN, so no token at all is read as NaN -/
theorem tableOK_of_check {ft : Dt.FloatTable} {null nv : Str} {c : Dw.RowCfg} {rows : List (List Dw.F64)}
    (h : Dt.toFloat ft null = some nv ∧ Dt.feq nv nv = true ∧
      (∀ r ∈ tokenRows c null rows, ∀ t ∈ r, (Dt.toFloat ft t).isSome) ∧ ft.all (fun e => e.2 != Dt.nanTxt) = true) :
    TableOK ft null nv c rows :=
  ⟨h.1, h.2.1, h.2.2.1, fun _ _ _ => toFloat_ne_of_table h.2.2.2 _⟩

/-- `NoNullClash` of a concrete matrix as a Boolean test over its cells, to be evaluated -/
def noNullClashB (ft : Dt.FloatTable) (nv : Str) (c : Dw.RowCfg) (rows : List (List Dw.F64)) : Bool :=
  rows.all fun row => row.zipIdx.all fun xj =>
    xj.2 == 0 || xj.1.isNaN || (Dt.toFloat ft (Dw.fmtFixed (c.colFmt xj.2).prec xj.1)).all fun v => !Dt.feq v nv

theorem noNullClash_of_check {ft : Dt.FloatTable} {nv : Str} {c : Dw.RowCfg} {rows : List (List Dw.F64)}
    (h : noNullClashB ft nv c rows = true) : NoNullClash ft nv c rows := by
  intro row hrow j x hj hx hnan v hv
  have := List.all_eq_true.mp (List.all_eq_true.mp h row hrow) (x, j) (List.mem_zipIdx_iff_getElem?.mpr hx)
  simpa [hv, hnan, hj] using this

/-- the float cell (i, j) the reader builds from the written tokens, before NULL handling -/
theorem floatCell_written (ft : Dt.FloatTable) (null : Str) (c : Dw.RowCfg) (rows : List (List Dw.F64)) (n : Nat)
    (hrect : ∀ r ∈ rows, r.length = n) (hnum : Dt.Numeric ft (tokenRows c null rows))
    (i j : Nat) (row : List Dw.F64) (x : Dw.F64) (hi : rows[i]? = some row) (hx : row[j]? = some x) :
    Dt.floatCell (Dt.matrixColumns ft n (tokenRows c null rows)) j i = Dt.toFloat ft (Dw.cellToken null (c.colFmt j) x) := by
  apply floatCell_matrix ft n _ (tokenRows_rect c null rows n hrect) hnum i j (Dw.rowTokens c null row)
  · simp [tokenRows, hi]
  · rw [rowTokens_getElem?, hx]; rfl

/-- **the NaN mask survives write -> read** (strict NULL policy): outside column 0 a cell reads back as NaN iff it was NaN, a
cell that was not NaN reads back as the float of its printed token; column 0 is the float of its token in every case -/
theorem roundtrip_mask (ft : Dt.FloatTable) (null nv : Str) (c : Dw.RowCfg) (rows : List (List Dw.F64)) (n : Nat)
    (hrect : ∀ r ∈ rows, r.length = n) (htab : TableOK ft null nv c rows) (hclash : NoNullClash ft nv c rows)
    (i j : Nat) (row : List Dw.F64) (x : Dw.F64) (hi : rows[i]? = some row) (hx : row[j]? = some x) :
    (j ≠ 0 → (Dt.floatCell (Dt.applyNull true (some nv) (Dt.matrixColumns ft n (tokenRows c null rows))) j i = some Dt.nanTxt
        ↔ x.isNaN = true)) ∧
    (j ≠ 0 → x.isNaN = false →
      Dt.floatCell (Dt.applyNull true (some nv) (Dt.matrixColumns ft n (tokenRows c null rows))) j i =
        Dt.toFloat ft (Dw.fmtFixed (c.colFmt j).prec x)) ∧
    (j = 0 → Dt.floatCell (Dt.applyNull true (some nv) (Dt.matrixColumns ft n (tokenRows c null rows))) j i =
        Dt.toFloat ft (Dw.cellToken null (c.colFmt 0) x)) := by
  have hbase := floatCell_written ft null c rows n hrect htab.numeric i j row x hi hx
  have hrow : row ∈ rows := List.mem_of_getElem? hi
  -- a cell that is not NaN, outside column 0: its value and what NULL handling does with it
  have hfin : j ≠ 0 → x.isNaN = false →
      Dt.floatCell (Dt.applyNull true (some nv) (Dt.matrixColumns ft n (tokenRows c null rows))) j i =
        Dt.toFloat ft (Dw.fmtFixed (c.colFmt j).prec x) ∧
      Dt.toFloat ft (Dw.fmtFixed (c.colFmt j).prec x) ≠ some Dt.nanTxt := by
    intro hj hnan
    have htok : Dw.cellToken null (c.colFmt j) x = Dw.fmtFixed (c.colFmt j).prec x := by simp [Dw.cellToken, hnan]
    rw [floatCell_applyNull_strict nv _ j i hj, hbase, htok]
    refine ⟨?_, htab.no_nan _ x hnan⟩
    cases hv : Dt.toFloat ft (Dw.fmtFixed (c.colFmt j).prec x) with
    | none => rfl
    | some v => simp [hclash row hrow j x hj hx hnan v hv]
  refine ⟨fun hj => ⟨?_, ?_⟩, fun hj hnan => (hfin hj hnan).1, ?_⟩
  · intro h
    cases hnan : x.isNaN with
    | true => rfl
    | false =>
      obtain ⟨h1, h2⟩ := hfin hj hnan
      rw [h1] at h
      exact absurd h h2
  · intro hnan
    have htok : Dw.cellToken null (c.colFmt j) x = null := by simp [Dw.cellToken, hnan]
    rw [floatCell_applyNull_strict nv _ j i hj, hbase, htok, htab.null_val]
    simp [htab.null_num]
  · intro hj
    subst hj
    rw [floatCell_applyNull_zero, hbase]

/-! ### `NoNullClash` is needed -/

def cxCfg : Dw.RowCfg := ⟨⟨none, 2⟩, [], 10, [' '], [' ']⟩
def cxNull : Str := "-9999.25".toList
/-- the binary64 nearest to −9999.2501 -/
def cxSample : Dw.F64 := .finite true 5497145876995165 (-39)
def cxRows : List (List Dw.F64) := [[.finite false 1 0, cxSample]]
/-- `float("-9999.25").hex()` -/
def cxNv : Str := "-0x1.387a000000000p+13".toList
def cxFt : Dt.FloatTable := [("1.00".toList, "0x1.0000000000000p+0".toList), ("-9999.25".toList, cxNv)]

theorem cx_table : TableOK cxFt cxNull cxNv cxCfg cxRows := tableOK_of_check (by decide +kernel)

/-! ### the hypotheses of `roundtrip_mask` can be met -/

/-- −124990.75 instead of the clashing sample, and a NaN cell -/
def exRows : List (List Dw.F64) := [[.finite false 1 0, .finite true 499963 (-2)], [.finite false 1 1, .nan]]
def exFt : Dt.FloatTable := [("1.00".toList, "0x1.0000000000000p+0".toList), ("2.00".toList, "0x1.0000000000000p+1".toList),
  ("-124990.75".toList, "-0x1.e83ec00000000p+16".toList), ("-9999.25".toList, cxNv)]

theorem ex_tokens : tokenRows cxCfg cxNull exRows =
    [["1.00".toList, "-124990.75".toList], ["2.00".toList, "-9999.25".toList]] := by decide +kernel

theorem ex_table : TableOK exFt cxNull cxNv cxCfg exRows := tableOK_of_check (by decide +kernel)

theorem ex_noClash : NoNullClash exFt cxNv cxCfg exRows := noNullClash_of_check (by decide +kernel)

/-! ## Part 5: writer options change the presentation only -/

/-- the two configurations print each of the `n` columns with the same number of decimals -/
def SamePrec (c1 c2 : Dw.RowCfg) (n : Nat) : Prop := ∀ j, j < n → (c1.colFmt j).prec = (c2.colFmt j).prec

theorem rowTokensFrom_samePrec (c1 c2 : Dw.RowCfg) (null : Str) (j : Nat) (cells : List Dw.F64)
    (h : ∀ k, k < j + cells.length → (c1.colFmt k).prec = (c2.colFmt k).prec) :
    Dw.rowTokensFrom c1 null j cells = Dw.rowTokensFrom c2 null j cells := by
  induction cells generalizing j with
  | nil => rfl
  | cons x xs ih =>
    simp only [Dw.rowTokensFrom]
    rw [Dw.cellToken, Dw.cellToken, h j (by simp), ih (j + 1) (fun k hk => h k (by simp at hk ⊢; omega))]

/-- the token matrix depends on the configuration only through the precision of each column: not on field widths
(`%10.3f` vs `%.3f`, `len_numeric_field`), spacers, wrap, `data_width`, header style -/
theorem tokenRows_samePrec (c1 c2 : Dw.RowCfg) (null : Str) (rows : List (List Dw.F64)) (n : Nat)
    (hrect : ∀ r ∈ rows, r.length = n) (hp : SamePrec c1 c2 n) : tokenRows c1 null rows = tokenRows c2 null rows := by
  unfold tokenRows
  apply List.map_congr_left
  intro r hr
  exact rowTokensFrom_samePrec c1 c2 null 0 r (fun k hk => hp k (by rw [hrect r hr] at hk; omega))

/-- **what is read does not depend on how it was written** -/
theorem presentation_independent {cfg1 cfg2 : Dw.DataCfg} {null : Str} {mn1 mn2 : List Str} {rows : List (List Dw.F64)}
    {c1 c2 : Dw.RowCfg} {n : Nat} {hdr1 hdr2 : Str} {body1 body2 : List Str}
    (w1 : Written cfg1 null mn1 rows c1 n hdr1 body1) (w2 : Written cfg2 null mn2 rows c2 n hdr2 body2)
    (hp : SamePrec c1 c2 n) (ft : Dt.FloatTable) (sb1 sb2 : Dt.Subs) (eol1 eol2 : Str)
    (h1 : Dt.AllWs eol1) (h2 : Dt.AllWs eol2) :
    tokenRows c1 null rows = tokenRows c2 null rows ∧
    Dt.normalEngineLines ft sb1 .space n (body1.map (· ++ eol1)) = Dt.normalEngineLines ft sb2 .space n (body2.map (· ++ eol2)) := by
  have ht := tokenRows_samePrec c1 c2 null rows n w1.rect hp
  refine ⟨ht, ?_⟩
  rw [roundtrip_normal w1 ft sb1 eol1 h1, roundtrip_normal w2 ft sb2 eol2 h2, ht]

/-- the precision does matter: 0.25 printed with one and with two decimals -/
theorem precision_matters (null : Str) :
    Dw.cellToken null ⟨none, 1⟩ (.finite false 1 (-2)) = "0.2".toList ∧
    Dw.cellToken null ⟨none, 2⟩ (.finite false 1 (-2)) = "0.25".toList := by
  constructor <;> (simp only [Dw.cellToken, Dw.F64.isNaN, Bool.false_eq_true, if_false]; decide +kernel)

/-! ## Part 6: the same through `readData` -/

/-- **file written with any `wrap`, read back with WRAP = YES in ~Version** and `n` declared curves: the normal engine runs
with `n_columns = n` (the sniffer's answer is not used) and returns the written matrix -/
theorem readData_wrapYes {cfg : Dw.DataCfg} {null : Str} {mn : List Str} {rows : List (List Dw.F64)} {c : Dw.RowCfg} {n : Nat}
    {hdr : Str} {body : List Str} (w : Written cfg null mn rows c n hdr body) (e : Dt.Engine) (p : Dt.NullPolicy)
    (st : Dt.Steer) (ft : Dt.FloatTable) (eol : Str) (heol : Dt.AllWs eol) (pre : List Str) (title : Str) (after : List Str)
    (hdlm : st.delimiter = .space) (hwd : st.wrapDeclared = true) (hwy : st.wrapped = Dt.yesTxt) :
    Dt.readData ⟨e, p⟩ (pre ++ title :: (body.map (· ++ eol) ++ after)) pre.length
        (pre.length + (body.map (· ++ eol)).length) st n ft =
      .ok (.normal, Dt.plainResult ft p st n n (tokenRows c null rows)) := by
  have heff : Dt.effectiveEngine ⟨e, p⟩ st = .normal := by simp [Dt.effectiveEngine, hwy]
  have hcols : ∀ sn, Dt.readerColumns st n sn = n := fun sn => by simp [Dt.readerColumns, hwd, hwy, w.npos]
  rw [Tf.readData_window, Tf.readBody, heff]
  simp only [Tf.normalRead, hdlm, hcols, roundtrip_normal w ft _ eol heol]
  rfl

/-- **file written with `wrap=False`, read back with WRAP ≠ YES, any engine and null policy**: the curves are those of the
written matrix (the fast engine and the fallback agree); `after` = nothing, or a line whose first token is not a number -/
theorem readData_unwrapped {cfg : Dw.DataCfg} {null : Str} {mn : List Str} {rows : List (List Dw.F64)} {c : Dw.RowCfg}
    {n : Nat} {hdr : Str} {body : List Str} (w : Written cfg null mn rows c n hdr body) (hwrap : cfg.wrap = false)
    (e : Dt.Engine) (p : Dt.NullPolicy) (st : Dt.Steer) (d : Nat) (ft : Dt.FloatTable) (eol : Str) (heol : Dt.AllWs eol)
    (pre : List Str) (title : Str) (after : List Str)
    (hdlm : st.delimiter = .space) (hw : st.wrapped ≠ Dt.yesTxt)
    (hnext : after = [] ∨ ∃ ln rest t ts, after = ln :: rest ∧ Dt.npTokens ln = t :: ts ∧ Dt.toFloat ft t = none) :
    (Dt.readData ⟨e, p⟩ (pre ++ title :: (body.map (· ++ eol) ++ after)) pre.length
        (pre.length + (body.map (· ++ eol)).length) st d ft).map Prod.snd =
      .ok (Dt.plainResult ft p st d n (tokenRows c null rows)) := by
  obtain ⟨hb, _⟩ := w.body_plain hwrap eol heol
  have hr := tokenRows_ne c null rows w.rne
  have hl : Dt.LineRows st.delimiter n (body.map (· ++ eol)) (tokenRows c null rows) := by rw [hdlm]; exact hb.lineRows
  have hnv := Dt.readData_plain_normal ft .normal p st d pre title after hl w.npos hr hw (Dt.effectiveEngine_normal p st)
  cases e with
  | normal => rw [hnv]; rfl
  | numpy => rw [Dt.readData_plain_agree ft p st d pre title ⟨hb, w.npos, hr, hnext⟩ hl, hnv]; rfl

/-- **wrapped vs unwrapped, any widths / spacers / header style, same precisions**: the file written with configuration 1
(any `wrap`) and read with WRAP = YES and the file written with configuration 2 (`wrap=False`) and read with WRAP ≠ YES give
the same curves, whatever engines are requested -/
theorem read_independent {cfg1 cfg2 : Dw.DataCfg} {null : Str} {mn1 mn2 : List Str} {rows : List (List Dw.F64)}
    {c1 c2 : Dw.RowCfg} {n : Nat} {hdr1 hdr2 : Str} {body1 body2 : List Str}
    (w1 : Written cfg1 null mn1 rows c1 n hdr1 body1) (w2 : Written cfg2 null mn2 rows c2 n hdr2 body2)
    (hp : SamePrec c1 c2 n) (hwrap2 : cfg2.wrap = false)
    (e1 e2 : Dt.Engine) (p : Dt.NullPolicy) (st1 st2 : Dt.Steer) (ft : Dt.FloatTable)
    (eol1 eol2 : Str) (h1 : Dt.AllWs eol1) (h2 : Dt.AllWs eol2)
    (pre1 pre2 : List Str) (title1 title2 : Str) (after1 after2 : List Str)
    (hd1 : st1.delimiter = .space) (hd2 : st2.delimiter = .space)
    (hwd1 : st1.wrapDeclared = true) (hwy1 : st1.wrapped = Dt.yesTxt) (hw2 : st2.wrapped ≠ Dt.yesTxt)
    (hnull : st1.nullValue = st2.nullValue)
    (hnext : after2 = [] ∨ ∃ ln rest t ts, after2 = ln :: rest ∧ Dt.npTokens ln = t :: ts ∧ Dt.toFloat ft t = none) :
    (Dt.readData ⟨e1, p⟩ (pre1 ++ title1 :: (body1.map (· ++ eol1) ++ after1)) pre1.length
        (pre1.length + (body1.map (· ++ eol1)).length) st1 n ft).map Prod.snd =
    (Dt.readData ⟨e2, p⟩ (pre2 ++ title2 :: (body2.map (· ++ eol2) ++ after2)) pre2.length
        (pre2.length + (body2.map (· ++ eol2)).length) st2 n ft).map Prod.snd := by
  rw [readData_wrapYes w1 e1 p st1 ft eol1 h1 pre1 title1 after1 hd1 hwd1 hwy1,
    readData_unwrapped w2 hwrap2 e2 p st2 n ft eol2 h2 pre2 title2 after2 hd2 hw2 hnext]
  simp only [Except.map, Dt.plainResult, hnull, tokenRows_samePrec c1 c2 null rows n w1.rect hp]

end Lasio.Rt
