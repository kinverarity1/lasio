import LasioModel.HeaderLine
import LasioProofs.Lemmas.StrLemmas
/-
Helper lemmas for C04 (header-line round trip): `firstSome` search, `shrinks` backtracking, `colonSplits`,
`findDotDot`, and the pattern configuration on lines that have a period before the first colon.
-/
namespace Lasio

theorem firstSome_head {α β} (a : α) (as : List α) (f : α → Option β) (b : β)
    (h : f a = some b) : firstSome (a :: as) f = some b := by
  simp [firstSome, h]

theorem firstSome_cons_none {α β} (a : α) (as : List α) (f : α → Option β)
    (h : f a = none) : firstSome (a :: as) f = firstSome as f := by
  simp [firstSome, h]

theorem firstSome_nil {α β} (f : α → Option β) : firstSome [] f = none := rfl

theorem firstSome_singleton {α β} (a : α) (f : α → Option β) : firstSome [a] f = f a := by
  cases h : f a <;> simp [firstSome, h]

theorem firstSome_map {α β γ} (l : List α) (φ : α → γ) (g : γ → Option β) :
    firstSome (l.map φ) g = firstSome l (fun a => g (φ a)) := by
  induction l with
  | nil => rfl
  | cons a l ih => simp only [List.map_cons, firstSome, ih]

theorem firstSome_all_none {α β} (l : List α) (f : α → Option β)
    (h : ∀ a ∈ l, f a = none) : firstSome l f = none := by
  induction l with
  | nil => rfl
  | cons a l ih =>
    rw [firstSome_cons_none _ _ _ (h a (by simp))]
    exact ih (fun x hx => h x (by simp [hx]))

theorem firstSome_append {α β} (l₁ l₂ : List α) (f : α → Option β) :
    firstSome (l₁ ++ l₂) f = (firstSome l₁ f).or (firstSome l₂ f) := by
  induction l₁ with
  | nil => rfl
  | cons a l ih =>
    cases ha : f a with
    | none => rw [List.cons_append, firstSome_cons_none _ _ _ ha, firstSome_cons_none _ _ _ ha, ih]
    | some b => rw [List.cons_append, firstSome_head _ _ _ _ ha, firstSome_head _ _ _ _ ha]; rfl

theorem firstSome_append_none {α β} (l₁ l₂ : List α) (f : α → Option β)
    (h : firstSome l₁ f = none) : firstSome (l₁ ++ l₂) f = firstSome l₂ f := by
  rw [firstSome_append, h]; rfl

theorem firstSome_append_some {α β} (l₁ l₂ : List α) (f : α → Option β) (b : β)
    (h : firstSome l₁ f = some b) : firstSome (l₁ ++ l₂) f = some b := by
  rw [firstSome_append, h]; rfl

theorem shrinks_head (run rest : Str) : ∃ tl, shrinks run rest = (run, rest) :: tl := by
  unfold shrinks
  rw [List.range_succ]
  simp

theorem shrinks_nil (rest : Str) : shrinks [] rest = [([], rest)] := by
  simp [shrinks]

theorem shrinks_concat (run : Str) (c : Char) (rest : Str) :
    shrinks (run ++ [c]) rest = (run ++ [c], rest) :: shrinks run (c :: rest) := by
  unfold shrinks
  have hlen : (run ++ [c]).length + 1 = (run.length + 1) + 1 := by simp
  rw [hlen, List.range_succ (n := run.length + 1), List.reverse_append, List.reverse_singleton,
    List.singleton_append, List.map_cons]
  congr 1
  · have : run.length + 1 = (run ++ [c]).length := by simp
    rw [this, List.take_length, List.drop_length]; simp
  · apply List.map_congr_left
    intro k hk
    have hk' : k ≤ run.length := by
      have := List.mem_range.mp (List.mem_reverse.mp hk); omega
    rw [List.take_append_of_le_length hk', List.drop_append_of_le_length hk']
    simp

/-- captures longer than `u` on which the continuation fails are skipped by the backtracking search -/
theorem firstSome_shrinks_skip {β} (u x y : Str) (g : Str × Str → Option β)
    (h : ∀ x1 x2, x = x1 ++ x2 → x1 ≠ [] → g (u ++ x1, x2 ++ y) = none) :
    firstSome (shrinks (u ++ x) y) g = firstSome (shrinks u (x ++ y)) g := by
  suffices H : ∀ (xr : Str) (y : Str),
      (∀ x1 x2, xr.reverse = x1 ++ x2 → x1 ≠ [] → g (u ++ x1, x2 ++ y) = none) →
      firstSome (shrinks (u ++ xr.reverse) y) g = firstSome (shrinks u (xr.reverse ++ y)) g by
    have := H x.reverse y (by simpa using h)
    simpa using this
  intro xr
  induction xr with
  | nil => intro y _; simp
  | cons c xr ih =>
    intro y h
    rw [List.reverse_cons, ← List.append_assoc, shrinks_concat]
    have h0 : g (u ++ xr.reverse ++ [c], y) = none := by
      have := h (xr.reverse ++ [c]) [] (by simp) (by simp)
      simpa using this
    rw [firstSome_cons_none _ _ _ h0, ih (c :: y)]
    · simp
    · intro x1 x2 hx hne
      have := h x1 (x2 ++ [c]) (by simp [hx]) hne
      simpa using this

theorem colonSplits_nocolon (s : Str) (h : ∀ c ∈ s, c ≠ ':') : colonSplits s = [] := by
  induction s with
  | nil => rfl
  | cons c s ih =>
    have hc : c ≠ ':' := h c (by simp)
    simp [colonSplits, hc, ih (fun y hy => h y (by simp [hy]))]

theorem colonSplits_append (a b : Str) :
    colonSplits (a ++ b) =
      (colonSplits a).map (fun vr => (vr.1, vr.2 ++ b)) ++
      (colonSplits b).map (fun vr => (a ++ vr.1, vr.2)) := by
  induction a with
  | nil => simp [colonSplits]
  | cons c a ih =>
    simp only [List.cons_append, colonSplits, ih]
    by_cases hc : c = ':' <;> simp [hc, Function.comp_def]

theorem colonSplits_last (A D : Str) (hD : ∀ c ∈ D, c ≠ ':') :
    colonSplits (A ++ ':' :: D) =
      (colonSplits A).map (fun vr => (vr.1, vr.2 ++ ':' :: D)) ++ [(A, D)] := by
  rw [colonSplits_append]
  simp [colonSplits, colonSplits_nocolon D hD]

theorem valueGreedyColon_last (A D : Str) (hD : ∀ c ∈ D, c ≠ ':') :
    ∃ tl, valueGreedyColon (A ++ ':' :: D) = (some A, D) :: tl := by
  unfold valueGreedyColon
  rw [colonSplits_last A D hD]
  simp

theorem valueGreedyColon_nocolon (s : Str) (h : ∀ c ∈ s, c ≠ ':') : valueGreedyColon s = [] := by
  simp [valueGreedyColon, colonSplits_nocolon s h]

theorem rfindColon_last (A D : Str) (hD : ∀ c ∈ D, c ≠ ':') :
    rfindColon (A ++ ':' :: D) = some A.length := by
  unfold rfindColon
  rw [colonSplits_last A D hD]
  simp

theorem findDotDot_cons (c : Char) (s : Str) :
    findDotDot (c :: s) =
      if c = '.' ∧ s.head? = some '.' then some 0 else (findDotDot s).map (· + 1) := by
  cases s with
  | nil =>
    by_cases hc : c = '.'
    · subst hc; simp [findDotDot]
    · simp [findDotDot]
  | cons d s =>
    by_cases hc : c = '.'
    · by_cases hd : d = '.'
      · subst hc; subst hd; simp [findDotDot]
      · subst hc
        have : findDotDot ('.' :: d :: s) = (findDotDot (d :: s)).map (· + 1) := by
          rw [findDotDot]; intro t _ h; exact hd (by simp at h; exact h.1)
        simp [this, hd]
    · have : findDotDot (c :: d :: s) = (findDotDot (d :: s)).map (· + 1) := by
        rw [findDotDot]; intro t h _; exact hc h
      simp [this, hc]

theorem findDotDot_nodot (s : Str) (h : ∀ c ∈ s, c ≠ '.') : findDotDot s = none := by
  induction s with
  | nil => rfl
  | cons c s ih =>
    have hc : c ≠ '.' := h c (by simp)
    rw [findDotDot_cons]
    simp [hc, ih (fun y hy => h y (by simp [hy]))]

/-- no ".." in `a`, none across the seam: the first ".." of `a ++ b` is the first one of `b` -/
theorem findDotDot_append_shift (a b : Str) (ha : findDotDot a = none)
    (hseam : ¬ (a.getLast? = some '.' ∧ b.head? = some '.')) :
    findDotDot (a ++ b) = (findDotDot b).map (· + a.length) := by
  induction a with
  | nil => simp
  | cons c a ih =>
    rw [findDotDot_cons] at ha
    split at ha
    · simp at ha
    · rename_i hc
      have ha' : findDotDot a = none := by simpa using ha
      cases a with
      | nil =>
        have : ¬ (c = '.' ∧ b.head? = some '.') := by simpa using hseam
        simp [findDotDot_cons, this]
      | cons d a =>
        have hseam' : ¬ ((d :: a).getLast? = some '.' ∧ b.head? = some '.') := by
          simpa [List.getLast?_cons_cons] using hseam
        have hc' : ¬ (c = '.' ∧ d = '.') := by simpa using hc
        rw [List.cons_append, findDotDot_cons, ih ha' hseam']
        simp only [List.cons_append, List.head?_cons, Option.some.injEq, hc', ↓reduceIte,
          Option.map_map, List.length_cons]
        congr 1

theorem findDotDot_append_none (a b : Str) (ha : findDotDot a = none) (hb : findDotDot b = none)
    (hseam : ¬ (a.getLast? = some '.' ∧ b.head? = some '.')) :
    findDotDot (a ++ b) = none := by
  rw [findDotDot_append_shift a b ha hseam, hb]; rfl

theorem isAsciiDigit_range (c : Char) (h : isAsciiDigit c = true) :
    48 ≤ c.toNat ∧ c.toNat ≤ 57 := by
  unfold isAsciiDigit at h
  rw [Bool.and_eq_true, decide_eq_true_eq, decide_eq_true_eq] at h
  have h1 := UInt32.le_iff_toNat_le.mp (Char.le_def.mp h.1)
  have h2 := UInt32.le_iff_toNat_le.mp (Char.le_def.mp h.2)
  have e1 : '0'.val.toNat = 48 := by decide
  have e2 : '9'.val.toNat = 57 := by decide
  rw [e1] at h1; rw [e2] at h2
  exact ⟨h1, h2⟩

theorem isAsciiDigit_not_space (c : Char) (h : isAsciiDigit c = true) : isPySpace c = false := by
  have h' := isAsciiDigit_range c h
  unfold isPySpace
  simp only [Bool.or_eq_false_iff, Bool.and_eq_false_iff, decide_eq_false_iff_not,
    beq_eq_false_iff_ne]
  omega

theorem isPySpace_not_digit {c : Char} (h : isPySpace c = true) : isAsciiDigit c = false := by
  cases hd : isAsciiDigit c with
  | false => rfl
  | true => rw [isAsciiDigit_not_space c hd] at h; cases h

def IsBlank (c : Char) : Prop := c = ' ' ∨ c = '\t'

theorem IsBlank.space {c : Char} (h : IsBlank c) : isPySpace c = true := by
  rcases h with rfl | rfl <;> decide
theorem IsBlank.ne_dot {c : Char} (h : IsBlank c) : c ≠ '.' := by
  rcases h with rfl | rfl <;> decide
theorem IsBlank.ne_colon {c : Char} (h : IsBlank c) : c ≠ ':' := by
  rcases h with rfl | rfl <;> decide
theorem IsBlank.not_digit {c : Char} (h : IsBlank c) : isAsciiDigit c = false := by
  rcases h with rfl | rfl <;> decide

theorem dotStarts_of_head (s : Str) (h : s.head? ≠ some '.') : dotStarts s = [s] := by
  unfold dotStarts
  split
  · simp at h
  · rfl

theorem splitFirst_append (ch : Char) (a r : Str) (ha : ∀ c ∈ a, c ≠ ch) :
    splitFirst ch (a ++ ch :: r) = some (a, r) := by
  obtain ⟨h1, h2⟩ := takeWhile_append_stop (p := (· != ch)) a ch r
    (by intro x hx; simpa using ha x hx) (by simp)
  simp only [splitFirst, h1, h2]

theorem splitFirst_none (ch : Char) (s : Str) (h : ∀ c ∈ s, c ≠ ch) : splitFirst ch s = none := by
  obtain ⟨_, h2⟩ := takeWhile_all (p := (· != ch)) s (by intro x hx; simpa using h x hx)
  simp only [splitFirst, h2]

/-- the name fragment on `a . r` when `a` is non-empty and period-free: a single alternative -/
theorem nameDefault_split (a r : Str) (hne : a ≠ []) (ha : ∀ c ∈ a, c ≠ '.') :
    nameDefault (a ++ '.' :: r) = [(some a, r)] := by
  have hhead : (a ++ '.' :: r).head? ≠ some '.' := by
    cases a with
    | nil => exact absurd rfl hne
    | cons c a => simpa using ha c (by simp)
  simp [nameDefault, dotStarts_of_head _ hhead, splitFirst_append '.' a r ha]

/-- the optional numeric group `([0-9]+\s)?` of the unit fragment applies: digits, one white-space
character, a run of non-space characters, then white space -/
theorem unitDefault_group (ds : Str) (b1 : Char) (sfx : Str) (b2 : Char) (t : Str)
    (hne : ds ≠ []) (hd : ∀ c ∈ ds, isAsciiDigit c = true)
    (h1 : isPySpace b1 = true) (hsfx : ∀ c ∈ sfx, isPySpace c = false) (h2 : isPySpace b2 = true) :
    ∃ tl, unitDefault (ds ++ b1 :: (sfx ++ b2 :: t)) = (some (ds ++ b1 :: sfx), b2 :: t) :: tl := by
  have hb1 := isPySpace_not_digit h1
  obtain ⟨e1, e2⟩ := takeWhile_append_stop (p := isAsciiDigit) ds b1 (sfx ++ b2 :: t) hd hb1
  obtain ⟨e3, e4⟩ := takeWhile_append_stop (p := fun c => !isPySpace c) sfx b2 t
    (by intro x hx; simp [hsfx x hx]) (by simp [h2])
  obtain ⟨tl, htl⟩ := shrinks_head sfx (b2 :: t)
  unfold unitDefault
  simp only [e1, e2]
  cases ds with
  | nil => exact absurd rfl hne
  | cons d ds' =>
    simp only [e3, e4, h1, htl, ↓reduceIte, List.map_cons, List.cons_append]
    exact ⟨_, rfl⟩

theorem unitDefault_nogroup (s : Str)
    (h : s.takeWhile isAsciiDigit = [] ∨ s.dropWhile isAsciiDigit = [] ∨
      ∃ c tl, s.dropWhile isAsciiDigit = c :: tl ∧ isPySpace c = false) :
    unitDefault s =
      (shrinks (s.takeWhile (fun c => !isPySpace c)) (s.dropWhile (fun c => !isPySpace c))).map
        fun ar => (some ar.1, ar.2) := by
  unfold unitDefault
  rcases h with h | h | ⟨c, tl, h, hc⟩
  · simp only [h, List.nil_append]
  · simp only [h]
    cases s.takeWhile isAsciiDigit <;> simp
  · simp only [h]
    cases s.takeWhile isAsciiDigit <;> simp [hc]

/-- outside ~Parameter, a line with a period before its first colon, whose first ".." (if any) is not
before the last colon when the section is ~Curves, gets the single default pattern -/
theorem configurePatterns_default (line : Str) (sec : SecName) (hsec : sec ≠ .parameter)
    (hcolon : ':' ∈ line) (hdot : '.' ∈ line.takeWhile (· != ':'))
    (hcurves : sec = .curves → ∀ dd dc, findDotDot line = some dd → rfindColon line = some dc →
      ¬ dd < dc) :
    configurePatterns line sec = [⟨.dflt, .dflt, .greedyColon, .rest⟩] := by
  have h1 : line.contains ':' = true := List.contains_iff_mem.mpr hcolon
  have h2 : (line.takeWhile (· != ':')).contains '.' = true := List.contains_iff_mem.mpr hdot
  have h3 : (sec == SecName.parameter) = false := by simpa using hsec
  unfold configurePatterns
  simp only [h1, h2, h3, Bool.not_true, Bool.and_false, Bool.false_eq_true, ↓reduceIte,
    List.nil_append]
  congr 2
  split
  · rename_i hc
    have hcv : sec = .curves := by
      rw [Bool.and_eq_true] at hc; simpa using hc.2
    split
    · rename_i dd dc hdd hdc
      rw [if_neg (hcurves hcv dd dc hdd hdc)]
    · rfl
  · rfl

/-- in ~Parameter, a line with a period before its first colon gets the clock-time pattern first and
the default pattern second -/
theorem configurePatterns_parameter (line : Str)
    (hcolon : ':' ∈ line) (hdot : '.' ∈ line.takeWhile (· != ':')) :
    configurePatterns line .parameter =
      [⟨.dflt, .dflt, .time, .rest⟩, ⟨.dflt, .dflt, .greedyColon, .rest⟩] := by
  have h1 : line.contains ':' = true := List.contains_iff_mem.mpr hcolon
  have h2 : (line.takeWhile (· != ':')).contains '.' = true := List.contains_iff_mem.mpr hdot
  unfold configurePatterns
  simp only [h1, h2, Bool.not_true, Bool.and_false, Bool.false_eq_true, ↓reduceIte]
  simp

theorem shrinks_mem (run rest a r : Str) (h : (a, r) ∈ shrinks run rest) : a ++ r = run ++ rest := by
  unfold shrinks at h
  obtain ⟨k, _, hk⟩ := List.mem_map.mp h
  have h1 : a = run.take k := (Prod.mk.inj hk).1.symm
  have h2 : r = run.drop k ++ rest := (Prod.mk.inj hk).2.symm
  rw [h1, h2, ← List.append_assoc, List.take_append_drop]

/-- every alternative of the unit fragment splits its input -/
theorem unitDefault_mem (s : Str) (u : Option Str) (r : Str) (h : (u, r) ∈ unitDefault s) :
    ∃ X, s = X ++ r := by
  unfold unitDefault at h
  rcases List.mem_append.mp h with h | h
  · have hs := List.takeWhile_append_dropWhile (p := isAsciiDigit) (l := s)
    revert h
    cases hd : s.takeWhile isAsciiDigit with
    | nil => simp
    | cons d ds =>
      cases ha : s.dropWhile isAsciiDigit with
      | nil => simp
      | cons sp tl =>
        simp only
        split
        · intro h
          obtain ⟨⟨a, r'⟩, har, he⟩ := List.mem_map.mp h
          have := shrinks_mem _ _ _ _ har
          rw [List.takeWhile_append_dropWhile] at this
          have hr : r' = r := (Prod.mk.inj he).2
          subst hr
          refine ⟨d :: ds ++ sp :: a, ?_⟩
          rw [← hs, hd, ha, ← this]; simp
        · simp
  · obtain ⟨⟨a, r'⟩, har, he⟩ := List.mem_map.mp h
    have := shrinks_mem _ _ _ _ har
    rw [List.takeWhile_append_dropWhile] at this
    have hr : r' = r := (Prod.mk.inj he).2
    subst hr
    exact ⟨a, this.symm⟩

theorem splitFirst_sound (ch : Char) (s a r : Str) (h : splitFirst ch s = some (a, r)) :
    s = a ++ ch :: r ∧ ∀ c ∈ a, c ≠ ch := by
  unfold splitFirst at h
  split at h
  · cases h
  · rename_i x rest hd
    obtain ⟨rfl, rfl⟩ := Prod.mk.inj (Option.some.inj h)
    have hx : x = ch := by
      have := List.head?_dropWhile_not (· != ch) s
      rw [hd] at this
      simpa using this
    subst hx
    exact ⟨by rw [← hd, List.takeWhile_append_dropWhile],
      fun c hc => by simpa using List.all_eq_true.mp List.all_takeWhile c hc⟩

/-- the name fragment on `. P : D` (`P` period-free): the alternative "skip the leading period" ends at a period of `D` (if any);
when the continuation fails on every such alternative, the search arrives at the EMPTY name -/
theorem firstSome_nameDefault_blank {β} (P D : Str) (g : Option Str × Str → Option β)
    (hP : ∀ c ∈ P, c ≠ '.')
    (hfail : ∀ n D1 D2, D = D1 ++ '.' :: D2 → g (n, D2) = none) :
    firstSome (nameDefault ('.' :: (P ++ ':' :: D))) g = g (some [], P ++ ':' :: D) := by
  have h2 : splitFirst '.' ('.' :: (P ++ ':' :: D)) = some ([], P ++ ':' :: D) := by
    simpa using splitFirst_append '.' [] (P ++ ':' :: D) (by simp)
  cases hsf : splitFirst '.' (P ++ ':' :: D) with
  | none =>
    have : nameDefault ('.' :: (P ++ ':' :: D)) = [(some [], P ++ ':' :: D)] := by
      simp [nameDefault, dotStarts, hsf, h2]
    rw [this, firstSome_singleton]
  | some ar =>
    obtain ⟨a, r'⟩ := ar
    have : nameDefault ('.' :: (P ++ ':' :: D)) = [(some a, r'), (some [], P ++ ':' :: D)] := by
      simp [nameDefault, dotStarts, hsf, h2]
    rw [this]
    obtain ⟨hs1, hs2⟩ := splitFirst_sound '.' _ a r' hsf
    have hD : ∃ D1, D = D1 ++ '.' :: r' := by
      rcases List.append_eq_append_iff.mp hs1 with ⟨a', ha, hr⟩ | ⟨c', hPc, hr⟩
      · cases a' with
        | nil => simp at hr
        | cons x a'' =>
          simp only [List.cons_append, List.cons.injEq] at hr
          exact ⟨a'', hr.2⟩
      · cases c' with
        | nil => simp at hr
        | cons x c'' =>
          simp only [List.cons_append, List.cons.injEq] at hr
          exfalso
          exact hP '.' (by rw [hPc, ← hr.1]; simp) rfl
    obtain ⟨D1, hD1⟩ := hD
    rw [firstSome_cons_none _ _ g (hfail _ D1 r' hD1), firstSome_singleton]

/-- what is asked of the text after the delimiter colon on a line with an empty name: no period, or no colon -/
def TailOK (D : Str) : Prop := (∀ c ∈ D, c ≠ '.') ∨ (∀ c ∈ D, c ≠ ':')

/-- the name alternative that ends at a period of the tail `D` fails: what follows that period holds no colon, so no
continuation `cont` (which needs one) matches after any unit -/
theorem tail_unit_fails {β} (D : Str) (hDt : TailOK D) (cont : Option Str → Option Str × Str → Option β)
    (hcont : ∀ n u r, (∀ c ∈ r, c ≠ ':') → cont n (u, r) = none) (n : Option Str) (D1 D2 : Str)
    (hd : D = D1 ++ '.' :: D2) : firstSome (unitDefault D2) (cont n) = none := by
  apply firstSome_all_none
  intro ⟨u, r⟩ hur
  obtain ⟨X, hX⟩ := unitDefault_mem D2 u r hur
  apply hcont
  intro c hc
  rcases hDt with hdot | hcolon
  · exact absurd rfl (hdot '.' (by rw [hd]; simp))
  · exact hcolon c (by rw [hd, hX]; simp [hc])

/-- the name part `A` of a line `A . R`: non-empty and period-free; or empty, and then `R` is `P : D` with `P` period-free and
no colon after a period of `D` (`firstSome_nameDefault_blank`) -/
def NameOK (A R : Str) : Prop :=
  (A ≠ [] ∧ ∀ c ∈ A, c ≠ '.') ∨ (A = [] ∧ ∃ P D, R = P ++ ':' :: D ∧ (∀ c ∈ P, c ≠ '.') ∧ TailOK D)

theorem NameOK.nodot {A R : Str} (h : NameOK A R) : ∀ c ∈ A, c ≠ '.' := by
  rcases h with ⟨_, h⟩ | ⟨rfl, _⟩
  · exact h
  · exact fun _ hc => nomatch hc

/-- the name fragment on `A . R` has one alternative that matters: the name `A`, the unit fragment running on `R` -/
theorem firstSome_nameDefault_unit {β} (A R : Str) (h : NameOK A R) (cont : Option Str → Option Str × Str → Option β)
    (hcont : ∀ n u r, (∀ c ∈ r, c ≠ ':') → cont n (u, r) = none) :
    firstSome (nameDefault (A ++ '.' :: R)) (fun nr => firstSome (unitDefault nr.2) (cont nr.1)) =
      firstSome (unitDefault R) (cont (some A)) := by
  rcases h with ⟨hA, hAdot⟩ | ⟨rfl, P, D, rfl, hP, hDt⟩
  · rw [nameDefault_split A _ hA hAdot, firstSome_singleton]
  · exact firstSome_nameDefault_blank P D _ hP (tail_unit_fails D hDt cont hcont)

/-- shapes of the text captured by the unit fragment: either a run of non-space characters on which
the optional numeric group cannot apply, or `digits white-space non-space-run` (the group applies) -/
def UnitCap (cap T : Str) : Prop :=
  ((∀ c ∈ cap, isPySpace c = false) ∧
    ((∃ c ∈ cap, isAsciiDigit c = false) ∨
      ∀ c, T.head? = some c → isAsciiDigit c = false ∧ (cap = [] ∨ isPySpace c = false))) ∨
  ∃ ds b1 u, cap = ds ++ b1 :: u ∧ ds ≠ [] ∧ (∀ c ∈ ds, isAsciiDigit c = true) ∧
    isPySpace b1 = true ∧ ∀ c ∈ u, isPySpace c = false

theorem unitDefault_search_plain {β} (unit T : Str) (g : Option Str × Str → Option β) (b : β)
    (hu : ∀ c ∈ unit, isPySpace c = false)
    (hng : (∃ c ∈ unit, isAsciiDigit c = false) ∨
      ∀ c, T.head? = some c → isAsciiDigit c = false ∧ (unit = [] ∨ isPySpace c = false))
    (hback : ∀ x1 x2, T.takeWhile (fun c => !isPySpace c) = x1 ++ x2 → x1 ≠ [] →
      g (some (unit ++ x1), x2 ++ T.dropWhile (fun c => !isPySpace c)) = none)
    (hok : g (some unit, T) = some b) :
    firstSome (unitDefault (unit ++ T)) g = some b := by
  have hcond : (unit ++ T).takeWhile isAsciiDigit = [] ∨ (unit ++ T).dropWhile isAsciiDigit = [] ∨
      ∃ c tl, (unit ++ T).dropWhile isAsciiDigit = c :: tl ∧ isPySpace c = false := by
    by_cases hall : ∀ c ∈ unit, isAsciiDigit c = true
    · have hT : ∀ c, T.head? = some c → isAsciiDigit c = false ∧ (unit = [] ∨ isPySpace c = false) := by
        rcases hng with ⟨c, hc, hcd⟩ | h
        · rw [hall c hc] at hcd; exact absurd hcd (by simp)
        · exact h
      obtain ⟨e1, e2⟩ := takeWhile_append_all (p := isAsciiDigit) unit T hall
      cases T with
      | nil => right; left; rw [e2]; rfl
      | cons t T =>
        obtain ⟨ht1, ht2⟩ := hT t (by simp)
        rcases ht2 with rfl | ht2
        · left; simp [ht1]
        · right; right
          exact ⟨t, T, by rw [e2]; simp [ht1], ht2⟩
    · right; right
      have hne : unit.dropWhile isAsciiDigit ≠ [] := fun h => hall (dropWhile_eq_nil unit h)
      cases hdw : unit.dropWhile isAsciiDigit with
      | nil => exact absurd hdw hne
      | cons d tl =>
        refine ⟨d, tl ++ T, ?_, ?_⟩
        · rw [List.dropWhile_append, hdw]; simp
        · apply hu
          have : d ∈ unit.dropWhile isAsciiDigit := by rw [hdw]; simp
          exact (List.dropWhile_suffix _).subset this
  rw [unitDefault_nogroup _ hcond, firstSome_map]
  obtain ⟨e1, e2⟩ := takeWhile_append_all (p := fun c => !isPySpace c) unit T
    (by intro x hx; simp [hu x hx])
  rw [e1, e2, firstSome_shrinks_skip unit _ _ _ hback, List.takeWhile_append_dropWhile]
  obtain ⟨tl, htl⟩ := shrinks_head unit T
  rw [htl]
  exact firstSome_head _ _ _ _ hok

theorem unitDefault_search_group {β} (ds : Str) (b1 : Char) (u T : Str)
    (g : Option Str × Str → Option β) (b : β)
    (hne : ds ≠ []) (hd : ∀ c ∈ ds, isAsciiDigit c = true) (h1 : isPySpace b1 = true)
    (hu : ∀ c ∈ u, isPySpace c = false)
    (hback : ∀ x1 x2, T.takeWhile (fun c => !isPySpace c) = x1 ++ x2 → x1 ≠ [] →
      g (some (ds ++ b1 :: u ++ x1), x2 ++ T.dropWhile (fun c => !isPySpace c)) = none)
    (hok : g (some (ds ++ b1 :: u), T) = some b) :
    firstSome (unitDefault (ds ++ b1 :: u ++ T)) g = some b := by
  have hb1 := isPySpace_not_digit h1
  have hrw : ds ++ b1 :: u ++ T = ds ++ b1 :: (u ++ T) := by simp
  obtain ⟨e1, e2⟩ := takeWhile_append_stop (p := isAsciiDigit) ds b1 (u ++ T) hd hb1
  obtain ⟨e3, e4⟩ := takeWhile_append_all (p := fun c => !isPySpace c) u T
    (by intro x hx; simp [hu x hx])
  rw [hrw]
  unfold unitDefault
  simp only [e1, e2]
  cases ds with
  | nil => exact absurd rfl hne
  | cons d ds' =>
    simp only [h1, ↓reduceIte, e3, e4]
    apply firstSome_append_some
    rw [firstSome_map]
    rw [firstSome_shrinks_skip u _ _ _ (by
      intro x1 x2 hx hx1
      have := hback x1 x2 hx hx1
      simpa using this), List.takeWhile_append_dropWhile]
    obtain ⟨tl, htl⟩ := shrinks_head u T
    rw [htl]
    exact firstSome_head _ _ _ _ hok

/-- the unit fragment on `cap ++ T`: the search stops at the capture `cap` when the continuation
succeeds there and fails on every longer capture -/
theorem unitDefault_stage {β} (cap T : Str) (g : Option Str × Str → Option β) (b : β)
    (hcap : UnitCap cap T)
    (hback : ∀ x1 x2, T.takeWhile (fun c => !isPySpace c) = x1 ++ x2 → x1 ≠ [] →
      g (some (cap ++ x1), x2 ++ T.dropWhile (fun c => !isPySpace c)) = none)
    (hok : g (some cap, T) = some b) :
    firstSome (unitDefault (cap ++ T)) g = some b := by
  rcases hcap with ⟨hu, hng⟩ | ⟨ds, b1, u, rfl, hne, hd, h1, hu⟩
  · exact unitDefault_search_plain cap T g b hu hng hback hok
  · exact unitDefault_search_group ds b1 u T g b hne hd h1 hu hback hok

/-- in `V : D` with `V` empty or starting with white space, a non-empty non-space run at the start
swallows the colon, and what remains is a suffix of `D` -/
theorem run_swallows_colon (V D x1 x2 : Str)
    (hV : ∀ c, V.head? = some c → isPySpace c = true)
    (hx : (V ++ ':' :: D).takeWhile (fun c => !isPySpace c) = x1 ++ x2) (hne : x1 ≠ []) :
    V = [] ∧ ∃ d1, D = d1 ++ (x2 ++ (V ++ ':' :: D).dropWhile (fun c => !isPySpace c)) := by
  cases V with
  | cons v V =>
    have := hV v (by simp)
    simp [this] at hx
    exact absurd hx.1 hne
  | nil =>
    refine ⟨rfl, ?_⟩
    have hsplit := List.takeWhile_append_dropWhile (p := fun c => !isPySpace c) (l := ':' :: D)
    simp only [List.nil_append] at hx ⊢
    rw [hx] at hsplit
    cases x1 with
    | nil => exact absurd rfl hne
    | cons c x1 =>
      simp only [List.cons_append, List.append_assoc, List.cons.injEq] at hsplit
      exact ⟨x1, hsplit.2.symm⟩

theorem unitDefault_stage_colon {β} (cap V D : Str) (g : Option Str × Str → Option β) (b : β)
    (hcap : UnitCap cap (V ++ ':' :: D))
    (hV : ∀ c, V.head? = some c → isPySpace c = true)
    (hfail : V = [] → ∀ u d1 r, D = d1 ++ r → g (u, r) = none)
    (hok : g (some cap, V ++ ':' :: D) = some b) :
    firstSome (unitDefault (cap ++ V ++ ':' :: D)) g = some b := by
  rw [List.append_assoc]
  apply unitDefault_stage cap _ g b hcap _ hok
  intro x1 x2 hx hne
  obtain ⟨hVnil, d1, hd1⟩ := run_swallows_colon V D x1 x2 hV hx hne
  exact hfail hVnil _ d1 _ hd1

/-- continuation of the default pattern after the unit fragment -/
def contGreedy (n : Option Str) : Option Str × Str → Option Fields := fun ur =>
  firstSome (valueGreedyColon ur.2) fun vr =>
    firstSome (descRest vr.2) fun dr => some (postProcess n ur.1 vr.1 dr.1)

theorem matchPattern_default_eq (line : Str) :
    matchPattern ⟨.dflt, .dflt, .greedyColon, .rest⟩ line =
      firstSome (nameDefault line) fun nr => firstSome (unitDefault nr.2) (contGreedy nr.1) := rfl

theorem contGreedy_ok (n u : Option Str) (V D : Str) (hD : ∀ c ∈ D, c ≠ ':') :
    contGreedy n (u, V ++ ':' :: D) = some (postProcess n u (some V) (some D)) := by
  obtain ⟨tl, h⟩ := valueGreedyColon_last V D hD
  unfold contGreedy
  simp only [h]
  apply firstSome_head
  simp [descRest, firstSome]

theorem contGreedy_nocolon (n u : Option Str) (r : Str) (h : ∀ c ∈ r, c ≠ ':') :
    contGreedy n (u, r) = none := by
  unfold contGreedy
  simp only [valueGreedyColon_nocolon r h]
  rfl

theorem matchPattern_default_ok (A cap V D : Str) (hA : NameOK A (cap ++ V ++ ':' :: D))
    (hcap : UnitCap cap (V ++ ':' :: D))
    (hV : ∀ c, V.head? = some c → isPySpace c = true)
    (hD : ∀ c ∈ D, c ≠ ':') :
    matchPattern ⟨.dflt, .dflt, .greedyColon, .rest⟩ (A ++ '.' :: (cap ++ V ++ ':' :: D)) =
      some (postProcess (some A) (some cap) (some V) (some D)) := by
  rw [matchPattern_default_eq, firstSome_nameDefault_unit A _ hA contGreedy contGreedy_nocolon]
  apply unitDefault_stage_colon cap V D _ _ hcap hV
  · intro _ u d1 r hd
    apply contGreedy_nocolon
    intro c hc
    exact hD c (by rw [hd]; simp [hc])
  · exact contGreedy_ok _ _ _ _ hD

/-- how the unit fragment captures a conformant unit followed by `V : D`: either the unit itself, or
(non-empty all-digit unit followed by white space) the unit plus that one white-space character -/
theorem unitCap_layout (unit V D : Str)
    (hu : ∀ c ∈ unit, isPySpace c = false)
    (hV : ∀ c, V.head? = some c → isPySpace c = true)
    (hdig : unit ≠ [] → (∀ c ∈ unit, isAsciiDigit c = true) →
      ∀ b1 V', V = b1 :: V' → ∀ c, V'.head? = some c → isPySpace c = true) :
    ∃ cap V', cap ++ V' = unit ++ V ∧ UnitCap cap (V' ++ ':' :: D) ∧ strip cap = unit ∧
      strip V' = strip V ∧ (∀ c, V'.head? = some c → isPySpace c = true) ∧ (V' = V ∨ ∃ b1, V = b1 :: V') ∧
      (V' = [] → V.length ≤ 1 ∧ (V ≠ [] → unit ≠ [] ∧ ∀ c ∈ unit, isAsciiDigit c = true)) := by
  have hsu : strip unit = unit := strip_nospace unit hu
  by_cases hgrp : unit ≠ [] ∧ ∀ c ∈ unit, isAsciiDigit c = true
  · cases V with
    | nil =>
      refine ⟨unit, [], rfl, Or.inl ⟨hu, Or.inr ?_⟩, hsu, rfl, hV, Or.inl rfl,
        fun _ => ⟨by simp, by simp⟩⟩
      intro c hc
      have : c = ':' := by simpa using hc.symm
      subst this
      exact ⟨by decide, Or.inr (by decide)⟩
    | cons b1 V' =>
      have hb1 : isPySpace b1 = true := hV b1 (by simp)
      refine ⟨unit ++ [b1], V', by simp, Or.inr ⟨unit, b1, [], rfl, hgrp.1, hgrp.2, hb1, by simp⟩,
        ?_, ?_, hdig hgrp.1 hgrp.2 b1 V' rfl, Or.inr ⟨b1, rfl⟩, ?_⟩
      · rw [strip_pad_right unit [b1] (by simpa using hb1), hsu]
      · exact (strip_pad_left [b1] V' (by simpa using hb1)).symm
      · intro h; subst h; exact ⟨by simp, fun _ => hgrp⟩
  · refine ⟨unit, V, rfl, Or.inl ⟨hu, ?_⟩, hsu, rfl, hV, Or.inl rfl, ?_⟩
    · by_cases hune : unit = []
      · right
        intro c hc
        refine ⟨?_, Or.inl hune⟩
        cases V with
        | nil =>
          have : c = ':' := by simpa using hc.symm
          subst this; decide
        | cons v V =>
          have hcv : c = v := by simpa using hc.symm
          subst hcv
          exact isPySpace_not_digit (hV c (by simp))
      · left
        have : ¬ ∀ c ∈ unit, isAsciiDigit c = true := fun h => hgrp ⟨hune, h⟩
        simpa using this
    · intro h; subst h; exact ⟨by simp, fun h => absurd rfl h⟩

theorem getLast?_ne_of_forall {l : Str} {x : Char} (h : ∀ c ∈ l, c ≠ x) : l.getLast? ≠ some x :=
  fun hl => h x (List.mem_of_getLast? hl) rfl

theorem head?_ne_of_forall {l : Str} {x : Char} (h : ∀ c ∈ l, c ≠ x) : l.head? ≠ some x :=
  fun hl => h x (List.mem_of_mem_head? hl) rfl

theorem findDotDot_pad (a s b : Str) (ha : ∀ c ∈ a, c ≠ '.') (hb : ∀ c ∈ b, c ≠ '.')
    (hs : findDotDot s = none) : findDotDot (a ++ s ++ b) = none := by
  apply findDotDot_append_none _ _ _ (findDotDot_nodot b hb)
  · exact fun h => head?_ne_of_forall hb h.2
  · exact findDotDot_append_none _ _ (findDotDot_nodot a ha) hs
      (fun h => getLast?_ne_of_forall ha h.1)

theorem findDotDot_prefix_none (A unit V : Str) (hA : ∀ c ∈ A, c ≠ '.')
    (hu1 : unit.head? ≠ some '.') (hu2 : findDotDot unit = none)
    (hV1 : V.head? ≠ some '.') (hV2 : findDotDot V = none) :
    findDotDot (A ++ '.' :: (unit ++ V)) = none := by
  apply findDotDot_append_none _ _ (findDotDot_nodot A hA)
  · rw [findDotDot_cons, findDotDot_append_none unit V hu2 hV2 (fun h => hV1 h.2)]
    simp only [true_and, Option.map_none, ite_eq_right_iff]
    intro h
    rw [List.head?_append] at h
    cases hh : unit.head? with
    | none => rw [hh] at h; exact absurd (by simpa using h) hV1
    | some c => rw [hh] at h hu1; exact absurd (by simpa using h) hu1
  · exact fun h => getLast?_ne_of_forall hA h.1

theorem findDotDot_after_colon (P D : Str) (hP : findDotDot P = none) (dd : Nat)
    (h : findDotDot (P ++ ':' :: D) = some dd) : ¬ dd < P.length := by
  rw [findDotDot_append_shift P _ hP (by simp)] at h
  cases hd : findDotDot (':' :: D) with
  | none => simp [hd] at h
  | some k =>
    rw [hd] at h
    have : k + P.length = dd := by simpa using h
    omega

theorem period_before_colon (A R : Str) (hAcolon : ∀ c ∈ A, c ≠ ':') :
    '.' ∈ (A ++ '.' :: R).takeWhile (· != ':') := by
  rw [(takeWhile_append_all (p := (· != ':')) A _ (by intro x hx; simpa using hAcolon x hx)).1]
  simp

theorem postProcess_eq (A cap V' D unit V : Str) (h1 : strip cap = unit) (h2 : strip V' = strip V)
    (hulast : unit.getLast? ≠ some '.') :
    postProcess (some A) (some cap) (some V') (some D) = ⟨strip A, unit, strip V, strip D⟩ := by
  simp [postProcess, grp, h1, h2, hulast]

theorem parse_default_ok (sec : SecName) (hsec : sec ≠ .parameter) (A cap V D : Str)
    (hA : NameOK A (cap ++ V ++ ':' :: D)) (hAcolon : ∀ c ∈ A, c ≠ ':')
    (hcap : UnitCap cap (V ++ ':' :: D))
    (hV : ∀ c, V.head? = some c → isPySpace c = true)
    (hD : ∀ c ∈ D, c ≠ ':')
    (hcurves : sec = .curves → findDotDot (A ++ '.' :: (cap ++ V)) = none) :
    parseHeaderLine sec (A ++ '.' :: (cap ++ V ++ ':' :: D)) =
      some (postProcess (some A) (some cap) (some V) (some D)) := by
  have hcfg : configurePatterns (A ++ '.' :: (cap ++ V ++ ':' :: D)) sec =
      [⟨.dflt, .dflt, .greedyColon, .rest⟩] := by
    apply configurePatterns_default _ _ hsec
    · simp
    · exact period_before_colon A _ hAcolon
    · intro hcv dd dc hdd hdc
      have hline : A ++ '.' :: (cap ++ V ++ ':' :: D) = (A ++ '.' :: (cap ++ V)) ++ ':' :: D := by
        simp
      rw [hline] at hdd hdc
      rw [rfindColon_last _ _ hD] at hdc
      have := findDotDot_after_colon _ D (hcurves hcv) dd hdd
      have hdc' : (A ++ '.' :: (cap ++ V)).length = dc := by simpa using hdc
      omega
  unfold parseHeaderLine
  rw [hcfg, firstSome_singleton]
  exact matchPattern_default_ok A cap V D hA hcap hV hD

theorem parse_layout_ok (sec : SecName) (hsec : sec ≠ .parameter) (A unit V D : Str)
    (hA : NameOK A (unit ++ V ++ ':' :: D)) (hAcolon : ∀ c ∈ A, c ≠ ':')
    (hu : ∀ c ∈ unit, isPySpace c = false) (hulast : unit.getLast? ≠ some '.')
    (hV : ∀ c, V.head? = some c → isPySpace c = true)
    (hdig : unit ≠ [] → (∀ c ∈ unit, isAsciiDigit c = true) →
      ∀ b1 V', V = b1 :: V' → ∀ c, V'.head? = some c → isPySpace c = true)
    (hD : ∀ c ∈ D, c ≠ ':')
    (hcurves : sec = .curves →
      unit.head? ≠ some '.' ∧ findDotDot unit = none ∧ findDotDot V = none) :
    parseHeaderLine sec (A ++ '.' :: (unit ++ V ++ ':' :: D)) =
      some ⟨strip A, unit, strip V, strip D⟩ := by
  obtain ⟨cap, V', happ, hcap, hs1, hs2, hV', _, _⟩ := unitCap_layout unit V D hu hV hdig
  have hline : A ++ '.' :: (unit ++ V ++ ':' :: D) = A ++ '.' :: (cap ++ V' ++ ':' :: D) := by
    rw [happ]
  rw [hline, parse_default_ok sec hsec A cap V' D (by rw [happ]; exact hA) hAcolon hcap hV' hD ?_,
    postProcess_eq A cap V' D unit V hs1 hs2 hulast]
  intro hcv
  obtain ⟨h1, h2, h3⟩ := hcurves hcv
  have hV1 : V.head? ≠ some '.' := by
    intro h
    exact absurd (hV '.' h) (by decide)
  rw [happ]
  exact findDotDot_prefix_none A unit V hA.nodot h1 h2 hV1 h3

theorem head?_pad (P : Char → Prop) (a s b : Str) (ha : ∀ c ∈ a, P c) (hb : ∀ c ∈ b, P c)
    (hs : s ≠ [] → a ≠ []) : ∀ c, (a ++ s ++ b).head? = some c → P c := by
  intro c hc
  cases a with
  | cons x a =>
    have : c = x := by simpa using hc.symm
    subst this; exact ha c (by simp)
  | nil =>
    have hs' : s = [] := by
      cases s with
      | nil => rfl
      | cons y s => exact absurd rfl (hs (by simp))
    subst hs'
    exact hb c (List.mem_of_mem_head? (by simpa using hc))

theorem forall_mem_append3 {P : Char → Prop} (a s b : Str) (ha : ∀ c ∈ a, P c)
    (hs : ∀ c ∈ s, P c) (hb : ∀ c ∈ b, P c) : ∀ c ∈ a ++ s ++ b, P c := by
  intro c hc
  rcases List.mem_append.mp hc with h | h
  · rcases List.mem_append.mp h with h | h
    · exact ha c h
    · exact hs c h
  · exact hb c h

theorem two_le_length {l : Str} (h : 2 ≤ l.length) : ∃ b1 b2 l', l = b1 :: b2 :: l' := by
  match l, h with
  | b1 :: b2 :: l', _ => exact ⟨b1, b2, l', rfl⟩

/-- in a padded region `a ++ s ++ b`, what follows the first character starts with a pad character
whenever `s = []` or `2 ≤ a.length` -/
theorem second_pad (P : Char → Prop) (a s b : Str) (ha : ∀ c ∈ a, P c) (hb : ∀ c ∈ b, P c)
    (hs : s ≠ [] → 2 ≤ a.length) :
    ∀ b1 V', a ++ s ++ b = b1 :: V' → ∀ c, V'.head? = some c → P c := by
  intro b1 V' hV c hc
  cases a with
  | nil =>
    have hs' : s = [] := by
      cases s with
      | nil => rfl
      | cons y s => have := hs (by simp); simp at this
    subst hs'
    have hb' : b = b1 :: V' := by simpa using hV
    apply hb; rw [hb']; exact List.mem_cons_of_mem _ (List.mem_of_mem_head? hc)
  | cons x a =>
    have hV' : V' = a ++ s ++ b := by
      simp only [List.cons_append, List.cons.injEq] at hV; exact hV.2.symm
    subst hV'
    refine head?_pad P a s b (fun c h => ha c (by simp [h])) hb ?_ c hc
    intro hne
    have := hs hne
    intro h; subst h; simp at this

/-- the look-ahead `(?!([0-5][0-9]|mm|MM))` of the clock-time pattern *rejects* a colon followed by
`after` -/
def clockAhead (after : Str) : Bool :=
  match after with
  | a1 :: a2 :: _ =>
    (('0' ≤ a1 && a1 ≤ '5') && isAsciiDigit a2) || (a1 == 'm' && a2 == 'm') || (a1 == 'M' && a2 == 'M')
  | _ => false

/-- the look-behind `(?<!( [0-2][0-3]| hh| HH))` of the clock-time pattern *rejects* a colon preceded by the
reverse of `beforeRev` -/
def clockBehind (beforeRev : Str) : Bool :=
  match beforeRev with
  | c3 :: c2 :: c1 :: _ =>
    (c1 == ' ' && ('0' ≤ c2 && c2 ≤ '2') && ('0' ≤ c3 && c3 ≤ '3')) ||
    (c1 == ' ' && c2 == 'h' && c3 == 'h') || (c1 == ' ' && c2 == 'H' && c3 == 'H')
  | _ => false

theorem sepOk_eq (beforeRev after : Str) : sepOk beforeRev after = (!clockBehind beforeRev && !clockAhead after) :=
  rfl

theorem sepOk_of_clockAhead (before after : Str) (h : clockAhead after = true) :
    sepOk before after = false := by
  rw [sepOk_eq, h, Bool.not_true, Bool.and_false]

theorem clockBehind_blank (b : Char) (x : Str) (h : IsBlank b) : clockBehind (b :: x) = false := by
  rcases x with _ | ⟨c2, _ | ⟨c1, x⟩⟩
  · rfl
  · rfl
  · have h1 : ('0' ≤ b && b ≤ '3') = false ∧ (b == 'h') = false ∧ (b == 'H') = false := by
      rcases h with rfl | rfl <;> decide
    simp only [clockBehind, h1, Bool.and_false, Bool.or_false]

theorem clockAhead_blank (b : Char) (y : Str) (h : IsBlank b) : clockAhead (b :: y) = false := by
  rcases y with _ | ⟨a2, y⟩
  · rfl
  · have h1 : ('0' ≤ b && b ≤ '5') = false ∧ (b == 'm') = false ∧ (b == 'M') = false := by
      rcases h with rfl | rfl <;> decide
    simp only [clockAhead, h1, Bool.false_and, Bool.or_false]

theorem clockAhead_append (v r : Str) (h : clockAhead v = true) : clockAhead (v ++ r) = true := by
  rcases v with _ | ⟨a1, _ | ⟨a2, v⟩⟩
  · simp [clockAhead] at h
  · simp [clockAhead] at h
  · simpa [clockAhead] using h

/-- every colon of `v` is rejected by the clock-time look-ahead (it is followed, inside `v`, by
`[0-5][0-9]`, `mm` or `MM`); in particular `v` may have no colon at all -/
def timeLikeB : Str → Bool
  | [] => true
  | c :: cs => (c != ':' || clockAhead cs) && timeLikeB cs

theorem timeLikeB_split (v a b : Str) (h : timeLikeB v = true) (hv : v = a ++ ':' :: b) :
    clockAhead b = true := by
  induction a generalizing v with
  | nil =>
    subst hv
    simp only [List.nil_append, timeLikeB, Bool.and_eq_true] at h
    simpa using h.1
  | cons x a ih =>
    subst hv
    simp only [List.cons_append, timeLikeB, Bool.and_eq_true] at h
    exact ih _ h.2 rfl

theorem timeLikeB_of_split (v : Str) (h : ∀ a b, v = a ++ ':' :: b → clockAhead b = true) :
    timeLikeB v = true := by
  induction v with
  | nil => rfl
  | cons c v ih =>
    simp only [timeLikeB, Bool.and_eq_true]
    refine ⟨?_, ih (fun a b hv => h (c :: a) b (by rw [hv]; rfl))⟩
    by_cases hc : c = ':'
    · subst hc
      simp [h [] v rfl]
    · simp [hc]

theorem timeLikeB_append_left (a v : Str) (ha : ∀ c ∈ a, c ≠ ':') (hv : timeLikeB v = true) :
    timeLikeB (a ++ v) = true := by
  induction a with
  | nil => exact hv
  | cons c a ih =>
    have hc : c ≠ ':' := ha c (by simp)
    simp [timeLikeB, hc, ih (fun y hy => ha y (by simp [hy]))]

theorem timeLikeB_of_nocolon (v : Str) (h : ∀ c ∈ v, c ≠ ':') : timeLikeB v = true := by
  simpa using timeLikeB_append_left v [] h rfl

theorem timeLikeB_append_right (v b : Str) (hv : timeLikeB v = true) (hb : ∀ c ∈ b, c ≠ ':') :
    timeLikeB (v ++ b) = true := by
  induction v with
  | nil => exact timeLikeB_of_nocolon b hb
  | cons c v ih =>
    simp only [timeLikeB, Bool.and_eq_true] at hv
    simp only [List.cons_append, timeLikeB, Bool.and_eq_true]
    refine ⟨?_, ih hv.2⟩
    rcases Bool.or_eq_true _ _ |>.mp hv.1 with h | h
    · simp [h]
    · simp [clockAhead_append v b h]

theorem timeLikeB_tail (c : Char) (v : Str) (h : timeLikeB (c :: v) = true) : timeLikeB v = true := by
  simp only [timeLikeB, Bool.and_eq_true] at h
  exact h.2

theorem colonSplits_mem (s v r : Str) (h : (v, r) ∈ colonSplits s) : s = v ++ ':' :: r := by
  induction s generalizing v with
  | nil => simp [colonSplits] at h
  | cons c s ih =>
    simp only [colonSplits] at h
    rcases List.mem_append.mp h with h | h
    · split at h
      · rename_i hc
        have hc' : c = ':' := by simpa using hc
        have : (v, r) = ([], s) := by simpa using h
        obtain ⟨rfl, rfl⟩ := Prod.mk.inj this
        simp [hc']
      · simp at h
    · obtain ⟨⟨v', r'⟩, hm, he⟩ := List.mem_map.mp h
      obtain ⟨rfl, rfl⟩ := Prod.mk.inj he
      rw [ih v' hm]; rfl

/-- continuation of the clock-time pattern after the unit fragment -/
def contTime (line : Str) (n : Option Str) : Option Str × Str → Option Fields := fun ur =>
  firstSome (valueTime ((line.take (line.length - ur.2.length)).reverse) ur.2) fun vr =>
    firstSome (descRest vr.2) fun dr => some (postProcess n ur.1 vr.1 dr.1)

theorem matchPattern_time_eq (line : Str) :
    matchPattern ⟨.dflt, .dflt, .time, .rest⟩ line =
      firstSome (nameDefault line) fun nr => firstSome (unitDefault nr.2) (contTime line nr.1) := rfl

theorem take_consumed (X r : Str) : (X ++ r).take ((X ++ r).length - r.length) = X := by
  have : (X ++ r).length - r.length = X.length := by simp
  rw [this, List.take_left]

theorem filterMap_append_none {α β} (l₁ l₂ : List α) (f : α → Option β)
    (h : ∀ a ∈ l₁, f a = none) : (l₁ ++ l₂).filterMap f = l₂.filterMap f := by
  rw [List.filterMap_append, List.filterMap_eq_nil_iff.mpr h, List.nil_append]

theorem contTime_ok (line X V D : Str) (n u : Option Str) (hline : line = X ++ (V ++ ':' :: D))
    (hV : timeLikeB V = true) (hsep : sepOk ((X ++ V).reverse) D = true) :
    contTime line n (u, V ++ ':' :: D) = some (postProcess n u (some V) (some D)) := by
  unfold contTime
  simp only [hline, take_consumed]
  have hsep' : sepOk (V.reverse ++ X.reverse) D = true := by simpa using hsep
  have hvt : ∃ tl, valueTime X.reverse (V ++ ':' :: D) = (some V, D) :: tl := by
    unfold valueTime
    rw [colonSplits_append, filterMap_append_none]
    · simp only [colonSplits, beq_self_eq_true, ↓reduceIte, List.cons_append, List.nil_append,
        List.map_cons, List.append_nil, List.filterMap_cons, hsep']
      exact ⟨_, rfl⟩
    · intro ⟨v1, r1⟩ hm
      obtain ⟨⟨v1', v2⟩, hm', he⟩ := List.mem_map.mp hm
      obtain ⟨rfl, rfl⟩ := Prod.mk.inj he
      have := timeLikeB_split V v1' v2 hV (colonSplits_mem V v1' v2 hm')
      simp only [sepOk_of_clockAhead _ _ (clockAhead_append v2 (':' :: D) this)]
      rfl
  obtain ⟨tl, htl⟩ := hvt
  simp only [htl]
  apply firstSome_head
  simp [descRest, firstSome]

theorem contTime_nocolon (line : Str) (n u : Option Str) (r : Str) (h : ∀ c ∈ r, c ≠ ':') :
    contTime line n (u, r) = none := by
  unfold contTime
  simp only [valueTime, colonSplits_nocolon r h]
  rfl

/-- on a line `P : D` where every colon of `P` is rejected by the look-ahead, `D` has no colon and the
delimiter colon fails the look-around, the clock-time continuation fails at every position -/
theorem contTime_unique_fail (line P D X r : Str) (n u : Option Str)
    (hline : line = P ++ ':' :: D) (hP : timeLikeB P = true) (hD : ∀ c ∈ D, c ≠ ':')
    (hsep : sepOk P.reverse D = false) (hX : line = X ++ r) :
    contTime line n (u, r) = none := by
  unfold contTime
  simp only [hX, take_consumed]
  have hvt : valueTime X.reverse r = [] := by
    unfold valueTime
    apply List.filterMap_eq_nil_iff.mpr
    intro ⟨v, r'⟩ hm
    have hr := colonSplits_mem r v r' hm
    have heq : P ++ ':' :: D = (X ++ v) ++ ':' :: r' := by
      rw [← hline, hX, hr]; simp
    have hdelim : X ++ v = P → r' = D → sepOk (v.reverse ++ X.reverse) r' = false := by
      intro h1 h2
      rw [← List.reverse_append, h1, h2]; exact hsep
    have hgoal : sepOk (v.reverse ++ X.reverse) r' = false := by
      rcases List.append_eq_append_iff.mp heq with ⟨a', hXa, hr'⟩ | ⟨c', hPc, hr'⟩
      · cases a' with
        | nil =>
          simp only [List.nil_append, List.cons.injEq, true_and] at hr'
          exact hdelim (by simpa using hXa) hr'.symm
        | cons a a'' =>
          simp only [List.cons_append, List.cons.injEq] at hr'
          exact absurd rfl (hD ':' (by rw [hr'.2]; simp))
      · cases c' with
        | nil =>
          simp only [List.nil_append, List.cons.injEq, true_and] at hr'
          exact hdelim (by simpa using hPc.symm) hr'
        | cons c c'' =>
          simp only [List.cons_append, List.cons.injEq] at hr'
          obtain ⟨hc, hr''⟩ := hr'
          subst hc
          have := timeLikeB_split P (X ++ v) c'' hP hPc
          rw [hr'']
          exact sepOk_of_clockAhead _ _ (clockAhead_append c'' _ this)
    simp only [hgoal]
    rfl
  rw [hvt]
  rfl

/-- the clock-time pattern on `A . cap V : D` when the delimiter colon passes the look-around -/
theorem matchPattern_time_ok (A cap V D : Str) (hA : NameOK A (cap ++ V ++ ':' :: D))
    (hcap : UnitCap cap (V ++ ':' :: D))
    (hV : ∀ c, V.head? = some c → isPySpace c = true)
    (hVt : timeLikeB V = true)
    (hD : V = [] → ∀ c ∈ D, c ≠ ':')
    (hsep : sepOk ((A ++ '.' :: (cap ++ V)).reverse) D = true) :
    matchPattern ⟨.dflt, .dflt, .time, .rest⟩ (A ++ '.' :: (cap ++ V ++ ':' :: D)) =
      some (postProcess (some A) (some cap) (some V) (some D)) := by
  rw [matchPattern_time_eq, firstSome_nameDefault_unit A _ hA (contTime _) (contTime_nocolon _)]
  apply unitDefault_stage_colon cap V D _ _ hcap hV
  · intro hVnil u d1 r hd
    apply contTime_nocolon
    intro c hc
    exact hD hVnil c (by rw [hd]; simp [hc])
  · apply contTime_ok _ (A ++ '.' :: cap) V D _ _ (by simp) hVt
    simpa using hsep

/-- the clock-time pattern fails on `A . R` when no colon of the line passes the look-around -/
theorem matchPattern_time_none (A R P D : Str) (hA : NameOK A R)
    (hline : A ++ '.' :: R = P ++ ':' :: D) (hP : timeLikeB P = true) (hD : ∀ c ∈ D, c ≠ ':')
    (hsep : sepOk P.reverse D = false) :
    matchPattern ⟨.dflt, .dflt, .time, .rest⟩ (A ++ '.' :: R) = none := by
  rw [matchPattern_time_eq, firstSome_nameDefault_unit A R hA (contTime _) (contTime_nocolon _)]
  apply firstSome_all_none
  intro ⟨u, r⟩ hur
  obtain ⟨X, hX⟩ := unitDefault_mem R u r hur
  exact contTime_unique_fail _ P D (A ++ '.' :: X) r _ _ hline hP hD hsep (by rw [hX]; simp)

theorem sepOk_blank (b3 b4 : Char) (x y : Str) (h3 : IsBlank b3) (h4 : IsBlank b4) :
    sepOk (b3 :: x) (b4 :: y) = true := by
  rw [sepOk_eq, clockBehind_blank b3 x h3, clockAhead_blank b4 y h4]
  rfl

/-- round trip on `A . unit V : D` in ~Parameter: either the clock-time pattern gives the fields, or it
fails and the default pattern gives them -/
theorem parse_layout_param_ok (A unit V D : Str)
    (hA : NameOK A (unit ++ V ++ ':' :: D)) (hAcolon : ∀ c ∈ A, c ≠ ':')
    (hu : ∀ c ∈ unit, isPySpace c = false) (hulast : unit.getLast? ≠ some '.')
    (hV : ∀ c, V.head? = some c → isPySpace c = true)
    (hVt : timeLikeB V = true)
    (hdig : unit ≠ [] → (∀ c ∈ unit, isAsciiDigit c = true) →
      ∀ b1 V', V = b1 :: V' → ∀ c, V'.head? = some c → isPySpace c = true)
    (hD1 : (∃ c ∈ D, c = ':') → V ≠ [])
    (hD2 : (∃ c ∈ D, c = ':') → unit ≠ [] → (∀ c ∈ unit, isAsciiDigit c = true) → 2 ≤ V.length)
    (hsep : ((∃ c ∈ D, c = ':') ∨ (∃ c ∈ unit, c = ':')) →
      sepOk ((A ++ '.' :: (unit ++ V)).reverse) D = true) :
    parseHeaderLine .parameter (A ++ '.' :: (unit ++ V ++ ':' :: D)) =
      some ⟨strip A, unit, strip V, strip D⟩ := by
  obtain ⟨cap, V', happ, hcap, hs1, hs2, hV', hsub, hnil⟩ := unitCap_layout unit V D hu hV hdig
  have hline : A ++ '.' :: (unit ++ V ++ ':' :: D) = A ++ '.' :: (cap ++ V' ++ ':' :: D) := by
    rw [happ]
  have hcfg := configurePatterns_parameter (A ++ '.' :: (cap ++ V' ++ ':' :: D)) (by simp)
    (period_before_colon A _ hAcolon)
  have hpost := postProcess_eq A cap V' D unit V hs1 hs2 hulast
  have hA' : NameOK A (cap ++ V' ++ ':' :: D) := by rw [happ]; exact hA
  have hV't : timeLikeB V' = true := by
    rcases hsub with rfl | ⟨b1, rfl⟩
    · exact hVt
    · exact timeLikeB_tail b1 V' hVt
  rw [hline]
  unfold parseHeaderLine
  rw [hcfg]
  cases hs : sepOk ((A ++ '.' :: (unit ++ V)).reverse) D with
  | true =>
    apply firstSome_head
    rw [← hpost]
    apply matchPattern_time_ok A cap V' D hA' hcap hV' hV't
    · intro hV'nil c hc heq
      obtain ⟨hlen, hd⟩ := hnil hV'nil
      have hex : ∃ c ∈ D, c = ':' := ⟨c, hc, heq⟩
      have hVne := hD1 hex
      obtain ⟨hune, hdg⟩ := hd hVne
      have := hD2 hex hune hdg
      omega
    · rw [happ]; exact hs
  | false =>
    have hDc : ∀ c ∈ D, c ≠ ':' := by
      intro c hc heq
      rw [hsep (Or.inl ⟨c, hc, heq⟩)] at hs; exact absurd hs (by simp)
    have huc : ∀ c ∈ unit, c ≠ ':' := by
      intro c hc heq
      rw [hsep (Or.inr ⟨c, hc, heq⟩)] at hs; exact absurd hs (by simp)
    have hP : timeLikeB (A ++ '.' :: (unit ++ V)) = true := by
      have : A ++ '.' :: (unit ++ V) = (A ++ '.' :: unit) ++ V := by simp
      rw [this]
      apply timeLikeB_append_left _ _ _ hVt
      intro c hc
      rcases List.mem_append.mp hc with h | h
      · exact hAcolon c h
      · rcases List.mem_cons.mp h with rfl | h
        · decide
        · exact huc c h
    have hnone := matchPattern_time_none A (cap ++ V' ++ ':' :: D) (A ++ '.' :: (unit ++ V)) D
      hA' (by rw [happ]; simp) hP hDc hs
    rw [firstSome_cons_none _ _ (fun p => matchPattern p _) hnone, firstSome_singleton, ← hpost]
    exact matchPattern_default_ok A cap V' D hA' hcap hV' hDc

/-- a delimiter colon set off by a blank on both sides passes the clock-time look-around -/
theorem sepOk_blank_pads (X p3 p4 Y : Str) (h3 : p3 ≠ []) (h4 : p4 ≠ [])
    (hb3 : ∀ c ∈ p3, IsBlank c) (hb4 : ∀ c ∈ p4, IsBlank c) :
    sepOk ((X ++ p3).reverse) (p4 ++ Y) = true := by
  rw [List.reverse_append]
  cases hr : p3.reverse with
  | nil => exact absurd (by simpa using hr) h3
  | cons b r =>
    cases p4 with
    | nil => exact absurd rfl h4
    | cons b' p4 =>
      have hb : IsBlank b := hb3 b (by
        have : b ∈ p3.reverse := by rw [hr]; simp
        simpa using this)
      exact sepOk_blank b b' _ _ hb (hb4 b' (by simp))

theorem isAsciiDigit_ne_dot (c : Char) (h : isAsciiDigit c = true) : c ≠ '.' := by
  rintro rfl
  exact absurd h (by decide)

/-- outside ~Parameter: `A . digits ␣ suffix V : D` keeps the unit `digits ␣ suffix` -/
theorem parse_numeric_unit_ok (sec : SecName) (hsec : sec ≠ .parameter) (A ds : Str) (b : Char)
    (sfx V D : Str)
    (hA : A ≠ []) (hAdot : ∀ c ∈ A, c ≠ '.') (hAcolon : ∀ c ∈ A, c ≠ ':')
    (hds : ds ≠ []) (hdd : ∀ c ∈ ds, isAsciiDigit c = true) (hb : isPySpace b = true)
    (hsfx_ne : sfx ≠ []) (hsfx : ∀ c ∈ sfx, isPySpace c = false)
    (hsfx_last : sfx.getLast? ≠ some '.')
    (hV : ∀ c, V.head? = some c → isPySpace c = true)
    (hD : ∀ c ∈ D, c ≠ ':')
    (hcurves : sec = .curves → findDotDot sfx = none ∧ findDotDot V = none) :
    parseHeaderLine sec (A ++ '.' :: ((ds ++ b :: sfx) ++ V ++ ':' :: D)) =
      some ⟨strip A, ds ++ b :: sfx, strip V, strip D⟩ := by
  have hcap : UnitCap (ds ++ b :: sfx) (V ++ ':' :: D) :=
    Or.inr ⟨ds, b, sfx, rfl, hds, hdd, hb, hsfx⟩
  have hlast : (ds ++ b :: sfx).getLast? = sfx.getLast? := by
    rw [List.append_cons]
    exact getLast?_append_ne _ _ hsfx_ne
  have hhead : ∀ c, (ds ++ b :: sfx).head? = some c → isAsciiDigit c = true := by
    intro c hc
    cases ds with
    | nil => exact absurd rfl hds
    | cons d ds =>
      have : c = d := by simpa using hc.symm
      subst this; exact hdd c (by simp)
  have hstrip : strip (ds ++ b :: sfx) = ds ++ b :: sfx := by
    apply strip_eq_self
    · intro c hc; exact isAsciiDigit_not_space c (hhead c hc)
    · intro c hc; rw [hlast] at hc; exact hsfx c (List.mem_of_getLast? hc)
  have hulast : (ds ++ b :: sfx).getLast? ≠ some '.' := by rw [hlast]; exact hsfx_last
  rw [parse_default_ok sec hsec A (ds ++ b :: sfx) V D (Or.inl ⟨hA, hAdot⟩) hAcolon hcap hV hD ?_,
    postProcess_eq A _ V D _ V hstrip rfl hulast]
  intro hcv
  obtain ⟨h1, h2⟩ := hcurves hcv
  have hbdot : b ≠ '.' := by rintro rfl; exact absurd hb (by decide)
  apply findDotDot_prefix_none A _ V hAdot _ _ _ h2
  · intro h
    exact isAsciiDigit_ne_dot _ (hhead _ h) rfl
  · apply findDotDot_append_none _ _ (findDotDot_nodot ds (fun c h => isAsciiDigit_ne_dot c (hdd c h)))
    · rw [findDotDot_cons, h1]; simp [hbdot]
    · intro h
      exact isAsciiDigit_ne_dot _ (hdd _ (List.mem_of_getLast? h.1)) rfl
  · intro h
    exact absurd (hV '.' h) (by decide)

theorem configurePatterns_missing (line : Str) (sec : SecName)
    (hcolon : ':' ∈ line) (hnodot : '.' ∉ line.takeWhile (· != ':'))
    (hcurves : sec = .curves → ∀ dd dc, findDotDot line = some dd → rfindColon line = some dc →
      ¬ dd < dc) :
    configurePatterns line sec =
      (if sec == .parameter then [⟨.missingPeriod, .none, .all, .none⟩] else []) ++
        [⟨.missingPeriod, .none, .all, .none⟩] := by
  have h1 : line.contains ':' = true := List.contains_iff_mem.mpr hcolon
  have h2 : (line.takeWhile (· != ':')).contains '.' = false := by
    cases h : (line.takeWhile (· != ':')).contains '.' with
    | false => rfl
    | true => exact absurd (List.contains_iff_mem.mp h) hnodot
  unfold configurePatterns
  simp only [h1, h2, Bool.not_true, Bool.not_false, Bool.and_true, Bool.false_eq_true, ↓reduceIte]
  generalize hN : (if (hasNonBlankDotDot line && sec == SecName.curves) = true then _ else _ : NameK)
    = N
  have hname : N = NameK.missingPeriod := by
    rw [← hN]
    split
    · rename_i hc
      have hcv : sec = .curves := by
        rw [Bool.and_eq_true] at hc; simpa using hc.2
      split
      · rename_i dd dc hdd hdc
        rw [if_neg (hcurves hcv dd dc hdd hdc)]
      · rfl
    · rfl
  rw [hname]

theorem matchPattern_missing_ok (name value : Str) (hn : ∀ c ∈ name, c ≠ ':') :
    matchPattern ⟨.missingPeriod, .none, .all, .none⟩ (name ++ ':' :: value) =
      some ⟨strip name, [], strip value, []⟩ := by
  obtain ⟨tl, htl⟩ := shrinks_head value []
  simp only [matchPattern, nameFrag, unitFrag, valueFrag, descFrag, nameMissingPeriod,
    splitFirst_append ':' name value hn, fragNone, valueAll, htl, List.map_cons, firstSome]
  simp [postProcess, grp]

/-- `NAME : VALUE` in any section (in ~Curves the first ".." must not come before the last colon) -/
theorem parse_missing_ok (sec : SecName) (name value : Str)
    (hn : ∀ c ∈ name, c ≠ '.' ∧ c ≠ ':')
    (hcurves : sec = .curves → findDotDot value = none ∨ ∀ c ∈ value, c ≠ ':') :
    parseHeaderLine sec (name ++ ':' :: value) = some ⟨strip name, [], strip value, []⟩ := by
  have hcfg := configurePatterns_missing (name ++ ':' :: value) sec (by simp)
    (by
      rw [(takeWhile_append_stop (p := (· != ':')) name ':' value
        (by intro x hx; simpa using (hn x hx).2) (by simp)).1]
      exact fun h => (hn '.' h).1 rfl)
    (by
      intro hcv dd dc hdd hdc
      have hname : findDotDot name = none := findDotDot_nodot name (fun c h => (hn c h).1)
      rcases hcurves hcv with hv | hv
      · rw [findDotDot_append_shift name _ hname (by simp), findDotDot_cons, hv] at hdd
        simp at hdd
      · rw [rfindColon_last name value hv] at hdc
        have := findDotDot_after_colon name value hname dd hdd
        have : name.length = dc := by simpa using hdc
        omega)
  have hm := matchPattern_missing_ok name value (fun c h => (hn c h).2)
  unfold parseHeaderLine
  rw [hcfg]
  split
  · exact firstSome_head _ _ _ _ hm
  · rw [List.nil_append, firstSome_singleton]; exact hm

theorem isAsciiDigit_ne_colon (c : Char) (h : isAsciiDigit c = true) : c ≠ ':' := by
  rintro rfl
  exact absurd h (by decide)

theorem tens_ne_colon (c : Char) (h : ('0' ≤ c && c ≤ '5') = true) : c ≠ ':' := by
  rintro rfl
  exact absurd h (by decide)

/-- `HH:MM:SS` with `MM`, `SS` below 60 -/
theorem timeLikeB_hms (h1 h2 m1 m2 s1 s2 : Char)
    (hh1 : isAsciiDigit h1 = true) (hh2 : isAsciiDigit h2 = true)
    (hm1 : ('0' ≤ m1 && m1 ≤ '5') = true) (hm2 : isAsciiDigit m2 = true)
    (hs1 : ('0' ≤ s1 && s1 ≤ '5') = true) (hs2 : isAsciiDigit s2 = true) :
    timeLikeB [h1, h2, ':', m1, m2, ':', s1, s2] = true := by
  have e1 := isAsciiDigit_ne_colon h1 hh1
  have e2 := isAsciiDigit_ne_colon h2 hh2
  have e3 := tens_ne_colon m1 hm1
  have e4 := isAsciiDigit_ne_colon m2 hm2
  have e5 := tens_ne_colon s1 hs1
  have e6 := isAsciiDigit_ne_colon s2 hs2
  have c1 : clockAhead [m1, m2, ':', s1, s2] = true := by
    simp only [clockAhead, hm1, hm2, Bool.and_self, Bool.true_or]
  have c2 : clockAhead [s1, s2] = true := by
    simp only [clockAhead, hs1, hs2, Bool.and_self, Bool.true_or]
  simp [timeLikeB, e1, e2, e3, e4, e5, e6, c1, c2]

theorem stripChar_trailing (u : Str) (h1 : u.head? ≠ some '.') (h2 : u.getLast? ≠ some '.') :
    stripChar '.' (u ++ ['.']) = u := by
  cases u with
  | nil => rfl
  | cons c0 u0 =>
    have hc0 : c0 ≠ '.' := by simpa using h1
    unfold stripChar
    have hd : (c0 :: u0 ++ ['.']).dropWhile (· == '.') = c0 :: u0 ++ ['.'] := by simp [hc0]
    rw [hd]
    simp only [List.reverse_append, List.reverse_singleton, List.singleton_append,
      List.dropWhile_cons, beq_self_eq_true, ↓reduceIte]
    cases hr : (c0 :: u0).reverse with
    | nil => simp at hr
    | cons c r =>
      have hc : c ≠ '.' := by
        intro h
        apply h2
        rw [← List.head?_reverse, hr, h]; rfl
      simp only [List.dropWhile_cons, beq_iff_eq, hc, ↓reduceIte]
      rw [← hr]; simp

/-- outside ~Parameter: a unit written with a trailing period loses it -/
theorem parse_trailing_dot_ok (sec : SecName) (hsec : sec ≠ .parameter) (A unit V D : Str)
    (hA : A ≠ []) (hAdot : ∀ c ∈ A, c ≠ '.') (hAcolon : ∀ c ∈ A, c ≠ ':')
    (hu : ∀ c ∈ unit, isPySpace c = false)
    (hufirst : unit.head? ≠ some '.') (hulast : unit.getLast? ≠ some '.')
    (hV : ∀ c, V.head? = some c → isPySpace c = true)
    (hD : ∀ c ∈ D, c ≠ ':')
    (hcurves : sec = .curves → unit ≠ [] ∧ findDotDot unit = none ∧ findDotDot V = none) :
    parseHeaderLine sec (A ++ '.' :: ((unit ++ ['.']) ++ V ++ ':' :: D)) =
      some ⟨strip A, unit, strip V, strip D⟩ := by
  have hu' : ∀ c ∈ unit ++ ['.'], isPySpace c = false := by
    intro c hc
    rcases List.mem_append.mp hc with h | h
    · exact hu c h
    · have : c = '.' := by simpa using h
      subst this; decide
  have hcap : UnitCap (unit ++ ['.']) (V ++ ':' :: D) :=
    Or.inl ⟨hu', Or.inl ⟨'.', by simp, by decide⟩⟩
  rw [parse_default_ok sec hsec A (unit ++ ['.']) V D (Or.inl ⟨hA, hAdot⟩) hAcolon hcap hV hD ?_]
  · have hs : strip (unit ++ ['.']) = unit ++ ['.'] := strip_nospace _ hu'
    simp [postProcess, grp, hs, stripChar_trailing unit hufirst hulast]
  · intro hcv
    obtain ⟨h1, h2, h3⟩ := hcurves hcv
    apply findDotDot_prefix_none A _ V hAdot _ _ _ h3
    · rw [List.head?_append]
      cases hh : unit.head? with
      | none =>
        have : unit = [] := by simpa using hh
        exact absurd this h1
      | some c => rw [hh] at hufirst; simpa using hufirst
    · exact findDotDot_append_none unit ['.'] h2 (by simp [findDotDot]) (fun h => hulast h.1)
    · intro h
      exact absurd (hV '.' h) (by decide)

end Lasio
