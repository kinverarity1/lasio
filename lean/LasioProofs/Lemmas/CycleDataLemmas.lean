import LasioProofs.Props.C01
/-
The DATA half of the load/save cycle (C11Data, and the whole-file and end-to-end files above it).

`rows` is the matrix of binary64 samples `write` prints; `Rt.tokenRows c null rows` the matrix of written tokens.  The reader turns
a token into a canonical float text through the float table `ft` (Python's `float()`), replaces a float `==` the header NULL `nv`
by NaN outside column 0 (strict NULL policy), and `val : Str → Option Dw.F64` says which binary64 a canonical float text denotes.
`reRows` is the matrix read back (cycle 1); writing it again gives `Rt.tokenRows c null (reRows … rows)` (cycle 2).
-/
namespace Lasio.Cd
open Lasio

/-! ## definitions -/

/-- what the reader makes of the token `tok` standing in column `j`: its float text, NULL → NaN outside the index column -/
def readTxt (ft : Dt.FloatTable) (nv : Str) (j : Nat) (tok : Str) : Option Str :=
  (Dt.toFloat ft tok).map fun v => if j != 0 && Dt.feq v nv then Dt.nanTxt else v

/-- the binary64 read back for the token `tok` of column `j` (NaN when the token is no number or its text denotes no binary64:
excluded by the hypotheses of every theorem) -/
def reTok (ft : Dt.FloatTable) (val : Str → Option Dw.F64) (nv : Str) (j : Nat) (tok : Str) : Dw.F64 :=
  ((readTxt ft nv j tok).bind val).getD .nan

/-- one sample through write -> read -/
def reCell (ft : Dt.FloatTable) (val : Str → Option Dw.F64) (null nv : Str) (c : Dw.RowCfg) (j : Nat) (x : Dw.F64) : Dw.F64 :=
  reTok ft val nv j (Dw.cellToken null (c.colFmt j) x)

def reRowFrom (ft : Dt.FloatTable) (val : Str → Option Dw.F64) (null nv : Str) (c : Dw.RowCfg) : Nat → List Dw.F64 → List Dw.F64
  | _, [] => []
  | j, x :: xs => reCell ft val null nv c j x :: reRowFrom ft val null nv c (j + 1) xs

/-- **the re-read matrix**: every sample printed with the format of its column, read by `float()`, NULL-ed, and taken as the
binary64 its float text denotes -/
def reRows (ft : Dt.FloatTable) (val : Str → Option Dw.F64) (null nv : Str) (c : Dw.RowCfg) (rows : List (List Dw.F64)) :
    List (List Dw.F64) :=
  rows.map (reRowFrom ft val null nv c 0)

/-- **`y` is a binary64 that `float()` may return for the `%.Nf` token of `x`**: `x` itself, or a finite value of the same sign
strictly within half a unit of the last printed digit of the printed decimal (the hypothesis of `C01_fmt_stable` /
`C11_fmt_stable`); `inf` ↦ `inf`, `-inf` ↦ `-inf`.  Correctly rounded `strtod` returns the binary64 NEAREST to the decimal, and
`x` lies within half a unit of it (`C01_value`): so the result is `x`, or strictly closer than `x`. -/
def Near (N : Nat) (x y : Dw.F64) : Prop :=
  match x with
  | .finite neg m e => y = x ∨ ∃ m' e', y = .finite neg m' e' ∧
      2 * ((Dw.fixedUnits N m e : Int) * 2 ^ (-e').toNat - m' * 2 ^ e'.toNat * 10 ^ N).natAbs < 2 ^ (-e').toNat
  | .inf neg => y = .inf neg
  | .nan => y = .nan

/-- what is asked of the NULL: its text converts to the header NULL value `nv`, `nv == nv`, and the text `nan` denotes NaN -/
structure ReadOK (ft : Dt.FloatTable) (val : Str → Option Dw.F64) (null nv : Str) : Prop where
  null_val : Dt.toFloat ft null = some nv
  null_num : Dt.feq nv nv = true
  nan_val : val Dt.nanTxt = some .nan

/-- **the strtod assumption, on the cells of the matrix**: the token of every sample that is not NaN converts, and the binary64
its float text denotes is `Near` the sample -/
def StrtodClose (ft : Dt.FloatTable) (val : Str → Option Dw.F64) (c : Dw.RowCfg) (rows : List (List Dw.F64)) : Prop :=
  ∀ row ∈ rows, ∀ j x, row[j]? = some x → Dw.F64.isNaN x = false →
    ∃ v y, Dt.toFloat ft (Dw.fmtFixed (c.colFmt j).prec x) = some v ∧ val v = some y ∧ Near (c.colFmt j).prec x y

/-- the header NULL is a number that the format `f` prints exactly as the NULL text -/
def NullExact (val : Str → Option Dw.F64) (nv null : Str) (f : Dw.Fmt) : Prop :=
  ∃ y, val nv = some y ∧ Dw.F64.isNaN y = false ∧ Dw.fmtFixed f.prec y = null

def IndexNaNFree (rows : List (List Dw.F64)) : Prop := ∀ row ∈ rows, ∀ x, row[0]? = some x → Dw.F64.isNaN x = false

/-- a NaN in the index column is harmless: there is none, or the index format prints the NULL exactly -/
def IndexOK (val : Str → Option Dw.F64) (nv null : Str) (c : Dw.RowCfg) (rows : List (List Dw.F64)) : Prop :=
  IndexNaNFree rows ∨ NullExact val nv null (c.colFmt 0)

/-! ## one sample -/

theorem near_reprint (N : Nat) (x y : Dw.F64) (hx : x.isNaN = false) (h : Near N x y) :
    y.isNaN = false ∧ Dw.fmtFixed N y = Dw.fmtFixed N x := by
  cases x with
  | nan => cases hx
  | inf neg =>
    simp only [Near] at h
    subst h
    exact ⟨rfl, rfl⟩
  | finite neg m e =>
    simp only [Near] at h
    rcases h with rfl | ⟨m', e', rfl, hlt⟩
    · exact ⟨rfl, rfl⟩
    · exact ⟨rfl, Dw.C01_fmt_stable N neg m' e' (Dw.fixedUnits N m e) hlt⟩

theorem cellToken_nan (null : Str) (f : Dw.Fmt) (x : Dw.F64) (h : x.isNaN = true) : Dw.cellToken null f x = null := by
  simp [Dw.cellToken, h]

theorem cellToken_num (null : Str) (f : Dw.Fmt) (x : Dw.F64) (h : x.isNaN = false) :
    Dw.cellToken null f x = Dw.fmtFixed f.prec x := by
  simp [Dw.cellToken, h]

theorem reTok_null {ft : Dt.FloatTable} {val : Str → Option Dw.F64} {null nv : Str} (hr : ReadOK ft val null nv) (j : Nat)
    (hj : j ≠ 0) : reTok ft val nv j null = .nan := by
  have : (j != 0) = true := by simpa using hj
  simp [reTok, readTxt, hr.null_val, hr.null_num, hr.nan_val, this]

theorem reTok_null_index {ft : Dt.FloatTable} {val : Str → Option Dw.F64} {null nv : Str} (hr : ReadOK ft val null nv) :
    reTok ft val nv 0 null = (val nv).getD .nan := by
  simp [reTok, readTxt, hr.null_val]

/-- **The four ways of a sample through write -> read.**  `y` the sample read back:
(same) it is NaN iff `x` was and prints to the same token;
(index NaN) `x` is a NaN of the index column: `y` is the number NULL, which the index format prints as the NULL text;
(clash) `x` is no NaN, stands outside the index column, and its token reads as a float `==` NULL: `y` is NaN. -/
theorem reCell_cases {ft : Dt.FloatTable} {val : Str → Option Dw.F64} {null nv : Str} {c : Dw.RowCfg}
    {rows : List (List Dw.F64)} (hr : ReadOK ft val null nv) (hs : StrtodClose ft val c rows)
    (row : List Dw.F64) (hrow : row ∈ rows) (j : Nat) (x : Dw.F64) (hx : row[j]? = some x)
    (hi : j = 0 → x.isNaN = true → NullExact val nv null (c.colFmt 0)) :
    ((reCell ft val null nv c j x).isNaN = x.isNaN ∧
      Dw.cellToken null (c.colFmt j) (reCell ft val null nv c j x) = Dw.cellToken null (c.colFmt j) x) ∨
    (j = 0 ∧ x.isNaN = true ∧ (reCell ft val null nv c j x).isNaN = false ∧
      Dw.fmtFixed (c.colFmt j).prec (reCell ft val null nv c j x) = null) ∨
    (j ≠ 0 ∧ x.isNaN = false ∧ reCell ft val null nv c j x = .nan ∧
      ∃ v, Dt.toFloat ft (Dw.fmtFixed (c.colFmt j).prec x) = some v ∧ Dt.feq v nv = true) := by
  cases hnan : x.isNaN with
  | true =>
    by_cases hj : j = 0
    · subst hj
      right; left
      obtain ⟨y, hy, hyn, hyf⟩ := hi rfl hnan
      have e : reCell ft val null nv c 0 x = y := by
        unfold reCell
        rw [cellToken_nan null _ x hnan, reTok_null_index hr, hy]; rfl
      rw [e]
      exact ⟨rfl, rfl, hyn, hyf⟩
    · left
      have e : reCell ft val null nv c j x = .nan := by
        unfold reCell
        rw [cellToken_nan null _ x hnan, reTok_null hr j hj]
      rw [e]
      exact ⟨rfl, by rw [cellToken_nan null _ x hnan]; rfl⟩
  | false =>
    obtain ⟨v, y, hv, hy, hnear⟩ := hs row hrow j x hx hnan
    obtain ⟨hyn, hyf⟩ := near_reprint _ x y hnan hnear
    by_cases hcl : (j != 0 && Dt.feq v nv) = true
    · right; right
      simp only [Bool.and_eq_true, bne_iff_ne, ne_eq] at hcl
      refine ⟨hcl.1, rfl, ?_, v, hv, hcl.2⟩
      have : (j != 0) = true := by simpa using hcl.1
      simp [reCell, reTok, readTxt, cellToken_num null _ x hnan, hv, hcl.2, this, hr.nan_val]
    · left
      have hcl' : (j != 0 && Dt.feq v nv) = false := by simpa using hcl
      have e : reCell ft val null nv c j x = y := by
        simp only [reCell, reTok, readTxt, cellToken_num null _ x hnan, hv, Option.map_some, hcl', Bool.false_eq_true,
          if_false, Option.bind_some, hy, Option.getD_some]
      rw [e, hyn, cellToken_num null _ y hyn, cellToken_num null _ x hnan, hyf]
      exact ⟨rfl, rfl⟩

theorem IndexOK.at {val : Str → Option Dw.F64} {nv null : Str} {c : Dw.RowCfg} {rows : List (List Dw.F64)}
    (hi : IndexOK val nv null c rows) (row : List Dw.F64) (hrow : row ∈ rows) (j : Nat) (x : Dw.F64) (hx : row[j]? = some x) :
    j = 0 → x.isNaN = true → NullExact val nv null (c.colFmt 0) := by
  intro hj hn
  subst hj
  rcases hi with hfree | h
  · have := hfree row hrow x hx
    rw [hn] at this; cases this
  · exact h

/-- **token level, one sample**: under `NoNullClash` the sample read back prints to the same token -/
theorem reCell_token {ft : Dt.FloatTable} {val : Str → Option Dw.F64} {null nv : Str} {c : Dw.RowCfg}
    {rows : List (List Dw.F64)} (hr : ReadOK ft val null nv) (hs : StrtodClose ft val c rows)
    (hc : Rt.NoNullClash ft nv c rows)
    (row : List Dw.F64) (hrow : row ∈ rows) (j : Nat) (x : Dw.F64) (hx : row[j]? = some x)
    (hi : j = 0 → x.isNaN = true → NullExact val nv null (c.colFmt 0)) :
    Dw.cellToken null (c.colFmt j) (reCell ft val null nv c j x) = Dw.cellToken null (c.colFmt j) x := by
  rcases reCell_cases hr hs row hrow j x hx hi with ⟨_, h⟩ | ⟨_, hn, hyn, hyf⟩ | ⟨hj, hn, _, v, hv, hf⟩
  · exact h
  · rw [cellToken_num null _ _ hyn, hyf, cellToken_nan null _ x hn]
  · have := hc row hrow j x hj hx hn v hv
    rw [hf] at this; cases this

/-- **re-read level, one sample** (no `NoNullClash` needed): reading the re-printed sample gives the sample again -/
theorem reCell_idem {ft : Dt.FloatTable} {val : Str → Option Dw.F64} {null nv : Str} {c : Dw.RowCfg}
    {rows : List (List Dw.F64)} (hr : ReadOK ft val null nv) (hs : StrtodClose ft val c rows)
    (row : List Dw.F64) (hrow : row ∈ rows) (j : Nat) (x : Dw.F64) (hx : row[j]? = some x)
    (hi : j = 0 → x.isNaN = true → NullExact val nv null (c.colFmt 0)) :
    reCell ft val null nv c j (reCell ft val null nv c j x) = reCell ft val null nv c j x := by
  rcases reCell_cases hr hs row hrow j x hx hi with ⟨_, h⟩ | ⟨_, hn, hyn, hyf⟩ | ⟨hj, _, hy, _⟩
  · show reTok ft val nv j (Dw.cellToken null (c.colFmt j) (reCell ft val null nv c j x)) = _
    rw [h]; rfl
  · show reTok ft val nv j (Dw.cellToken null (c.colFmt j) (reCell ft val null nv c j x)) = _
    rw [cellToken_num null _ _ hyn, hyf]
    unfold reCell
    rw [cellToken_nan null _ x hn]
  · rw [hy]
    unfold reCell
    rw [cellToken_nan null _ .nan rfl, reTok_null hr j hj]

/-- the text of a cell (before justification) is determined by the NaN flag and the token -/
theorem cellValue_congr (null : Str) (f : Dw.Fmt) (x y : Dw.F64) (h1 : y.isNaN = x.isNaN)
    (h2 : Dw.cellToken null f y = Dw.cellToken null f x) : Dw.cellValue null f y = Dw.cellValue null f x := by
  cases hx : x.isNaN with
  | true =>
    rw [hx] at h1
    simp [Dw.cellValue, hx, h1]
  | false =>
    rw [hx] at h1
    rw [cellToken_num null f y h1, cellToken_num null f x hx] at h2
    simp only [Dw.cellValue, hx, h1, Bool.false_eq_true, if_false, Dw.fmtApply, h2]

/-- **text level, one sample**: `NoNullClash`, and `x` no NaN of the index column: the same cell text -/
theorem reCell_value {ft : Dt.FloatTable} {val : Str → Option Dw.F64} {null nv : Str} {c : Dw.RowCfg}
    {rows : List (List Dw.F64)} (hr : ReadOK ft val null nv) (hs : StrtodClose ft val c rows) (hfree : IndexNaNFree rows)
    (hc : Rt.NoNullClash ft nv c rows)
    (row : List Dw.F64) (hrow : row ∈ rows) (j : Nat) (x : Dw.F64) (hx : row[j]? = some x) :
    Dw.cellValue null (c.colFmt j) (reCell ft val null nv c j x) = Dw.cellValue null (c.colFmt j) x := by
  rcases reCell_cases hr hs row hrow j x hx (IndexOK.at (Or.inl hfree) row hrow j x hx) with
    ⟨h1, h2⟩ | ⟨hj, hn, _, _⟩ | ⟨hj, hn, _, v, hv, hf⟩
  · exact cellValue_congr null _ x _ h1 h2
  · subst hj
    have := hfree row hrow x hx
    rw [hn] at this; cases this
  · have := hc row hrow j x hj hx hn v hv
    rw [hf] at this; cases this

/-! ## rows -/

theorem reRowFrom_length (ft : Dt.FloatTable) (val : Str → Option Dw.F64) (null nv : Str) (c : Dw.RowCfg) (j : Nat)
    (cells : List Dw.F64) : (reRowFrom ft val null nv c j cells).length = cells.length := by
  induction cells generalizing j with
  | nil => rfl
  | cons x xs ih => simp [reRowFrom, ih]

theorem reRowFrom_getElem? (ft : Dt.FloatTable) (val : Str → Option Dw.F64) (null nv : Str) (c : Dw.RowCfg) (j : Nat)
    (cells : List Dw.F64) (k : Nat) :
    (reRowFrom ft val null nv c j cells)[k]? = (cells[k]?).map (reCell ft val null nv c (j + k)) := by
  induction cells generalizing j k with
  | nil => simp [reRowFrom]
  | cons x xs ih =>
    cases k with
    | zero => simp [reRowFrom]
    | succ k =>
      simp only [reRowFrom, List.getElem?_cons_succ, ih (j + 1) k]
      rw [show j + 1 + k = j + (k + 1) by omega]

theorem shift_hyp {P : Nat → Dw.F64 → Prop} {j : Nat} {x : Dw.F64} {xs : List Dw.F64}
    (h : ∀ k y, (x :: xs)[k]? = some y → P (j + k) y) : ∀ k y, xs[k]? = some y → P (j + 1 + k) y := by
  intro k y hk
  have := h (k + 1) y (by simpa using hk)
  rwa [show j + (k + 1) = j + 1 + k by omega] at this

theorem rowTokensFrom_re (ft : Dt.FloatTable) (val : Str → Option Dw.F64) (null nv : Str) (c : Dw.RowCfg) (j : Nat)
    (cells : List Dw.F64)
    (h : ∀ k x, cells[k]? = some x →
      Dw.cellToken null (c.colFmt (j + k)) (reCell ft val null nv c (j + k) x) = Dw.cellToken null (c.colFmt (j + k)) x) :
    Dw.rowTokensFrom c null j (reRowFrom ft val null nv c j cells) = Dw.rowTokensFrom c null j cells := by
  induction cells generalizing j with
  | nil => rfl
  | cons x xs ih =>
    simp only [reRowFrom, Dw.rowTokensFrom]
    rw [show Dw.cellToken null (c.colFmt j) (reCell ft val null nv c j x) = Dw.cellToken null (c.colFmt j) x from
      h 0 x rfl, ih (j + 1) (shift_hyp (P := fun k y => Dw.cellToken null (c.colFmt k) (reCell ft val null nv c k y) =
        Dw.cellToken null (c.colFmt k) y) h)]

theorem dataRowFrom_re (ft : Dt.FloatTable) (val : Str → Option Dw.F64) (null nv : Str) (c : Dw.RowCfg) (j : Nat)
    (cells : List Dw.F64)
    (h : ∀ k x, cells[k]? = some x →
      Dw.cellValue null (c.colFmt (j + k)) (reCell ft val null nv c (j + k) x) = Dw.cellValue null (c.colFmt (j + k)) x) :
    Dw.dataRowFrom c null j (reRowFrom ft val null nv c j cells) = Dw.dataRowFrom c null j cells ∧
    Dw.colWidthsFrom c null j (reRowFrom ft val null nv c j cells) = Dw.colWidthsFrom c null j cells := by
  induction cells generalizing j with
  | nil => exact ⟨rfl, rfl⟩
  | cons x xs ih =>
    have h0 : Dw.cellValue null (c.colFmt j) (reCell ft val null nv c j x) = Dw.cellValue null (c.colFmt j) x := h 0 x rfl
    obtain ⟨i1, i2⟩ := ih (j + 1) (shift_hyp (P := fun k y => Dw.cellValue null (c.colFmt k) (reCell ft val null nv c k y) =
        Dw.cellValue null (c.colFmt k) y) h)
    simp only [reRowFrom, Dw.dataRowFrom, Dw.colWidthsFrom, Dw.formatCell, h0, i1, i2, and_self]

theorem reRowFrom_idem (ft : Dt.FloatTable) (val : Str → Option Dw.F64) (null nv : Str) (c : Dw.RowCfg) (j : Nat)
    (cells : List Dw.F64)
    (h : ∀ k x, cells[k]? = some x →
      reCell ft val null nv c (j + k) (reCell ft val null nv c (j + k) x) = reCell ft val null nv c (j + k) x) :
    reRowFrom ft val null nv c j (reRowFrom ft val null nv c j cells) = reRowFrom ft val null nv c j cells := by
  induction cells generalizing j with
  | nil => rfl
  | cons x xs ih =>
    simp only [reRowFrom]
    rw [show reCell ft val null nv c j (reCell ft val null nv c j x) = reCell ft val null nv c j x from h 0 x rfl,
      ih (j + 1) (shift_hyp (P := fun k y => reCell ft val null nv c k (reCell ft val null nv c k y) =
        reCell ft val null nv c k y) h)]

/-! ## the matrix -/

theorem reRows_length (ft : Dt.FloatTable) (val : Str → Option Dw.F64) (null nv : Str) (c : Dw.RowCfg)
    (rows : List (List Dw.F64)) : (reRows ft val null nv c rows).length = rows.length := by
  simp [reRows]

theorem reRows_rect (ft : Dt.FloatTable) (val : Str → Option Dw.F64) (null nv : Str) (c : Dw.RowCfg)
    (rows : List (List Dw.F64)) (n : Nat) (h : ∀ r ∈ rows, r.length = n) : ∀ r ∈ reRows ft val null nv c rows, r.length = n := by
  intro r hr
  obtain ⟨r0, hr0, rfl⟩ := List.mem_map.mp hr
  rw [reRowFrom_length]; exact h r0 hr0

theorem reRows_ne (ft : Dt.FloatTable) (val : Str → Option Dw.F64) (null nv : Str) (c : Dw.RowCfg)
    (rows : List (List Dw.F64)) (h : rows ≠ []) : reRows ft val null nv c rows ≠ [] := by
  cases rows with
  | nil => exact absurd rfl h
  | cons r rs => simp [reRows]

theorem reRows_cell (ft : Dt.FloatTable) (val : Str → Option Dw.F64) (null nv : Str) (c : Dw.RowCfg)
    (rows : List (List Dw.F64)) (i j : Nat) (row : List Dw.F64) (x : Dw.F64) (hi : rows[i]? = some row)
    (hx : row[j]? = some x) :
    ∃ row1, (reRows ft val null nv c rows)[i]? = some row1 ∧ row1[j]? = some (reCell ft val null nv c j x) := by
  refine ⟨reRowFrom ft val null nv c 0 row, by simp [reRows, hi], ?_⟩
  rw [reRowFrom_getElem?, hx]; simp

/-- **token level**: the second output has the tokens of the first -/
theorem tokenRows_reRows {ft : Dt.FloatTable} {val : Str → Option Dw.F64} {null nv : Str} {c : Dw.RowCfg}
    {rows : List (List Dw.F64)} (hr : ReadOK ft val null nv) (hs : StrtodClose ft val c rows) (hi : IndexOK val nv null c rows)
    (hc : Rt.NoNullClash ft nv c rows) :
    Rt.tokenRows c null (reRows ft val null nv c rows) = Rt.tokenRows c null rows := by
  unfold Rt.tokenRows reRows
  rw [List.map_map]
  apply List.map_congr_left
  intro row hrow
  simp only [Function.comp, Dw.rowTokens]
  apply rowTokensFrom_re
  intro k x hk
  simp only [Nat.zero_add]
  exact reCell_token hr hs hc row hrow k x hk (hi.at row hrow k x hk)

/-- **re-read level**: reading the second output gives the first re-read again (no `NoNullClash` needed) -/
theorem reRows_idem {ft : Dt.FloatTable} {val : Str → Option Dw.F64} {null nv : Str} {c : Dw.RowCfg}
    {rows : List (List Dw.F64)} (hr : ReadOK ft val null nv) (hs : StrtodClose ft val c rows) (hi : IndexOK val nv null c rows) :
    reRows ft val null nv c (reRows ft val null nv c rows) = reRows ft val null nv c rows := by
  unfold reRows
  rw [List.map_map]
  apply List.map_congr_left
  intro row hrow
  simp only [Function.comp]
  apply reRowFrom_idem
  intro k x hk
  simp only [Nat.zero_add]
  exact reCell_idem hr hs row hrow k x hk (hi.at row hrow k x hk)

def iter {α} (f : α → α) : Nat → α → α
  | 0, x => x
  | k + 1, x => iter f k (f x)

theorem iter_idem {α} (f : α → α) (x : α) (h : f (f x) = f x) : ∀ k, iter f (k + 1) x = f x := by
  intro k
  induction k generalizing x with
  | zero => rfl
  | succ k ih =>
    show iter f (k + 1) (f x) = f x
    rw [ih (f x) (congrArg f h), h]

/-- **text level**: with `NoNullClash` and no NaN in the index column every row is laid out as the same text -/
theorem dataRow_reRows {ft : Dt.FloatTable} {val : Str → Option Dw.F64} {null nv : Str} {c : Dw.RowCfg}
    {rows : List (List Dw.F64)} (hr : ReadOK ft val null nv) (hs : StrtodClose ft val c rows) (hfree : IndexNaNFree rows)
    (hc : Rt.NoNullClash ft nv c rows) (row : List Dw.F64) (hrow : row ∈ rows) :
    Dw.dataRow c null (reRowFrom ft val null nv c 0 row) = Dw.dataRow c null row ∧
    Dw.colWidthsFrom c null 0 (reRowFrom ft val null nv c 0 row) = Dw.colWidthsFrom c null 0 row := by
  unfold Dw.dataRow
  apply dataRowFrom_re
  intro k x hk
  simp only [Nat.zero_add]
  exact reCell_value hr hs hfree hc row hrow k x hk

theorem dwBodyLines_congr (c : Dw.RowCfg) (null : Str) (wrap : Bool) (dw : Nat) (g : List Dw.F64 → List Dw.F64)
    (rows : List (List Dw.F64)) (h : ∀ r ∈ rows, Dw.dataRow c null (g r) = Dw.dataRow c null r) :
    Dw.dwBodyLines c null wrap dw (rows.map g) = Dw.dwBodyLines c null wrap dw rows := by
  induction rows with
  | nil => rfl
  | cons r rs ih =>
    simp only [List.map_cons, Dw.dwBodyLines, h r (by simp), ih (fun x hx => h x (by simp [hx]))]

/-- **the written data section is a fixed point** (text): `write` on the re-read matrix emits the same lines -/
theorem dataLines_reRows {ft : Dt.FloatTable} {val : Str → Option Dw.F64} {null nv : Str} {c : Dw.RowCfg}
    {rows : List (List Dw.F64)} (cfg : Dw.DataCfg) (mn : List Str) (hcfg : cfg.rowCfg = some c)
    (hr : ReadOK ft val null nv) (hs : StrtodClose ft val c rows) (hfree : IndexNaNFree rows)
    (hc : Rt.NoNullClash ft nv c rows) :
    Dw.dataLines cfg null mn (reRows ft val null nv c rows) = Dw.dataLines cfg null mn rows := by
  have hb : Dw.dwBodyLines c null cfg.wrap cfg.dataWidth (reRows ft val null nv c rows) =
      Dw.dwBodyLines c null cfg.wrap cfg.dataWidth rows :=
    dwBodyLines_congr c null _ _ _ rows (fun r hrow => (dataRow_reRows hr hs hfree hc r hrow).1)
  have hh : Dw.dataHeaderLine c null cfg.mnemonicsHeader cfg.dataSectionHeader cfg.headerWidth mn
        (reRows ft val null nv c rows).head? =
      Dw.dataHeaderLine c null cfg.mnemonicsHeader cfg.dataSectionHeader cfg.headerWidth mn rows.head? := by
    cases rows with
    | nil => rfl
    | cons r rs =>
      simp only [reRows, List.map_cons, List.head?_cons, Dw.dataHeaderLine,
        (dataRow_reRows hr hs hfree hc r (by simp)).2]
  unfold Dw.dataLines
  rw [hcfg]
  simp only [hb, hh]

/-! ## the link with the reader model -/

theorem numeric_of {ft : Dt.FloatTable} {val : Str → Option Dw.F64} {null nv : Str} {c : Dw.RowCfg}
    {rows : List (List Dw.F64)} (hr : ReadOK ft val null nv) (hs : StrtodClose ft val c rows) :
    Dt.Numeric ft (Rt.tokenRows c null rows) := by
  intro r hr' t ht
  obtain ⟨row, hrow, rfl⟩ := List.mem_map.mp hr'
  obtain ⟨k, hk⟩ := List.getElem?_of_mem ht
  rw [Rt.rowTokens_getElem?] at hk
  cases hx : row[k]? with
  | none => rw [hx] at hk; cases hk
  | some x =>
    rw [hx] at hk
    simp only [Option.map_some, Option.some.injEq] at hk
    subst hk
    cases hnan : x.isNaN with
    | true => rw [cellToken_nan null _ x hnan, hr.null_val]; rfl
    | false =>
      obtain ⟨v, _, hv, _⟩ := hs row hrow k x hx hnan
      rw [cellToken_num null _ x hnan, hv]; rfl

/-- **cell (i, j) of what the strict reader returns for the written tokens** (`applyNull` of `matrixColumns`) is `readTxt` of the
token of sample (i, j); so the re-read matrix `reRows` holds, cell by cell, the binary64 denoted by the reader's float text -/
theorem floatCell_read (ft : Dt.FloatTable) (null nv : Str) (c : Dw.RowCfg) (rows : List (List Dw.F64)) (n : Nat)
    (hrect : ∀ r ∈ rows, r.length = n) (hnum : Dt.Numeric ft (Rt.tokenRows c null rows))
    (i j : Nat) (row : List Dw.F64) (x : Dw.F64) (hi : rows[i]? = some row) (hx : row[j]? = some x) :
    Dt.floatCell (Dt.applyNull true (some nv) (Dt.matrixColumns ft n (Rt.tokenRows c null rows))) j i =
      readTxt ft nv j (Dw.cellToken null (c.colFmt j) x) := by
  have hbase := Rt.floatCell_written ft null c rows n hrect hnum i j row x hi hx
  unfold readTxt
  by_cases hj : j = 0
  · subst hj
    rw [Rt.floatCell_applyNull_zero, hbase]
    cases Dt.toFloat ft (Dw.cellToken null (c.colFmt 0) x) <;> simp
  · rw [Rt.floatCell_applyNull_strict nv _ j i hj, hbase]
    have : (j != 0) = true := by simpa using hj
    simp [this]

/-! ## checking a hypothesis on every cell of a concrete matrix -/

def idxFrom : Nat → List Dw.F64 → List (Nat × Dw.F64)
  | _, [] => []
  | j, x :: xs => (j, x) :: idxFrom (j + 1) xs

/-- the cells of a matrix with their column numbers -/
def cellsOf (rows : List (List Dw.F64)) : List (Nat × Dw.F64) := rows.flatMap (idxFrom 0)

theorem mem_idxFrom (j : Nat) (xs : List Dw.F64) (k : Nat) (x : Dw.F64) (h : xs[k]? = some x) : (j + k, x) ∈ idxFrom j xs := by
  induction xs generalizing j k with
  | nil => simp at h
  | cons y ys ih =>
    cases k with
    | zero =>
      simp only [List.getElem?_cons_zero, Option.some.injEq] at h
      subst h
      simp [idxFrom]
    | succ k =>
      simp only [List.getElem?_cons_succ] at h
      have := ih (j + 1) k h
      rw [show j + 1 + k = j + (k + 1) by omega] at this
      simp [idxFrom, this]

theorem mem_cellsOf (rows : List (List Dw.F64)) (row : List Dw.F64) (hrow : row ∈ rows) (j : Nat) (x : Dw.F64)
    (hx : row[j]? = some x) : (j, x) ∈ cellsOf rows := by
  unfold cellsOf
  apply List.mem_flatMap.mpr
  refine ⟨row, hrow, ?_⟩
  have := mem_idxFrom 0 row j x hx
  simpa using this

/-- `Near N x y` as a test: the witnesses are the fields of `y` -/
def nearB (N : Nat) (x y : Dw.F64) : Bool :=
  match x, y with
  | .finite neg m e, .finite neg' m' e' => (neg' == neg && m' == m && e' == e) || (neg' == neg &&
      decide (2 * ((Dw.fixedUnits N m e : Int) * 2 ^ (-e').toNat - m' * 2 ^ e'.toNat * 10 ^ N).natAbs < 2 ^ (-e').toNat))
  | .inf neg, .inf neg' => neg' == neg
  | .nan, .nan => true
  | _, _ => false

theorem near_of_nearB (N : Nat) (x y : Dw.F64) (h : nearB N x y = true) : Near N x y := by
  cases x <;> cases y <;> simp only [nearB, Bool.false_eq_true, Bool.or_eq_true, Bool.and_eq_true, beq_iff_eq,
    decide_eq_true_eq] at h
  · rcases h with ⟨⟨rfl, rfl⟩, rfl⟩ | ⟨rfl, hlt⟩
    · exact Or.inl rfl
    · exact Or.inr ⟨_, _, rfl, hlt⟩
  · rfl
  · rw [h]; rfl

theorem indexNaNFree_of_check (rows : List (List Dw.F64))
    (h : (cellsOf rows).all (fun p => p.1 != 0 || !p.2.isNaN) = true) : IndexNaNFree rows := by
  intro row hrow x hx
  simpa using List.all_eq_true.mp h _ (mem_cellsOf rows row hrow 0 x hx)

theorem strtodClose_of_check (ft : Dt.FloatTable) (val : Str → Option Dw.F64) (c : Dw.RowCfg) (rows : List (List Dw.F64))
    (h : (cellsOf rows).all (fun p => p.2.isNaN ||
      ((Dt.toFloat ft (Dw.fmtFixed (c.colFmt p.1).prec p.2)).bind val).any (nearB (c.colFmt p.1).prec p.2)) = true) :
    StrtodClose ft val c rows := by
  intro row hrow j x hx hnan
  have := List.all_eq_true.mp h _ (mem_cellsOf rows row hrow j x hx)
  simp only [hnan, Bool.false_or] at this
  cases hv : Dt.toFloat ft (Dw.fmtFixed (c.colFmt j).prec x) with
  | none => simp [hv] at this
  | some v =>
    cases hy : val v with
    | none => simp [hv, hy] at this
    | some y => exact ⟨v, y, rfl, hy, near_of_nearB _ _ _ (by simpa [hv, hy] using this)⟩

end Lasio.Cd
