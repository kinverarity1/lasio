import LasioProofs.Lemmas.TransformWords
import LasioProofs.Props.C04
/-
C09, §9–§13: the line-by-line relation `Sim` between two documents (equivalent lines; blank and comment lines come and go
outside ~Other sections), its projection onto the document structure, and the whole-file theorem for `Sim`-related documents;
every line-level transformation produces a `Sim`-related document; re-wrapping a WRAP=YES data section; readable documents on
whose data sections the engines agree (`Base`) and the single steps on them; the layout of a header line (through C04).
-/
namespace Lasio.Tf
open Lasio Lasio.Dt

/-! ## §9 `Sim` -/

/-- where a line stands: before the first title, or inside the section opened by the title line `t` -/
inductive Ctx where
  | pre
  | sec (t : Str)
deriving DecidableEq

/-- lines a reader of the section cannot tell apart -/
def BodyEq (dlm : Dlm) : Ctx → Str → Str → Prop
  | .pre, _, _ => True
  | .sec t, a, b =>
    match kindOf t with
    | .items => ∀ (o : Rd.ReadOpts) (ver : Rd.VerVal) (p : Rd.Parser), Rd.mkParser (Rd.lineStrip t) ver = .ok p →
        Rd.lineRes o p a = Rd.lineRes o p b
    | .other => Rd.lineStrip a = Rd.lineStrip b
    | .data => DataEq dlm a b
    | .las3data => DataEq dlm a b

/-- blank and comment lines may be inserted everywhere but in a ~Other section (its text is content) -/
def Insertable : Ctx → Prop
  | .pre => True
  | .sec t => kindOf t ≠ .other

inductive Sim (dlm : Dlm) : Ctx → List Str → List Str → Prop
  | nil {c} : Sim dlm c [] []
  | title {c a b l l'} : Rd.isTitle a = true → strip a = strip b → Sim dlm (.sec a) l l' → Sim dlm c (a :: l) (b :: l')
  | line {c a b l l'} : Rd.isTitle a = false → Rd.isTitle b = false → BodyEq dlm c a b → Sim dlm c l l' → Sim dlm c (a :: l) (b :: l')
  | insL {c s l l'} : Insertable c → SkipLine s → Sim dlm c l l' → Sim dlm c (s :: l) l'
  | insR {c s l l'} : Insertable c → SkipLine s → Sim dlm c l l' → Sim dlm c l (s :: l')

/-- the same without title lines: the bodies of two sections -/
inductive BSim (dlm : Dlm) (c : Ctx) : List Str → List Str → Prop
  | nil : BSim dlm c [] []
  | line {a b l l'} : BodyEq dlm c a b → BSim dlm c l l' → BSim dlm c (a :: l) (b :: l')
  | insL {s l l'} : Insertable c → SkipLine s → BSim dlm c l l' → BSim dlm c (s :: l) l'
  | insR {s l l'} : Insertable c → SkipLine s → BSim dlm c l l' → BSim dlm c l (s :: l')

/-! ### blank / comment lines -/

theorem skip_strip {s : Str} (h : SkipLine s) : strip s = [] ∨ ∃ r, strip s = '#' :: r := by
  rcases h with h | ⟨pre, rest, hpre, rfl⟩
  · left; rw [← cleanLine_eq_strip]; exact cleanLine_blank s h
  · right
    obtain ⟨r, hr⟩ := cleanLine_comment pre rest hpre
    exact ⟨r, by rw [← cleanLine_eq_strip]; exact hr⟩

theorem skip_not_title {s : Str} (h : SkipLine s) : Rd.isTitle s = false := by
  rw [Rd.isTitle_eq]
  rcases skip_strip h with h | ⟨r, h⟩ <;> rw [h] <;> rfl

theorem skip_lineRes (o : Rd.ReadOpts) (p : Rd.Parser) {s : Str} (h : SkipLine s) : Rd.lineRes o p s = .skip := by
  unfold Rd.lineRes
  rw [Rd.lineStrip_eq_strip]
  rcases skip_strip h with h | ⟨r, h⟩ <;> rw [h] <;> simp

/-! ### projection onto the document structure -/

def SecSim (dlm : Dlm) (tb tb' : Str × List Str) : Prop :=
  strip tb.1 = strip tb'.1 ∧ BSim dlm (.sec tb.1) tb.2 tb'.2

theorem parse_title (a : Str) (l : List Str) (h : Rd.isTitle a = true) :
    parse (a :: l) = ([], (a, (parse l).1) :: (parse l).2) := by simp [parse, h]

theorem parse_line (a : Str) (l : List Str) (h : Rd.isTitle a = false) :
    parse (a :: l) = (a :: (parse l).1, (parse l).2) := by simp [parse, h]

theorem sim_parse (dlm : Dlm) {c : Ctx} {l l' : List Str} (h : Sim dlm c l l') :
    BSim dlm c (parse l).1 (parse l').1 ∧ Forall2 (SecSim dlm) (parse l).2 (parse l').2 := by
  induction h with
  | nil => exact ⟨.nil, .nil⟩
  | @title c a b l l' ha hs _ ih =>
    have hb : Rd.isTitle b = true := by rw [← isTitle_strip_congr hs]; exact ha
    rw [parse_title a l ha, parse_title b l' hb]
    exact ⟨.nil, .cons ⟨hs, ih.1⟩ ih.2⟩
  | @line c a b l l' ha hb he _ ih =>
    rw [parse_line a l ha, parse_line b l' hb]
    exact ⟨.line he ih.1, ih.2⟩
  | @insL c s l l' hi hs _ ih =>
    rw [parse_line s l (skip_not_title hs)]
    exact ⟨.insL hi hs ih.1, ih.2⟩
  | @insR c s l l' hi hs _ ih =>
    rw [parse_line s l' (skip_not_title hs)]
    exact ⟨.insR hi hs ih.1, ih.2⟩

/-! ### what `BSim` gives in each kind of section -/

/-- a line with the same `lineRes` in front of two bodies that run alike -/
theorem bodyRun_cons_congr (o : Rd.ReadOpts) (p : Rd.Parser) {x x' : Str} (hx : Rd.lineRes o p x = Rd.lineRes o p x')
    (ls ls' : List Str) (h : ∀ n n' l, Rd.bodyRun o p ls n = .ok l → Rd.bodyRun o p ls' n' = .ok l) :
    ∀ n n' l, Rd.bodyRun o p (x :: ls) n = .ok l → Rd.bodyRun o p (x' :: ls') n' = .ok l := by
  intro n n' l hl
  simp only [Rd.bodyRun] at hl ⊢
  rw [← hx]
  cases hr : Rd.lineRes o p x with
  | item it =>
    simp only [hr] at hl ⊢
    cases hb : Rd.bodyRun o p ls (n + 1) with
    | error e => simp [hb] at hl
    | ok r =>
      simp only [hb] at hl
      rw [h (n + 1) (n' + 1) r hb]
      exact hl
  | bad =>
    simp only [hr] at hl ⊢
    cases hi : o.ignoreHeaderErrors with
    | true => simp only [hi, if_true] at hl ⊢; exact h _ _ l hl
    | false => simp [hi] at hl
  | skip => simp only [hr] at hl ⊢; exact h _ _ l hl
  | title => simp only [hr] at hl ⊢; exact h _ _ l hl

theorem bsim_items (dlm : Dlm) {t : Str} (hk : kindOf t = .items) {b b' : List Str} (h : BSim dlm (.sec t) b b')
    (o : Rd.ReadOpts) (ver : Rd.VerVal) (p : Rd.Parser) (hp : Rd.mkParser (Rd.lineStrip t) ver = .ok p) :
    ∀ (n n' : Nat) (l : List Rd.RItem), Rd.bodyRun o p b n = .ok l → Rd.bodyRun o p b' n' = .ok l := by
  induction h with
  | nil => intro n n' l h; exact h
  | line he _ ih =>
    simp only [BodyEq, hk] at he
    exact bodyRun_cons_congr o p (he o ver p hp) _ _ ih
  | insL _ hs _ ih =>
    intro n n' l h
    simp only [Rd.bodyRun, skip_lineRes o p hs] at h
    exact ih _ _ l h
  | insR _ hs _ ih =>
    intro n n' l h
    simp only [Rd.bodyRun, skip_lineRes o p hs]
    exact ih _ _ l h

theorem bsim_other (dlm : Dlm) {t : Str} (hk : kindOf t = .other) {b b' : List Str} (h : BSim dlm (.sec t) b b') :
    b.map Rd.lineStrip = b'.map Rd.lineStrip := by
  induction h with
  | nil => rfl
  | line he _ ih =>
    simp only [BodyEq, hk] at he
    simp only [List.map_cons, he, ih]
  | insL hi _ _ _ => exact absurd hk hi
  | insR hi _ _ _ => exact absurd hk hi

theorem bsim_data (dlm : Dlm) {t : Str} (hk : isDataKind (kindOf t)) {b b' : List Str} (h : BSim dlm (.sec t) b b') :
    BodySim dlm b b' := by
  induction h with
  | nil => exact .nil
  | line he _ ih =>
    refine .line ?_ ih
    rcases hk with hk | hk <;> simp only [BodyEq, hk] at he <;> exact he
  | insL _ hs _ ih => exact .insL hs ih
  | insR _ hs _ ih => exact .insR hs ih

theorem secSim_secRel (dlm : Dlm) {tb tb' : Str × List Str} (h : SecSim dlm tb tb') : SecRel tb tb' where
  title := h.1
  items := fun hk o ver p hp n n' l hb => bsim_items dlm hk h.2 o ver p hp n n' l hb
  other := fun hk => bsim_other dlm hk h.2

/-! ### what follows a data section -/

/-- Python's `float()` rejects every token starting with `~` -/
def TildeNotFloat (ft : FloatTable) : Prop := ∀ t : Str, t.head? = some '~' → toFloat ft t = none

/-- a table none of whose keys starts with `~` -/
theorem tildeNotFloat_of_keys (ft : FloatTable) (h : ∀ kv ∈ ft, kv.1.head? ≠ some '~') : TildeNotFloat ft := by
  intro t ht
  unfold toFloat
  induction ft with
  | nil => rfl
  | cons kv ft ih =>
    have hne : (t == kv.1) = false := by
      rw [beq_eq_false_iff_ne]
      intro e
      exact h kv List.mem_cons_self (e ▸ ht)
    rw [List.lookup_cons, hne]
    exact ih (fun x hx => h x (List.mem_cons_of_mem _ hx))

theorem title_npTokens (t : Str) (h : Rd.isTitle t = true) : ∃ tok ts, npTokens t = tok :: ts ∧ tok.head? = some '~' := by
  rw [Rd.isTitle_eq, Rd.startsTilde_iff] at h
  obtain ⟨r, hr⟩ := h
  obtain ⟨pre, post, hpre, _, hl⟩ := strip_decomp t
  rw [hr] at hl
  rw [npTokens_eq, hl]
  have hnh : ∀ x ∈ pre, nh x = true := fun x hx => by
    have := ws_ne_hash x (hpre x hx)
    simp only [nh, bne_iff_ne, ne_eq]
    intro e; subst e; simp at this
  have e : (pre ++ ('~' :: r ++ post)).takeWhile nh = pre ++ ('~' :: (r ++ post).takeWhile nh) := by
    rw [List.takeWhile_append_of_pos hnh]
    simp [nh]
  rw [e, pySplit_ws_left pre _ hpre, pySplit_word '~' _ (by decide)]
  exact ⟨_, _, rfl, rfl⟩

theorem afterOK_flat (ft : FloatTable) (htf : TildeNotFloat ft) (rest : List (Str × List Str)) (hw : Rd.WellFormed rest) :
    AfterOK ft (Rd.flat rest) := by
  cases rest with
  | nil => exact Or.inl rfl
  | cons tb rest' =>
    obtain ⟨t, b⟩ := tb
    right
    obtain ⟨tok, ts, h1, h2⟩ := title_npTokens t (hw (t, b) List.mem_cons_self).1
    exact ⟨t, b ++ Rd.flat rest', tok, ts, rfl, h1, htf tok h2⟩

/-- the guard of the whole-file theorem: the declared delimiter is the one the lines were compared for, and the two
engines agree on the data section -/
def SimGuard (o : DataOpts) (ft : FloatTable) (dlm : Dlm) (st : Steer) (d : Nat) (b : List Str) : Prop :=
  st.delimiter = dlm ∧ AgreeAlone o st d ft b

theorem docRel_of_secSim (o : DataOpts) (ft : FloatTable) (htf : TildeNotFloat ft) (dlm : Dlm)
    {secs secs' : List (Str × List Str)} (h : Forall2 (SecSim dlm) secs secs')
    (hw : Rd.WellFormed secs) (hw' : Rd.WellFormed secs') : DocRel o ft (SimGuard o ft dlm) secs secs' := by
  induction h with
  | nil => exact .nil
  | @cons tb tb' rest rest' hs _ ih =>
    have hwr : Rd.WellFormed rest := fun x hx => hw x (List.mem_cons_of_mem _ hx)
    have hwr' : Rd.WellFormed rest' := fun x hx => hw' x (List.mem_cons_of_mem _ hx)
    refine .cons (secSim_secRel dlm hs) ?_ (ih hwr hwr')
    intro hk st d hg
    obtain ⟨hd, hagree⟩ := hg
    have hb : BodySim st.delimiter tb.2 tb'.2 := by rw [hd]; exact bsim_data dlm hk hs.2
    exact readBody_sim o st d ft hb (afterOK_flat ft htf rest hwr) (afterOK_flat ft htf rest' hwr') hagree

/-- WHOLE FILE, line-by-line relation: a readable document `d` and a `Sim`-related document `d'` have the same parsed
result — header items of every section, ~Other text, curves of every data section — provided the declared delimiter is the
one the data lines were compared for and (numpy engine) the two engines agree on every data section of `d`. -/
theorem readFull_sim (o : Opts) (nullOf : Option Str → Option Str) (ft : FloatTable) (htf : TildeNotFloat ft) (dlm : Dlm)
    (d d' : List Str) (hs : Sim dlm .pre d d') (r : FullRead) (hr : readFull o nullOf ft d = .ok r)
    (hG : AllData (SimGuard o.dat ft dlm (dtSteer nullOf r.steer) (declaredCount r.sections)) (parse d).2) :
    ∃ r', readFull o nullOf ft d' = .ok r' ∧ r'.steer = r.steer ∧ r'.parsed = r.parsed := by
  obtain ⟨_, hsec⟩ := sim_parse dlm hs
  have hrel := docRel_of_secSim o.dat ft htf dlm hsec (parse_wf d) (parse_wf d')
  have e := parse_flat d
  have e' := parse_flat d'
  rw [e] at hr
  rw [e']
  exact readFull_rel o nullOf ft _ _ _ _ _ (parse_pre d) (parse_pre d') (parse_wf d) (parse_wf d') hrel r hr hG

/-! ## §10 building `Sim` -/

/-- lines with the same `strip()` are the same line for the data reader, whatever the delimiter -/
theorem dataEq_of_strip (dlm : Dlm) {a b : Str} (h : strip a = strip b) : DataEq dlm a b where
  toks := fun sb => by unfold lineTokens; rw [cleanLine_eq_strip, cleanLine_eq_strip, h]
  sniff := fun sb => by unfold sampleLine; rw [cleanLine_eq_strip, cleanLine_eq_strip, h]
  np := by rw [npTokens_words, npTokens_words, ← pySplit_strip a, ← pySplit_strip b, h]

theorem lineRes_of_strip (o : Rd.ReadOpts) (p : Rd.Parser) {a b : Str} (h : strip a = strip b) :
    Rd.lineRes o p a = Rd.lineRes o p b := by
  unfold Rd.lineRes; rw [Rd.lineStrip_eq_strip, Rd.lineStrip_eq_strip, h]

theorem bodyEq_of_strip (dlm : Dlm) (c : Ctx) {a b : Str} (h : strip a = strip b) : BodyEq dlm c a b := by
  cases c with
  | pre => trivial
  | sec t =>
    simp only [BodyEq]
    cases kindOf t with
    | items => intro o ver p _; exact lineRes_of_strip o p h
    | other => exact lineStrip_strip_congr h
    | data => exact dataEq_of_strip dlm h
    | las3data => exact dataEq_of_strip dlm h

/-- the context after a line -/
def nextCtx (c : Ctx) (a : Str) : Ctx := if Rd.isTitle a then .sec a else c

/-- the context after a list of lines -/
def ctxEnd : Ctx → List Str → Ctx
  | c, [] => c
  | c, a :: l => ctxEnd (nextCtx c a) l

/-- the context of line `k` -/
def ctxAt (c : Ctx) (d : List Str) (k : Nat) : Ctx := ctxEnd c (d.take k)

theorem sim_cons (dlm : Dlm) {c : Ctx} {a b : Str} {l l' : List Str}
    (hab : strip a = strip b ∨ (Rd.isTitle a = false ∧ Rd.isTitle b = false ∧ BodyEq dlm c a b))
    (h : Sim dlm (nextCtx c a) l l') : Sim dlm c (a :: l) (b :: l') := by
  unfold nextCtx at h
  rcases hab with hs | ⟨ha, hb, he⟩
  · cases ha : Rd.isTitle a with
    | true => rw [ha] at h; exact .title ha hs h
    | false =>
      rw [ha] at h
      exact .line ha (by rw [← isTitle_strip_congr hs]; exact ha) (bodyEq_of_strip dlm c hs) h
  · rw [ha] at h
    exact .line ha hb he h

theorem sim_refl (dlm : Dlm) (c : Ctx) (l : List Str) : Sim dlm c l l := by
  induction l generalizing c with
  | nil => exact .nil
  | cons a l ih => exact sim_cons dlm (Or.inl rfl) (ih _)

theorem sim_append (dlm : Dlm) {c : Ctx} {l1 l1' l2 l2' : List Str} (h1 : Sim dlm c l1 l1')
    (h2 : Sim dlm (ctxEnd c l1) l2 l2') : Sim dlm c (l1 ++ l2) (l1' ++ l2') := by
  induction h1 with
  | nil => exact h2
  | @title c a b l l' ha hs _ ih =>
    simp only [ctxEnd, nextCtx, ha, if_true] at h2
    exact .title ha hs (ih h2)
  | @line c a b l l' ha hb he _ ih =>
    simp only [ctxEnd, nextCtx, ha, Bool.false_eq_true, if_false] at h2
    exact .line ha hb he (ih h2)
  | @insL c s l l' hi hs _ ih =>
    simp only [ctxEnd, nextCtx, skip_not_title hs, Bool.false_eq_true, if_false] at h2
    exact .insL hi hs (ih h2)
  | @insR c s l l' hi hs _ ih => exact .insR hi hs (ih h2)

theorem sim_map (dlm : Dlm) (c : Ctx) (f : Str → Str) (l : List Str) (hf : ∀ a ∈ l, strip (f a) = strip a) :
    Sim dlm c l (l.map f) := by
  induction l generalizing c with
  | nil => exact .nil
  | cons a l ih =>
    exact sim_cons dlm (Or.inl (hf a (by simp)).symm) (ih _ (fun x hx => hf x (by simp [hx])))

theorem sim_mapAt (dlm : Dlm) (c : Ctx) (f : Str → Str) (d : List Str) (k : Nat)
    (hf : ∀ a, d[k]? = some a → strip a = strip (f a) ∨
      (Rd.isTitle a = false ∧ Rd.isTitle (f a) = false ∧ BodyEq dlm (ctxAt c d k) a (f a))) :
    Sim dlm c d (mapAt k f d) := by
  induction d generalizing c k with
  | nil => simp only [mapAt]; exact .nil
  | cons a l ih =>
    cases k with
    | zero =>
      simp only [mapAt]
      exact sim_cons dlm (by simpa [ctxAt, ctxEnd] using hf a (by simp)) (sim_refl dlm _ l)
    | succ k =>
      simp only [mapAt]
      refine sim_cons dlm (Or.inl rfl) (ih _ k ?_)
      intro x hx
      have := hf x (by simpa using hx)
      simpa [ctxAt, ctxEnd] using this

theorem termLine_strip (l : Str) : strip (termLine l) = strip l := by
  unfold termLine
  split
  · rfl
  · exact strip_pad_right l nl allWs_nl

theorem sim_terminate (dlm : Dlm) (c : Ctx) (l : List Str) : Sim dlm c l (terminate l) := by
  induction l generalizing c with
  | nil => exact .nil
  | cons a l ih =>
    cases l with
    | nil => exact sim_cons dlm (Or.inl (termLine_strip a).symm) .nil
    | cons b l' => exact sim_cons dlm (Or.inl rfl) (ih _)

theorem ctxEnd_append (c : Ctx) (a b : List Str) : ctxEnd c (a ++ b) = ctxEnd (ctxEnd c a) b := by
  induction a generalizing c with
  | nil => rfl
  | cons x a ih => simp only [List.cons_append, ctxEnd]; exact ih _

/-- a blank / comment line inserted before line `k` (after the last line when `k ≥ length`) -/
theorem sim_insLine (dlm : Dlm) (c : Ctx) (d : List Str) (k : Nat) (s : Str)
    (hs : SkipLine (s ++ nl)) (hi : Insertable (ctxAt c d k)) : Sim dlm c d (insLine k s d) := by
  unfold insLine
  have e : d = d.take k ++ d.drop k := (List.take_append_drop k d).symm
  have h1 : Sim dlm c (d.take k) (terminate (d.take k)) := sim_terminate dlm c _
  have h2 : Sim dlm (ctxEnd c (d.take k)) (d.drop k) ((s ++ nl) :: d.drop k) := .insR hi hs (sim_refl dlm _ _)
  have := sim_append dlm h1 h2
  rw [← e] at this
  exact this

/-! ### the line functions of the transformations keep `strip()` -/

theorem allWs_of_isBT {s : Str} (h : ∀ c ∈ s, isBT c = true) : AllWs s := fun c hc => isBT_space c (h c hc)

theorem stripBT_decomp (s : Str) : ∃ a b, AllWs a ∧ AllWs b ∧ s = a ++ (stripBT s ++ b) := by
  obtain ⟨a, b, ha, hb, e⟩ := Rd.trim_decomp isBT s
  exact ⟨a, b, allWs_of_isBT ha, allWs_of_isBT hb, e⟩

theorem stripBT_strip (s : Str) : strip (stripBT s) = strip s := by
  obtain ⟨a, b, ha, hb, e⟩ := stripBT_decomp s
  have := strip_sandwich_ws a (stripBT s) b ha hb
  rw [← e] at this
  exact this.symm

/-- a physical line as `readline` delivers it: no line feed before its end -/
def NoInnerNl (l : Str) : Prop := '\n' ∉ (splitEol l).1

theorem crlf1_append (a b : Str) : crlf1 (a ++ b) = crlf1 a ++ crlf1 b := by simp [crlf1]

theorem crlf1_noNl (t : Str) (h : '\n' ∉ t) : crlf1 t = t := by
  induction t with
  | nil => rfl
  | cons c t ih =>
    have hc : c ≠ '\n' := fun e => h (by simp [e])
    have ht : '\n' ∉ t := fun hm => h (by simp [hm])
    have := ih ht
    simp only [crlf1, List.flatMap_cons] at this ⊢
    rw [this]
    simp [hc]

/-- a line that is nothing but its terminator -/
theorem skip_of_empty_text (l : Str) (h : (splitEol l).1 = []) : SkipLine l := by
  left
  have e := (splitEol_spec l).1
  rw [h, List.nil_append] at e
  rw [e]; exact splitEol_allWs l

/-- omitting the final newline: the last line loses its terminator, or — when it was nothing else — disappears, which is
a presentation change unless it stood in a ~Other section -/
theorem sim_dropFinalNewline (dlm : Dlm) (d : List Str)
    (h : ∀ l, d.getLast? = some l → (splitEol l).1 = [] → Insertable (ctxAt .pre d (d.length - 1))) :
    Sim dlm .pre d (dropFinalNewline d) := by
  unfold dropFinalNewline
  have hd : d = d.reverse.reverse := (List.reverse_reverse d).symm
  cases hr : d.reverse with
  | nil => rw [hr] at hd; subst hd; exact .nil
  | cons l r =>
    simp only
    have e : d = r.reverse ++ [l] := by rw [hd, hr]; simp
    have hlast : d.getLast? = some l := by rw [e]; simp
    have hlen : d.length - 1 = r.reverse.length := by rw [e]; simp
    have htake : d.take (d.length - 1) = r.reverse := by rw [hlen, e, List.take_left]
    split
    · rename_i ht
      have ht' : (splitEol l).1 = [] := by simpa using ht
      have hi := h l hlast ht'
      unfold ctxAt at hi
      rw [htake] at hi
      have := sim_append dlm (sim_refl dlm .pre r.reverse) (Sim.insL hi (skip_of_empty_text l ht') .nil)
      rw [← e, List.append_nil] at this
      exact this
    · have := sim_append dlm (sim_refl dlm .pre r.reverse)
        (sim_cons dlm (c := ctxEnd .pre r.reverse) (l := []) (l' := []) (Or.inl (strip_splitEol l).symm) .nil)
      rw [← e] at this
      exact this

theorem blank_skip (ws : Str) : SkipLine (blanksOf ws ++ nl) :=
  Or.inl (allWs_append (allWs_blanksOf ws) allWs_nl)

theorem comment_skip (indent text : Str) : SkipLine (commentLine indent text ++ nl) := by
  right
  refine ⟨blanksOf indent, text.filter (· != '\n') ++ nl, allWs_blanksOf indent, ?_⟩
  simp [commentLine]

/-! ### re-padding a data line (whitespace splitter) -/

theorem mem_pySplit_sub (s : Str) : ∀ w ∈ pySplit s, ∀ c ∈ w, c ∈ s := by
  induction s using words_induction with
  | nil => intro w hw; cases hw
  | ws c cs hc ih =>
    rw [pySplit_ws c _ hc]
    exact fun w hw x hx => List.mem_cons_of_mem _ (ih w hw x hx)
  | word w tail _ _ hsp ih =>
    rw [hsp]
    intro x hx c hc
    rcases List.mem_cons.mp hx with rfl | hx
    · exact List.mem_append_left _ hc
    · exact List.mem_append_right _ (ih x hx c hc)

theorem quoteFree_words {s : Str} (h : QuoteFree s) : ∀ w ∈ pySplit s, QuoteFree w :=
  fun w hw c hc => h c (mem_pySplit_sub s w hw c hc)

/-- words joined by blank runs split into the same words -/
theorem pySplit_joinSeps (mk : Str → Str) (hmk : ∀ s, mk s ≠ [] ∧ AllWs (mk s)) (ws : List Str) (hw : ∀ w ∈ ws, IsWord w)
    (seps : List Str) (tail : Str) (ht : AllWs tail) : pySplit (joinSeps mk ws seps ++ tail) = ws := by
  induction ws generalizing seps with
  | nil => simp only [joinSeps, List.nil_append]; exact pySplit_allWs tail ht
  | cons w rest ih =>
    cases rest with
    | nil =>
      simp only [joinSeps]
      rw [pySplit_ws_right w tail ht, pySplit_isWord w (hw w (by simp))]
    | cons w' rest' =>
      simp only [joinSeps, List.append_assoc]
      rw [pySplit_word_sep w _ _ (hw w (by simp)) (hmk _).2 (hmk _).1]
      rw [ih (fun x hx => hw x (List.mem_cons_of_mem _ hx))]

theorem quoteFree_joinSeps (mk : Str → Str) (hmk : ∀ s, AllWs (mk s)) (ws : List Str) (hw : ∀ w ∈ ws, QuoteFree w)
    (seps : List Str) : QuoteFree (joinSeps mk ws seps) := by
  induction ws generalizing seps with
  | nil => exact quoteFree_nil
  | cons w rest ih =>
    cases rest with
    | nil => simp only [joinSeps]; exact hw w (by simp)
    | cons w' rest' =>
      simp only [joinSeps]
      exact quoteFree_append (hw w (by simp))
        (quoteFree_append (quoteFree_allWs (hmk _)) (ih (fun x hx => hw x (List.mem_cons_of_mem _ hx)) _))

theorem mkSep_space (s : Str) : mkSep .space s ≠ [] ∧ AllWs (mkSep .space s) := by
  simp only [mkSep]
  split
  · exact ⟨by simp, by intro c hc; simp at hc; subst hc; decide⟩
  · rename_i h
    exact ⟨by intro e; rw [e] at h; simp at h, allWs_blanksOf s⟩

theorem pySplit_splitEol (l : Str) : pySplit (splitEol l).1 = pySplit l := by
  have h := pySplit_ws_right (splitEol l).1 (splitEol l).2 (splitEol_allWs l)
  rw [← (splitEol_spec l).1] at h
  exact h.symm

/-- the words of a re-padded line are the words of the line -/
theorem relay_space_words (seps : List Str) (l : Str) : pySplit (relayLine1 .space .space seps l) = pySplit l := by
  unfold relayLine1
  simp only [cellsOf]
  rw [pySplit_joinSeps _ mkSep_space _ (mem_pySplit_isWord _) seps _ (splitEol_allWs l), pySplit_splitEol]

theorem relay_space_quoteFree (seps : List Str) (l : Str) (hq : QuoteFree l) : QuoteFree (relayLine1 .space .space seps l) := by
  unfold relayLine1
  simp only [cellsOf]
  have hq1 : QuoteFree (splitEol l).1 := by
    have := (splitEol_spec l).1
    rw [this] at hq
    exact quoteFree_left hq
  exact quoteFree_append (quoteFree_joinSeps _ (fun s => (mkSep_space s).2) _ (quoteFree_words hq1) seps)
    (quoteFree_allWs (splitEol_allWs l))

/-- title lines are recognised by the first word -/
theorem isTitle_words (l : Str) : Rd.isTitle l = (match pySplit l with | (c :: _) :: _ => c == '~' | _ => false) := by
  rw [Rd.isTitle_eq, ← pySplit_strip l]
  rcases strip_head l with h | ⟨c, cs, h, hc⟩
  · rw [h]; rfl
  · rw [h, pySplit_word c cs hc]
    simp only [Rd.startsTilde]
    by_cases e : c = '~'
    · subst e; rfl
    · have : (c == '~') = false := by simpa using e
      rw [this]
      split
      · rename_i h'; cases h'; exact absurd rfl e
      · rfl

theorem isTitle_of_words {a b : Str} (h : pySplit a = pySplit b) : Rd.isTitle a = Rd.isTitle b := by
  rw [isTitle_words, isTitle_words, h]

/-- REPAD, whitespace splitter: a quote-free data line re-padded is the same line for the data reader -/
theorem relay_space_dataEq (seps : List Str) (l : Str) (hq : QuoteFree l) : DataEq .space l (relayLine1 .space .space seps l) :=
  dataEq_of_words l _ hq (relay_space_quoteFree seps l hq) (relay_space_words seps l).symm

/-- `kindOf t` is generalised before the case split: with the `match` of `BodyEq` on `kindOf t` in the goal, any tactic
that puts the goal in weak head normal form evaluates `sectionType` on the free `t`. -/
theorem bodyEq_data (dlm : Dlm) {c : Ctx} {t a b : Str} (hc : c = .sec t) (hk : isDataKind (kindOf t))
    (h : DataEq dlm a b) : BodyEq dlm c a b := by
  subst hc
  simp only [BodyEq]
  generalize kindOf t = kd at hk ⊢
  rcases hk with rfl | rfl
  · exact h
  · exact h

theorem sim_repadLine_space (d : List Str) (k : Nat) (seps : List Str)
    (h : ∀ a, d[k]? = some a → Rd.isTitle a = false ∧ QuoteFree a ∧ ∃ t, ctxAt .pre d k = .sec t ∧ isDataKind (kindOf t)) :
    Sim .space .pre d (repadLine k .space seps d) := by
  refine sim_mapAt .space .pre _ d k fun a ha => ?_
  obtain ⟨hnt, hq, t, hc, hk⟩ := h a ha
  exact .inr ⟨hnt, (isTitle_of_words (relay_space_words seps a)).trans hnt,
    bodyEq_data .space hc hk (relay_space_dataEq seps a hq)⟩

/-! ## §11 re-wrapping -/

/-- the words of the data lines of a body, in order -/
def bodyWords (body : List Str) : List Str := (body.filter (fun l => !isSkip l)).flatMap pySplit

theorem isSkip_words (l : Str) : isSkip l = ((pySplit l).isEmpty || firstHash (pySplit l)) := by
  unfold isSkip
  simp only [cleanLine_eq_strip, isEmpty_strip, isComment_strip]

theorem isSkip_lineTokens (sb : Subs) (dlm : Dlm) (l : Str) (h : isSkip l = true) : lineTokens sb dlm l = [] := by
  unfold isSkip at h
  unfold lineTokens
  simp only [Bool.or_eq_true] at h
  rcases h with h | h
  · have : cleanLine l = [] := by simpa using h
    rw [this]
    have h1 : applySubs sb [] = [] := by
      unfold applySubs subCommaDecimal subRunOnHyphen subRunOnDot
      cases sb.comma <;> cases sb.hyphen <;> cases sb.dot <;> simp [reSub]
    simp [isComment, startsWith, h1]
  · simp [h]

/-- normal engine, whitespace splitter, quote-free line: the items of its words -/
theorem lineTokens_words' (sb : Subs) (l : Str) (hq : QuoteFree l) :
    lineTokens sb .space l = if isSkip l then [] else (pySplit l).flatMap (lineToks sb) := by
  rw [lineTokens_space_words sb l hq, isSkip_words]
  cases h1 : firstHash (pySplit l) with
  | true => simp
  | false =>
    cases h2 : (pySplit l).isEmpty with
    | true =>
      have : pySplit l = [] := by simpa using h2
      simp [this]
    | false => simp

theorem normalTokens_words (sb : Subs) (body : List Str) (hq : ∀ l ∈ body, QuoteFree l) :
    normalTokens sb .space body = (bodyWords body).flatMap (lineToks sb) := by
  induction body with
  | nil => rfl
  | cons l ls ih =>
    have ih' := ih (fun x hx => hq x (List.mem_cons_of_mem _ hx))
    simp only [normalTokens, List.flatMap_cons] at ih' ⊢
    rw [ih', lineTokens_words' sb l (hq l (by simp))]
    unfold bodyWords
    cases h : isSkip l <;> simp [h]

/-! ### cutting and chunking keep the sequence -/

theorem cut_flatten {α} (widths : List Nat) (l : List α) : (cut widths l).flatten = l := by
  induction widths generalizing l with
  | nil => cases l <;> simp [cut]
  | cons w ws ih =>
    cases l with
    | nil => simp [cut]
    | cons a l => simp only [cut, List.flatten_cons, ih, List.take_append_drop]

theorem cut_ne {α} (widths : List Nat) (l : List α) : ∀ p ∈ cut widths l, p ≠ [] := by
  induction widths generalizing l with
  | nil => cases l <;> simp [cut]
  | cons w ws ih =>
    cases l with
    | nil => simp [cut]
    | cons a l =>
      intro p hp
      simp only [cut, List.mem_cons] at hp
      rcases hp with rfl | hp
      · have : max w 1 = (max w 1 - 1) + 1 := by omega
        rw [this]; simp
      · exact ih _ p hp

theorem chunk_flatten' {α} (c : Nat) (hc : 0 < c) (fuel : Nat) (l : List α) (hf : l.length ≤ fuel) :
    (chunk c fuel l).flatten = l := by
  induction fuel generalizing l with
  | zero =>
    have : l = [] := by cases l with
      | nil => rfl
      | cons _ _ => simp at hf
    subst this; rfl
  | succ fuel ih =>
    simp only [chunk]
    split
    · rename_i h; have : l = [] := by simpa using h
      subst this; rfl
    · simp only [List.flatten_cons]
      rw [ih (l.drop c) (by simp; omega), List.take_append_drop]

theorem reshape_flatten' {α} (c : Nat) (hc : 0 < c) (l : List α) : (reshape c l).flatten = l :=
  chunk_flatten' c hc _ l (Nat.le_refl _)

/-! ### the lines of a re-wrapped body -/

theorem joinWith_joinSeps (ws : List Str) : joinWith [' '] ws = joinSeps (fun _ => [' ']) ws [] := by
  induction ws with
  | nil => rfl
  | cons w rest ih =>
    cases rest with
    | nil => rfl
    | cons w' rest' => simp only [joinWith, joinSeps, List.tail_nil, ih, List.append_assoc]

theorem wrapLine_words (ws : List Str) (hw : ∀ w ∈ ws, IsWord w) : pySplit (joinWith [' '] ws ++ nl) = ws := by
  rw [joinWith_joinSeps]
  exact pySplit_joinSeps _ (fun _ => ⟨by simp, by intro c hc; simp at hc; subst hc; decide⟩) ws hw [] nl allWs_nl

theorem wrapLine_quoteFree (ws : List Str) (hw : ∀ w ∈ ws, QuoteFree w) : QuoteFree (joinWith [' '] ws ++ nl) := by
  rw [joinWith_joinSeps]
  exact quoteFree_append (quoteFree_joinSeps _ (fun _ => by intro c hc; simp at hc; subst hc; decide) ws hw [])
    (quoteFree_allWs allWs_nl)

/-- what the body must satisfy for a re-wrapping to be a presentation change -/
structure WrapOK (body : List Str) : Prop where
  qf : ∀ l ∈ body, QuoteFree l
  /-- a token at the start of a physical line must not turn the line into a comment or a title -/
  heads : ∀ w ∈ bodyWords body, w.head? ≠ some '#' ∧ w.head? ≠ some '~'
  /-- the run-on(-) substitution changes no token: whether the hyphen rule fires depends on the line layout -/
  hyphen : ∀ w ∈ bodyWords body, lineToks Subs.default w = lineToks Subs.default.dropHyphen w

/-- the data lines of the re-wrapped body -/
def wrappedLines (d : Nat) (widths : List Nat) (body : List Str) : List Str :=
  (reshape (max d 1) (bodyWords body)).flatMap (wrapStep widths)

theorem rewrapBody_eq (d : Nat) (widths : List Nat) (body : List Str) :
    rewrapBody d widths body = (body.filter isSkip).map termLine ++ wrappedLines d widths body := rfl

/-- every re-wrapped line is `joinWith " " ws ++ "\n"` for a non-empty piece `ws` of the word sequence -/
theorem wrappedLines_spec (d : Nat) (widths : List Nat) (body : List Str) :
    ∃ pieces : List (List Str), wrappedLines d widths body = pieces.map (fun ws => joinWith [' '] ws ++ nl) ∧
      pieces.flatten = bodyWords body ∧ ∀ p ∈ pieces, p ≠ [] := by
  refine ⟨(reshape (max d 1) (bodyWords body)).flatMap (cut widths), ?_, ?_, ?_⟩
  · unfold wrappedLines wrapStep
    rw [List.map_flatMap]
  · have : ∀ steps : List (List Str), (List.flatMap (cut widths) steps).flatten = steps.flatten := by
      intro steps
      induction steps with
      | nil => rfl
      | cons s ss ih => simp only [List.flatMap_cons, List.flatten_append, cut_flatten, ih, List.flatten_cons]
    rw [this, reshape_flatten' _ (by omega)]
  · intro p hp
    obtain ⟨s, _, hps⟩ := List.mem_flatMap.mp hp
    exact cut_ne widths s p hps

theorem firstHash_false_of_head {ws : List Str} (h : ∀ w ∈ ws, w.head? ≠ some '#') : firstHash ws = false := by
  cases ws with
  | nil => rfl
  | cons w rest =>
    cases w with
    | nil => rfl
    | cons c cs =>
      have := h (c :: cs) (by simp)
      simp only [List.head?_cons, ne_eq, Option.some.injEq] at this
      simp [firstHash, this]

/-- the flat item sequence of the re-wrapped body is that of the body -/
theorem normalTokens_rewrap (sb : Subs) (d : Nat) (widths : List Nat) (body : List Str) (h : WrapOK body) :
    normalTokens sb .space (rewrapBody d widths body) = (bodyWords body).flatMap (lineToks sb) := by
  obtain ⟨pieces, hl, hfl, hne⟩ := wrappedLines_spec d widths body
  rw [rewrapBody_eq, hl]
  have hmem : ∀ p ∈ pieces, ∀ w ∈ p, w ∈ bodyWords body := by
    intro p hp w hw
    rw [← hfl]; exact List.mem_flatten.mpr ⟨p, hp, hw⟩
  have hword : ∀ w ∈ bodyWords body, IsWord w ∧ QuoteFree w := by
    intro w hw
    unfold bodyWords at hw
    obtain ⟨l, hl', hwl⟩ := List.mem_flatMap.mp hw
    have hlb : l ∈ body := (List.mem_filter.mp hl').1
    exact ⟨mem_pySplit_isWord l w hwl, quoteFree_words (h.qf l hlb) w hwl⟩
  simp only [normalTokens, List.flatMap_append]
  have h1 : List.flatMap (lineTokens sb .space) ((body.filter isSkip).map termLine) = [] := by
    rw [List.flatMap_eq_nil_iff]
    intro l hl'
    obtain ⟨x, hx, rfl⟩ := List.mem_map.mp hl'
    apply isSkip_lineTokens
    have hs := (List.mem_filter.mp hx).2
    unfold isSkip at hs ⊢
    rw [cleanLine_eq_strip] at hs ⊢
    rw [termLine_strip]; exact hs
  rw [h1, List.nil_append, ← hfl]
  clear hl hfl
  induction pieces with
  | nil => rfl
  | cons p ps ih =>
    have ih' := ih (fun q hq => hne q (List.mem_cons_of_mem _ hq)) (fun q hq => hmem q (List.mem_cons_of_mem _ hq))
    have hp : ∀ w ∈ p, w ∈ bodyWords body := hmem p (by simp)
    have hq : QuoteFree (joinWith [' '] p ++ nl) := wrapLine_quoteFree p (fun w hw => (hword w (hp w hw)).2)
    have hws : pySplit (joinWith [' '] p ++ nl) = p := wrapLine_words p (fun w hw => (hword w (hp w hw)).1)
    have hd : lineTokens sb .space (joinWith [' '] p ++ nl) = p.flatMap (lineToks sb) := by
      rw [lineTokens_space_words sb _ hq, hws, firstHash_false_of_head (fun w hw => (h.heads w (hp w hw)).1)]
      rfl
    simp only [List.map_cons, List.flatMap_cons, List.flatten_cons, List.flatMap_append]
    rw [ih', hd]

/-- no line of the re-wrapped body is a title line -/
theorem rewrapBody_no_title (d : Nat) (widths : List Nat) (body : List Str) (h : WrapOK body) :
    ∀ l ∈ rewrapBody d widths body, Rd.isTitle l = false := by
  obtain ⟨pieces, hl, hfl, hne⟩ := wrappedLines_spec d widths body
  intro l hl'
  rw [rewrapBody_eq, hl] at hl'
  rcases List.mem_append.mp hl' with hm | hm
  · obtain ⟨x, hx, rfl⟩ := List.mem_map.mp hm
    have hs := (List.mem_filter.mp hx).2
    rw [isTitle_strip_congr (termLine_strip x)]
    rw [isTitle_words]
    rw [isSkip_words] at hs
    cases hp : pySplit x with
    | nil => rfl
    | cons w rest =>
      cases w with
      | nil => rfl
      | cons c cs =>
        simp only [hp, List.isEmpty_cons, Bool.false_or, firstHash, beq_iff_eq] at hs
        subst hs; rfl
  · obtain ⟨p, hp, rfl⟩ := List.mem_map.mp hm
    have hmem : ∀ w ∈ p, w ∈ bodyWords body := fun w hw => by
      rw [← hfl]; exact List.mem_flatten.mpr ⟨p, hp, hw⟩
    have hword : ∀ w ∈ p, IsWord w := by
      intro w hw
      have := hmem w hw
      unfold bodyWords at this
      obtain ⟨l, _, hwl⟩ := List.mem_flatMap.mp this
      exact mem_pySplit_isWord l w hwl
    rw [isTitle_words, wrapLine_words p hword]
    cases p with
    | nil => exact absurd rfl (hne [] hp)
    | cons w rest =>
      cases w with
      | nil => rfl
      | cons c cs =>
        have := (h.heads (c :: cs) (hmem _ (by simp))).2
        simp only [List.head?_cons, ne_eq, Option.some.injEq] at this
        simp [this]


/-- the steering values of a file declared as wrapped, with `d ≥ 1` declared curves and the default delimiter -/
structure WrapSteer (st : Steer) (d : Nat) : Prop where
  dlm : st.delimiter = .space
  declared : st.wrapDeclared = true
  wrapped : st.wrapped = yesTxt
  pos : 0 < d

theorem sniffTwiceB_subs (sb : Subs) (dlm : Dlm) (body : List Str) :
    (sniffTwiceB sb dlm body).1 = sb ∨ (sniffTwiceB sb dlm body).1 = sb.dropHyphen := by
  unfold sniffTwiceB
  simp only
  split
  · right; rfl
  · left; rfl

theorem readerColumns_wrapped {st : Steer} {d : Nat} (h : WrapSteer st d) (s : Option Nat) : readerColumns st d s = d := by
  unfold readerColumns
  simp [h.declared, h.wrapped, h.pos]

theorem normalEngineLines_tokens' (ft : FloatTable) (sb sb' : Subs) (dlm : Dlm) (n : Nat) (b b' : List Str)
    (h : normalTokens sb dlm b = normalTokens sb' dlm b') : normalEngineLines ft sb dlm n b = normalEngineLines ft sb' dlm n b' := by
  unfold normalEngineLines; rw [h]

/-- the normal engine reads the re-wrapped body as it reads the body -/
theorem normalRead_rewrap (o : DataOpts) (st : Steer) (d : Nat) (ft : FloatTable) (dcl : Nat) (widths : List Nat) (body : List Str)
    (hs : WrapSteer st d) (h : WrapOK body) :
    normalRead o st d ft (rewrapBody dcl widths body) = normalRead o st d ft body := by
  unfold normalRead
  rw [readerColumns_wrapped hs, readerColumns_wrapped hs, hs.dlm]
  have hneutral : (bodyWords body).flatMap (lineToks Subs.default.dropHyphen) = (bodyWords body).flatMap (lineToks Subs.default) := by
    rw [List.flatMap_def, List.flatMap_def, List.map_congr_left h.hyphen]
  have key : ∀ sb, (sb = Subs.default ∨ sb = Subs.default.dropHyphen) → ∀ sb', (sb' = Subs.default ∨ sb' = Subs.default.dropHyphen) →
      normalTokens sb .space (rewrapBody dcl widths body) = normalTokens sb' .space body := by
    intro sb hsb sb' hsb'
    rw [normalTokens_rewrap sb dcl widths body h, normalTokens_words sb' body h.qf]
    rcases hsb with rfl | rfl <;> rcases hsb' with rfl | rfl <;> simp [hneutral]
  have e1 := sniffTwiceB_subs (readSubs .space) .space (rewrapBody dcl widths body)
  have e2 := sniffTwiceB_subs (readSubs .space) .space body
  rw [normalEngineLines_tokens' ft _ _ .space d _ _ (key _ e1 _ e2)]

theorem effective_wrapped (o : DataOpts) {st : Steer} (h : st.wrapped = yesTxt) : effectiveEngine o st = .normal := by
  simp [effectiveEngine, h]

/-- REWRAP, one window: same curves (and the normal engine on both sides: a wrapped file is never read by numpy) -/
theorem readBody_rewrap (o : DataOpts) (st : Steer) (d : Nat) (ft : FloatTable) (dcl : Nat) (widths : List Nat)
    (body after after' : List Str) (hs : WrapSteer st d) (h : WrapOK body) :
    readBody o st d ft (rewrapBody dcl widths body) after' = readBody o st d ft body after := by
  unfold readBody
  simp only [effective_wrapped o hs.wrapped]
  exact normalRead_rewrap o st d ft dcl widths body hs h

/-! ### one data section replaced -/

theorem flat_append (a b : List (Str × List Str)) : Rd.flat (a ++ b) = Rd.flat a ++ Rd.flat b := by
  induction a with
  | nil => rfl
  | cons tb rest ih => obtain ⟨t, x⟩ := tb; simp [Rd.flat, ih]

theorem bodySim_refl (dlm : Dlm) (b : List Str) : BodySim dlm b b := by
  induction b with
  | nil => exact .nil
  | cons a l ih => exact .line (dataEq_of_strip dlm rfl) ih

theorem secRel_refl (tb : Str × List Str) : SecRel tb tb where
  title := rfl
  items := fun _ o _ p _ n n' l h => Rd.bodyRun_ok_indep o p tb.2 n n' l h
  other := fun _ => rfl

/-- the header-level reader does not look into the body of a data section -/
theorem secRel_data {t : Str} (b b' : List Str) (hk : isDataKind (kindOf t)) : SecRel (t, b) (t, b') := by
  refine ⟨rfl, ?_, ?_⟩
  · intro hi; rcases hk with h | h <;> rw [hi] at h <;> cases h
  · intro hi; rcases hk with h | h <;> rw [hi] at h <;> cases h

theorem effectiveEngine_of_normal (o : DataOpts) (st : Steer) (h : o.engine = .normal) : effectiveEngine o st = .normal := by
  unfold effectiveEngine
  split
  · rfl
  · exact h

theorem agreeAlone_of_normal (o : DataOpts) (st : Steer) (d : Nat) (ft : FloatTable) (b : List Str)
    (h : effectiveEngine o st = .normal) : AgreeAlone o st d ft b := by
  unfold AgreeAlone readBody
  simp only [h]

theorem wellFormed_tail {tb : Str × List Str} {rest : List (Str × List Str)} (h : Rd.WellFormed (tb :: rest)) : Rd.WellFormed rest :=
  fun x hx => h x (List.mem_cons_of_mem _ hx)

theorem wellFormed_append_right {a b : List (Str × List Str)} (h : Rd.WellFormed (a ++ b)) : Rd.WellFormed b :=
  fun x hx => h x (List.mem_append_right _ hx)

/-- the body of one section replaced by lines none of which is a title line -/
theorem wellFormed_replace {A B : List (Str × List Str)} {t : Str} {b b' : List Str}
    (hw : Rd.WellFormed (A ++ (t, b) :: B)) (hb' : ∀ x ∈ b', Rd.isTitle x = false) : Rd.WellFormed (A ++ (t, b') :: B) := by
  intro tb htb
  rcases List.mem_append.mp htb with h | h
  · exact hw tb (List.mem_append_left _ h)
  · rcases List.mem_cons.mp h with rfl | h
    · exact ⟨(hw (t, b) (by simp)).1, hb'⟩
    · exact hw tb (List.mem_append_right _ (List.mem_cons_of_mem _ h))

theorem docRel_refl (o : DataOpts) (ft : FloatTable) (G : Steer → Nat → List Str → Prop) (secs : List (Str × List Str)) :
    DocRel o ft G secs secs := by
  induction secs with
  | nil => exact .nil
  | cons tb rest ih => exact .cons (secRel_refl tb) (fun _ _ _ _ => rfl) ih

/-- Replace the body of ONE section: the sections before it see other lines after themselves (which matters to the numpy
engine only through `AfterOK`), the sections after it see nothing. -/
theorem docRel_replace (o : DataOpts) (ft : FloatTable) (htf : TildeNotFloat ft) (G : Steer → Nat → List Str → Prop)
    (hGA : ∀ st d x, G st d x → AgreeAlone o st d ft x)
    (s₁ s₂ : List (Str × List Str)) (t : Str) (b b' : List Str)
    (hw : Rd.WellFormed (s₁ ++ (t, b) :: s₂)) (hw' : Rd.WellFormed (s₁ ++ (t, b') :: s₂))
    (hsec : SecRel (t, b) (t, b'))
    (hdata : isDataKind (kindOf t) → ∀ st d, G st d b →
      (readBody o st d ft b (Rd.flat s₂)).map Prod.snd = (readBody o st d ft b' (Rd.flat s₂)).map Prod.snd) :
    DocRel o ft G (s₁ ++ (t, b) :: s₂) (s₁ ++ (t, b') :: s₂) := by
  induction s₁ with
  | nil => exact .cons hsec hdata (docRel_refl o ft G s₂)
  | cons x rest ih =>
    have hwr := wellFormed_tail hw
    have hwr' := wellFormed_tail hw'
    refine .cons (secRel_refl x) ?_ (ih hwr hwr')
    intro _ st d hg
    exact readBody_sim o st d ft (bodySim_refl st.delimiter x.2) (afterOK_flat ft htf _ hwr) (afterOK_flat ft htf _ hwr')
      (hGA st d x.2 hg)

theorem size_eq_flat_length (secs : List (Str × List Str)) : Rd.size secs = (Rd.flat secs).length := (Rd.flat_length secs).symm

/-- `rewrap` on the document structure: the body of the addressed data section is replaced -/
theorem rewrap_struct (pre : List Str) (s₁ s₂ : List (Str × List Str)) (t : Str) (body : List Str) (dcl : Nat) (widths : List Nat) :
    rewrap (pre.length + Rd.size s₁) (pre.length + Rd.size s₁ + body.length) dcl widths
        (pre ++ Rd.flat (s₁ ++ (t, body) :: s₂)) =
      pre ++ Rd.flat (s₁ ++ (t, rewrapBody dcl widths body) :: s₂) := by
  have hA : (pre ++ Rd.flat s₁).length = pre.length + Rd.size s₁ := by simp [size_eq_flat_length]
  have e : pre ++ Rd.flat (s₁ ++ (t, body) :: s₂) = (pre ++ Rd.flat s₁) ++ t :: (body ++ Rd.flat s₂) := by
    simp [flat_append, Rd.flat]
  unfold rewrap
  rw [e, ← hA, bodyLines_at]
  have h1 : ((pre ++ Rd.flat s₁) ++ t :: (body ++ Rd.flat s₂)).take ((pre ++ Rd.flat s₁).length + 1) = (pre ++ Rd.flat s₁) ++ [t] := by
    rw [List.take_append, List.take_of_length_le (by omega)]
    simp
  have h2 : ((pre ++ Rd.flat s₁) ++ t :: (body ++ Rd.flat s₂)).drop ((pre ++ Rd.flat s₁).length + body.length + 1) = Rd.flat s₂ := by
    have : (pre ++ Rd.flat s₁).length + body.length + 1 = ((pre ++ Rd.flat s₁).length + 1) + body.length := by omega
    rw [this, ← List.drop_drop, drop_at, List.drop_left]
  rw [h1, h2]
  simp [flat_append, Rd.flat]

/-! ### a blank / comment line inserted at a given place -/

theorem bodySim_insert (dlm : Dlm) (b₁ b₂ : List Str) (s : Str) (hs : SkipLine s) : BodySim dlm (b₁ ++ b₂) (b₁ ++ s :: b₂) := by
  induction b₁ with
  | nil => exact .insR hs (bodySim_refl dlm b₂)
  | cons x xs ih => exact .line (dataEq_of_strip dlm rfl) ih

theorem bodyRun_insert (o : Rd.ReadOpts) (p : Rd.Parser) (l₁ l₂ : List Str) (s : Str) (hs : SkipLine s) :
    ∀ n n' l, Rd.bodyRun o p (l₁ ++ l₂) n = .ok l → Rd.bodyRun o p (l₁ ++ s :: l₂) n' = .ok l := by
  induction l₁ with
  | nil =>
    intro n n' l h
    simp only [List.nil_append, Rd.bodyRun, skip_lineRes o p hs] at h ⊢
    exact Rd.bodyRun_ok_indep o p l₂ n (n' + 1) l h
  | cons x xs ih => exact bodyRun_cons_congr o p rfl _ _ ih

/-! ## §12 readable bases and single steps -/

theorem readFull_data (o : Opts) (nullOf : Option Str → Option Str) (ft : FloatTable) (doc : Doc) (r : FullRead)
    (h : readFull o nullOf ft doc = .ok r) :
    ∃ hd, Rd.readLines o.hdr doc = .ok hd ∧ r.sections = hd.sections ∧ r.steer = hd.steer ∧
      r.data = hd.data.map fun w =>
        ⟨w.1, w.2.1, readData o.dat doc w.1 w.2.1 (dtSteer nullOf hd.steer) (declaredCount hd.sections) ft⟩ := by
  unfold readFull at h
  cases hh : Rd.readLines o.hdr doc with
  | error e => rw [hh] at h; cases h
  | ok hd =>
    rw [hh] at h
    cases h
    exact ⟨hd, rfl, rfl, rfl, rfl⟩

/-- the header-level reader does not look at the data options -/
theorem readFull_of_header (o : Opts) (nullOf : Option Str → Option Str) (ft : FloatTable) (doc : Doc) (hd : Rd.RHeader)
    (h : Rd.readLines o.hdr doc = .ok hd) :
    readFull o nullOf ft doc = .ok ⟨hd.sections, hd.steer, hd.data.map fun w =>
      ⟨w.1, w.2.1, readData o.dat doc w.1 w.2.1 (dtSteer nullOf hd.steer) (declaredCount hd.sections) ft⟩⟩ := by
  unfold readFull
  rw [h]

/-- a readable document on whose data sections the two engines agree -/
structure Base (o : Opts) (nullOf : Option Str → Option Str) (ft : FloatTable) (d : Doc) (r : FullRead) : Prop where
  read : readFull o nullOf ft d = .ok r
  agree : AllData (AgreeAlone o.dat (dtSteer nullOf r.steer) (declaredCount r.sections) ft) (parse d).2

/-- with the normal engine requested, a readable document is a `Base` -/
theorem base_of_normal {o : Opts} {nullOf : Option Str → Option Str} {ft : FloatTable} {d : Doc} {r : FullRead}
    (hr : readFull o nullOf ft d = .ok r) (he : o.dat.engine = .normal) : Base o nullOf ft d r :=
  ⟨hr, fun _ _ _ => agreeAlone_of_normal _ _ _ _ _ (effectiveEngine_of_normal _ _ he)⟩

theorem Base.readModel {o : Opts} {nullOf : Option Str → Option Str} {ft : FloatTable} {d : Doc} {r : FullRead}
    (hb : Base o nullOf ft d r) : Tf.readModel o nullOf ft d = .ok r.parsed := by
  unfold Tf.readModel
  rw [hb.read]
  rfl

theorem afterOK_nil (ft : FloatTable) : AfterOK ft [] := Or.inl rfl

/-- agreement of the engines is inherited along `BodySim` -/
theorem agreeAlone_sim (o : DataOpts) (st : Steer) (d : Nat) (ft : FloatTable) {b b' : List Str}
    (h : BodySim st.delimiter b b') (ha : AgreeAlone o st d ft b) : AgreeAlone o st d ft b' := by
  unfold AgreeAlone at ha ⊢
  rw [← readBody_sim o st d ft h (afterOK_nil ft) (afterOK_nil ft) ha, ha, normalRead_sim o st d ft h]

theorem agree_secSim (o : DataOpts) (st : Steer) (d : Nat) (ft : FloatTable) (dlm : Dlm) (hd : st.delimiter = dlm)
    {secs secs' : List (Str × List Str)} (h : Forall2 (SecSim dlm) secs secs') (ha : AllData (AgreeAlone o st d ft) secs) :
    AllData (AgreeAlone o st d ft) secs' := by
  induction h with
  | nil => intro tb h; cases h
  | @cons tb tb' rest rest' hs _ ih =>
    intro x hx hk
    rcases List.mem_cons.mp hx with rfl | hx
    · have hk' : isDataKind (kindOf tb.1) := by rw [kindOf_strip_congr hs.1]; exact hk
      have hb : BodySim st.delimiter tb.2 x.2 := by rw [hd]; exact bsim_data dlm hk' hs.2
      exact agreeAlone_sim o st d ft hb (ha tb List.mem_cons_self hk')
    · exact ih (fun y hy => ha y (List.mem_cons_of_mem _ hy)) x hx hk

/-- STEP along `Sim`: the transformed document is readable, with the same steering values and the same parsed result, and the
engines still agree on its data sections -/
theorem base_sim (o : Opts) (nullOf : Option Str → Option Str) (ft : FloatTable) (htf : TildeNotFloat ft) (dlm : Dlm)
    (d d' : Doc) (r : FullRead) (hs : Sim dlm .pre d d') (hb : Base o nullOf ft d r)
    (hd : (dtSteer nullOf r.steer).delimiter = dlm) :
    ∃ r', Base o nullOf ft d' r' ∧ r'.steer = r.steer ∧ r'.parsed = r.parsed := by
  have hG : AllData (SimGuard o.dat ft dlm (dtSteer nullOf r.steer) (declaredCount r.sections)) (parse d).2 :=
    fun tb htb hk => ⟨hd, hb.agree tb htb hk⟩
  obtain ⟨r', h1, h2, h3⟩ := readFull_sim o nullOf ft htf dlm d d' hs r hb.read hG
  refine ⟨r', ⟨h1, ?_⟩, h2, h3⟩
  have hsec : r'.sections = r.sections := congrArg Parsed.sections h3
  rw [h2, hsec]
  exact agree_secSim o.dat _ _ ft dlm hd (sim_parse dlm hs).2 hb.agree

/-- the structure of a document given by its structure -/
theorem parse_struct (pre : List Str) (secs : List (Str × List Str)) (hpre : ∀ x ∈ pre, Rd.isTitle x = false)
    (hw : Rd.WellFormed secs) : parse (pre ++ Rd.flat secs) = (pre, secs) := by
  induction pre with
  | nil =>
    simp only [List.nil_append]
    induction secs with
    | nil => rfl
    | cons tb rest ih =>
      obtain ⟨t, b⟩ := tb
      have ht := (hw (t, b) List.mem_cons_self).1
      have hbt := (hw (t, b) List.mem_cons_self).2
      have ihr := ih (wellFormed_tail hw)
      simp only [Rd.flat, List.cons_append]
      rw [parse_title t _ ht]
      -- the body lines are not titles: they are collected in front of the following sections
      have hbody : ∀ (b : List Str), (∀ x ∈ b, Rd.isTitle x = false) → parse (b ++ Rd.flat rest) = (b, rest) := by
        intro b hb
        induction b with
        | nil => exact ihr
        | cons x xs ihb =>
          rw [List.cons_append, parse_line x _ (hb x (by simp)), ihb (fun y hy => hb y (by simp [hy]))]
      rw [hbody b hbt]
  | cons x xs ih =>
    rw [List.cons_append, parse_line x _ (hpre x (by simp)), ih (fun y hy => hpre y (by simp [hy]))]

/-- STEP for `rewrap` -/
theorem base_rewrap (o : Opts) (nullOf : Option Str → Option Str) (ft : FloatTable) (htf : TildeNotFloat ft)
    (pre : List Str) (s₁ s₂ : List (Str × List Str)) (t : Str) (body : List Str) (dcl : Nat) (widths : List Nat) (r : FullRead)
    (hpre : ∀ x ∈ pre, Rd.isTitle x = false) (hw : Rd.WellFormed (s₁ ++ (t, body) :: s₂)) (hk : isDataKind (kindOf t))
    (hok : WrapOK body) (hb : Base o nullOf ft (pre ++ Rd.flat (s₁ ++ (t, body) :: s₂)) r)
    (hst : WrapSteer (dtSteer nullOf r.steer) (declaredCount r.sections)) :
    ∃ r', Base o nullOf ft (rewrap (pre.length + Rd.size s₁) (pre.length + Rd.size s₁ + body.length) dcl widths
        (pre ++ Rd.flat (s₁ ++ (t, body) :: s₂))) r' ∧ r'.steer = r.steer ∧ r'.parsed = r.parsed := by
  rw [rewrap_struct]
  have hw' := wellFormed_replace hw (rewrapBody_no_title dcl widths body hok)
  let G : Steer → Nat → List Str → Prop := fun st d _ => WrapSteer st d
  have hGA : ∀ st d x, G st d x → AgreeAlone o.dat st d ft x :=
    fun st d x hg => agreeAlone_of_normal o.dat st d ft x (effective_wrapped o.dat hg.wrapped)
  have hrel := docRel_replace o.dat ft htf G hGA s₁ s₂ t body (rewrapBody dcl widths body) hw hw' (secRel_data _ _ hk)
    (fun _ st d hg => by rw [readBody_rewrap o.dat st d ft dcl widths body (Rd.flat s₂) (Rd.flat s₂) hg hok])
  obtain ⟨r', h1, h2, h3⟩ := readFull_rel o nullOf ft G pre pre _ _ hpre hpre hw hw' hrel r hb.read (fun _ _ _ => hst)
  refine ⟨r', ⟨h1, ?_⟩, h2, h3⟩
  have hsecs : r'.sections = r.sections := congrArg Parsed.sections h3
  rw [h2, hsecs, parse_struct pre _ hpre hw']
  intro tb _ _
  exact agreeAlone_of_normal o.dat _ _ ft tb.2 (effective_wrapped o.dat hst.wrapped)

/-! ### the side conditions are decidable -/

instance (l : Str) : Decidable (NoInnerNl l) := by unfold NoInnerNl; infer_instance
instance (s : Str) : Decidable (QuoteFree s) := by unfold QuoteFree; infer_instance
instance (k : Rd.SecKind) : Decidable (isDataKind k) := by unfold isDataKind; infer_instance
instance (c : Ctx) : Decidable (Insertable c) :=
  match c with
  | .pre => isTrue trivial
  | .sec t => inferInstanceAs (Decidable (kindOf t ≠ .other))
instance (st : Steer) (d : Nat) : Decidable (WrapSteer st d) :=
  if h : st.delimiter = .space ∧ st.wrapDeclared = true ∧ st.wrapped = yesTxt ∧ 0 < d then
    isTrue ⟨h.1, h.2.1, h.2.2.1, h.2.2.2⟩
  else isFalse (fun w => h ⟨w.dlm, w.declared, w.wrapped, w.pos⟩)
instance (body : List Str) : Decidable (WrapOK body) :=
  if h : (∀ l ∈ body, QuoteFree l) ∧ (∀ w ∈ bodyWords body, w.head? ≠ some '#' ∧ w.head? ≠ some '~') ∧
      (∀ w ∈ bodyWords body, lineToks Subs.default w = lineToks Subs.default.dropHyphen w) then
    isTrue ⟨h.1, h.2.1, h.2.2⟩
  else isFalse (fun w => h ⟨w.qf, w.heads, w.hyphen⟩)

/-! ### the lines `io.StringIO` yields are physical lines -/

theorem noInnerNl_plain (t : Str) (h : '\n' ∉ t) : NoInnerNl t := by
  unfold NoInnerNl splitEol
  have hr : '\n' ∉ t.reverse := fun hm => h (List.mem_reverse.mp hm)
  split
  · rename_i r heq; rw [heq] at hr; simp at hr
  · rename_i r heq; rw [heq] at hr; simp at hr
  · exact h

theorem noInnerNl_terminated (t : Str) (h : '\n' ∉ t) : NoInnerNl (t ++ ['\n']) := by
  unfold NoInnerNl splitEol
  rw [List.reverse_append]
  simp only [List.reverse_cons, List.reverse_nil, List.nil_append, List.cons_append]
  cases hr : t.reverse with
  | nil => simp
  | cons c r =>
    have ht : t = (c :: r).reverse := by rw [← hr, List.reverse_reverse]
    have hsub : ∀ x ∈ r.reverse, x ∈ t := fun x hx => by rw [ht]; simp at hx ⊢; exact Or.inl hx
    by_cases hc : c = '\r'
    · subst hc
      simp only
      exact fun hm => h (hsub _ hm)
    · have : ('\n' :: c :: r).reverse = t ++ ['\n'] := by rw [ht]; simp
      split
      · rename_i r' heq; cases heq; exact absurd rfl hc
      · rename_i r' heq
        cases heq
        rw [← ht]; exact h
      · rename_i _ hne
        exact absurd rfl (hne (c :: r))

theorem splitLinesAux_physical (text acc : Str) (hacc : '\n' ∉ acc) : ∀ l ∈ Rd.splitLinesAux text acc, NoInnerNl l := by
  induction text generalizing acc with
  | nil =>
    intro l hl
    simp only [Rd.splitLinesAux] at hl
    split at hl
    · cases hl
    · simp only [List.mem_singleton] at hl
      subst hl
      exact noInnerNl_plain _ (fun hm => hacc (List.mem_reverse.mp hm))
  | cons c cs ih =>
    intro l hl
    simp only [Rd.splitLinesAux] at hl
    split at hl
    · rename_i hc
      have hc' : c = '\n' := by simpa using hc
      subst hc'
      rcases List.mem_cons.mp hl with rfl | hl
      · rw [List.reverse_cons]
        exact noInnerNl_terminated _ (fun hm => hacc (List.mem_reverse.mp hm))
      · exact ih [] (by simp) l hl
    · rename_i hc
      have hc' : c ≠ '\n' := by simpa using hc
      exact ih (c :: acc) (by
        intro hm
        rcases List.mem_cons.mp hm with h | h
        · exact hc' h.symm
        · exact hacc h) l hl

/-- every line of a text split as `io.StringIO` does has its line feed at the end only -/
theorem splitLines_physical (text : Str) : ∀ l ∈ Rd.splitLines text, NoInnerNl l :=
  splitLinesAux_physical text [] (by simp)

/-! ## §13 the layout of a header line (through C04) -/

/-- a non-empty stripped string starts and ends with a non-blank -/
theorem solid_of_strip (s : Str) (hs : strip s = s) (hne : s ≠ []) : Solid s := by
  constructor
  · cases s with
    | nil => exact absurd rfl hne
    | cons c cs => exact ⟨c, cs, rfl, strip_head_nospace _ c (by rw [hs]; rfl)⟩
  · exact ⟨s.dropLast, s.getLast hne, (List.dropLast_concat_getLast hne).symm,
      strip_getLast_nospace s _ (by rw [hs]; exact List.getLast?_eq_some_getLast hne)⟩

theorem solid_append {a b : Str} (ha : Solid a) (hb : Solid b) (m : Str) : Solid (a ++ (m ++ b)) := by
  obtain ⟨h, tl, e1, hh⟩ := ha.head
  obtain ⟨ini, z, e2, hz⟩ := hb.last
  exact ⟨⟨h, tl ++ (m ++ b), by rw [e1]; rfl, hh⟩, ⟨a ++ (m ++ ini), z, by rw [e2]; simp, hz⟩⟩

/-- the padding left in front of the description after `strip()` -/
def descrPad (f : Fields) (p4 : Str) : Str := if f.descr = [] then [] else p4

/-- what the reader's `strip()` leaves of a laid-out line -/
theorem strip_layout (sec : SecName) (f : Fields) (hc : Conf sec f) (P0 P1 P2 P3 P4 P5 e : Str)
    (h0 : AllWs P0) (h4 : AllWs P4) (h5 : AllWs P5) (he : AllWs e) :
    strip (layoutFields f P0 P1 P2 P3 P4 P5 ++ e) = layoutFields f [] P1 P2 P3 (descrPad f P4) [] := by
  have hname : Solid f.name := solid_of_strip f.name hc.name_strip hc.name_ne
  have hcolon : Solid [':'] := ⟨⟨':', [], rfl, by decide⟩, ⟨[], ':', rfl, by decide⟩⟩
  by_cases hd : f.descr = []
  · have hM : Solid (f.name ++ ((P1 ++ '.' :: (f.unit ++ P2 ++ f.value ++ P3)) ++ [':'])) := solid_append hname hcolon _
    have e1 : layoutFields f P0 P1 P2 P3 P4 P5 ++ e =
        P0 ++ ((f.name ++ ((P1 ++ '.' :: (f.unit ++ P2 ++ f.value ++ P3)) ++ [':'])) ++ (P4 ++ P5 ++ e)) := by
      simp [layoutFields, hd]
    have e2 : layoutFields f [] P1 P2 P3 (descrPad f P4) [] = f.name ++ ((P1 ++ '.' :: (f.unit ++ P2 ++ f.value ++ P3)) ++ [':']) := by
      simp [layoutFields, descrPad, hd]
    rw [e1, e2]
    exact strip_sandwich P0 _ _ h0 (allWs_append (allWs_append h4 h5) he) hM
  · have hdescr : Solid f.descr := solid_of_strip f.descr hc.descr_strip hd
    have hM : Solid (f.name ++ ((P1 ++ '.' :: (f.unit ++ P2 ++ f.value ++ P3) ++ ':' :: P4) ++ f.descr)) :=
      solid_append hname hdescr _
    have e1 : layoutFields f P0 P1 P2 P3 P4 P5 ++ e =
        P0 ++ ((f.name ++ ((P1 ++ '.' :: (f.unit ++ P2 ++ f.value ++ P3) ++ ':' :: P4) ++ f.descr)) ++ (P5 ++ e)) := by
      simp [layoutFields]
    have e2 : layoutFields f [] P1 P2 P3 (descrPad f P4) [] =
        f.name ++ ((P1 ++ '.' :: (f.unit ++ P2 ++ f.value ++ P3) ++ ':' :: P4) ++ f.descr) := by
      simp [layoutFields, descrPad, hd]
    rw [e1, e2]
    exact strip_sandwich P0 _ _ h0 (allWs_append h5 he) hM

/-- the side condition of `relayout` on the line: the reader parses it to conformant fields (C04's `Conf`), the new paddings —
as the reader meets them after `strip()` — are admissible (C04's `PadOK`), and neither the line nor the mnemonic starts with
`#` or `~` -/
structure RelayOK (sec : SecName) (p1 p2 p3 p4 : Str) (a : Str) (f : Fields) : Prop where
  parsed : parseHeaderLine sec (strip a) = some f
  conf : Conf sec f
  pads : PadOK sec f [] (blanksOf p1) (blanksOf p2) (blanksOf p3) (descrPad f (blanksOf p4)) []
  line_ne : strip a ≠ []
  line_head : (strip a).head? ≠ some '#' ∧ (strip a).head? ≠ some '~'
  name_head : f.name.head? ≠ some '#' ∧ f.name.head? ≠ some '~'

theorem lineRes_item (o : Rd.ReadOpts) (p : Rd.Parser) (a : Str) (f : Fields) (hne : strip a ≠ [])
    (hh : (strip a).head? ≠ some '#' ∧ (strip a).head? ≠ some '~') (hp : parseHeaderLine p.sec (strip a) = some f) :
    Rd.lineRes o p a = .item (Rd.mkItem' p { f with name := Rd.applyCase o.mnemonicCase f.name }) := by
  unfold Rd.lineRes
  rw [Rd.lineStrip_eq_strip]
  cases hs : strip a with
  | nil => exact absurd hs hne
  | cons c cs =>
    rw [hs] at hh hp
    have h1 : c ≠ '#' := fun e => hh.1 (by simp [e])
    have h2 : c ≠ '~' := fun e => hh.2 (by simp [e])
    have h3 : Rd.startsTilde (c :: cs) = false := by
      unfold Rd.startsTilde
      split
      · rename_i heq; cases heq; exact absurd rfl h2
      · rfl
    simp [h1, h3, hp]

/-- HEADER LINE LAYOUT, reader level: the laid-out line gives the same item as the line -/
theorem relayout_lineRes (o : Rd.ReadOpts) (p : Rd.Parser) (sec : SecName) (hsec : p.sec = sec) (p0 p1 p2 p3 p4 p5 a : Str) (f : Fields)
    (h : RelayOK sec p1 p2 p3 p4 a f) :
    Rd.lineRes o p a = Rd.lineRes o p (relayoutLine1 sec p0 p1 p2 p3 p4 p5 a) ∧
    Rd.isTitle a = false ∧ Rd.isTitle (relayoutLine1 sec p0 p1 p2 p3 p4 p5 a) = false := by
  have hs : strip (splitEol a).1 = strip a := strip_splitEol a
  have ha' : relayoutLine1 sec p0 p1 p2 p3 p4 p5 a =
      layoutFields f (blanksOf p0) (blanksOf p1) (blanksOf p2) (blanksOf p3) (blanksOf p4) (blanksOf p5) ++ (splitEol a).2 := by
    unfold relayoutLine1
    simp only [hs, h.parsed]
  have hstrip : strip (relayoutLine1 sec p0 p1 p2 p3 p4 p5 a) =
      layoutFields f [] (blanksOf p1) (blanksOf p2) (blanksOf p3) (descrPad f (blanksOf p4)) [] := by
    rw [ha']
    exact strip_layout sec f h.conf _ _ _ _ _ _ _ (allWs_blanksOf p0) (allWs_blanksOf p4) (allWs_blanksOf p5) (splitEol_allWs a)
  have hL : parseHeaderLine sec (strip (relayoutLine1 sec p0 p1 p2 p3 p4 p5 a)) = some f := by
    rw [hstrip]
    exact C04_main_all sec f [] _ _ _ _ [] h.conf h.pads
  obtain ⟨c, cs, hn⟩ : ∃ c cs, f.name = c :: cs := by
    cases hf : f.name with
    | nil => exact absurd hf h.conf.name_ne
    | cons c cs => exact ⟨c, cs, rfl⟩
  have hhead : (strip (relayoutLine1 sec p0 p1 p2 p3 p4 p5 a)).head? = f.name.head? := by
    rw [hstrip, hn]; simp [layoutFields, hn]
  have hne' : strip (relayoutLine1 sec p0 p1 p2 p3 p4 p5 a) ≠ [] := by
    rw [hstrip]; simp [layoutFields, hn]
  have hh' : (strip (relayoutLine1 sec p0 p1 p2 p3 p4 p5 a)).head? ≠ some '#' ∧
      (strip (relayoutLine1 sec p0 p1 p2 p3 p4 p5 a)).head? ≠ some '~' := by rw [hhead]; exact h.name_head
  have title_false : ∀ x : Str, strip x ≠ [] → (strip x).head? ≠ some '~' → Rd.isTitle x = false := by
    intro x hx hh
    rw [Rd.isTitle_eq]
    cases hsx : strip x with
    | nil => rfl
    | cons c cs =>
      rw [hsx] at hh
      unfold Rd.startsTilde
      split
      · rename_i heq; cases heq; exact absurd rfl hh
      · rfl
  refine ⟨?_, title_false a h.line_ne h.line_head.2, title_false _ hne' hh'.2⟩
  rw [lineRes_item o p a f h.line_ne h.line_head (by rw [hsec]; exact h.parsed),
    lineRes_item o p _ f hne' hh' (by rw [hsec]; exact hL)]

/-- the side condition of `relayout` on the document: line `k` is an item line of a header-items section whose parser hands
`sec` to the line grammar, and `RelayOK` -/
def RelayoutOK (d : Doc) (k : Nat) (sec : SecName) (p1 p2 p3 p4 : Str) : Prop :=
  ∀ a, d[k]? = some a → ∃ t f, ctxAt .pre d k = .sec t ∧ kindOf t = .items ∧
    (∀ ver p, Rd.mkParser (Rd.lineStrip t) ver = .ok p → p.sec = sec) ∧ RelayOK sec p1 p2 p3 p4 a f

theorem sim_relayout (dlm : Dlm) (d : Doc) (k : Nat) (sec : SecName) (p0 p1 p2 p3 p4 p5 : Str)
    (h : RelayoutOK d k sec p1 p2 p3 p4) : Sim dlm .pre d (relayout k sec p0 p1 p2 p3 p4 p5 d) := by
  apply sim_mapAt
  intro a ha
  obtain ⟨t, f, hc, hk, hp, hr⟩ := h a ha
  right
  have key := fun o p hsec => relayout_lineRes o p sec hsec p0 p1 p2 p3 p4 p5 a f hr
  have nt : Rd.isTitle a = false ∧ Rd.isTitle (relayoutLine1 sec p0 p1 p2 p3 p4 p5 a) = false := by
    have := key ⟨false, .preserve⟩ ⟨.metadata, sec, [], []⟩ rfl
    exact this.2
  refine ⟨nt.1, nt.2, ?_⟩
  rw [hc]
  simp only [BodyEq, hk]
  intro o ver p hmk
  exact (key o p (hp ver p hmk)).1

end Lasio.Tf
