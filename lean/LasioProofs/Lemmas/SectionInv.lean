import LasioModel.Section
import LasioProofs.Lemmas.StrLemmas
/-
Duplicate-mnemonic disambiguation in `SectionItems` (C13, C14, C15, C17, and the writer's copy of it in the cycle files):
the comparison key `ckey`, the suffix invariant `Inv` and its preservation by `renumber` / `assignSuffixes` / list surgery;
the inversion of the `Except`-valued operations (`delitem`, `setValue`, `pop`).
-/
namespace Lasio

/-- comparison key: `cmpStr tr a b = (ckey tr a == ckey tr b)` -/
def ckey (tr : Bool) (s : Str) : Str := if tr then upper s else s

theorem cmpStr_eq_ckey (tr : Bool) (a b : Str) : cmpStr tr a b = (ckey tr a == ckey tr b) := by
  cases tr <;> simp [cmpStr, ckey]

theorem cmpStr_true_iff (tr : Bool) (a b : Str) : cmpStr tr a b = true ↔ ckey tr a = ckey tr b := by
  rw [cmpStr_eq_ckey]; simp

theorem cmpStr_false_iff (tr : Bool) (a b : Str) : cmpStr tr a b = false ↔ ckey tr a ≠ ckey tr b := by
  rw [cmpStr_eq_ckey]; simp

theorem cmpStr_refl (tr : Bool) (a : Str) : cmpStr tr a a = true :=
  (cmpStr_true_iff tr a a).mpr rfl

theorem ckey_suffix (tr : Bool) (u : Str) (k : Nat) :
    ckey tr (u ++ ':' :: natToStr k) = ckey tr u ++ ':' :: natToStr k := by
  cases tr
  · rfl
  · have := upper_natToStr k
    unfold upper at this
    simp [ckey, upper, (by decide : upperC ':' = ':'), this]

/-- splitting at the last colon: digit strings contain no colon -/
theorem colon_split (x y d1 d2 : Str) (h1 : ':' ∉ d1) (h2 : ':' ∉ d2)
    (h : x ++ ':' :: d1 = y ++ ':' :: d2) : x = y ∧ d1 = d2 := by
  rcases List.append_eq_append_iff.mp h with ⟨a', hy, hd⟩ | ⟨c', hx, hd⟩
  · cases a' with
    | nil => simp at hy hd; exact ⟨hy.symm, hd⟩
    | cons c a'' =>
      simp at hd
      exact absurd (by rw [hd.2]; simp) h1
  · cases c' with
    | nil => simp at hx hd; exact ⟨hx, hd.symm⟩
    | cons c c'' =>
      simp at hd
      exact absurd (by rw [hd.2]; simp) h2

theorem suffix_inj (x y : Str) (k m : Nat)
    (h : x ++ ':' :: natToStr k = y ++ ':' :: natToStr m) : x = y ∧ k = m := by
  obtain ⟨h1, h2⟩ := colon_split x y _ _ (colon_not_mem_natToStr k) (colon_not_mem_natToStr m) h
  exact ⟨h1, natToStr_inj k m h2⟩

/-- the session name is the useful name, bare or with a `:k` suffix (k ≥ 1) -/
def SuffixForm (it : Item) : Prop :=
  it.session = useful it.orig ∨ ∃ k, 1 ≤ k ∧ it.session = useful it.orig ++ ':' :: natToStr k

/-- two items of the same group are both suffixed, with strictly increasing numbers -/
def Rel (tr : Bool) (a b : Item) : Prop :=
  ckey tr (useful a.orig) = ckey tr (useful b.orig) →
    ∃ ka kb, 1 ≤ ka ∧ ka < kb ∧ a.session = useful a.orig ++ ':' :: natToStr ka ∧
      b.session = useful b.orig ++ ':' :: natToStr kb

/-- the invariant: (a) every item has SuffixForm; (b) two items of the same group (same ckey of useful orig),
at positions i < j, are BOTH suffixed, with strictly increasing numbers -/
def Inv (s : Section) : Prop :=
  (∀ it ∈ s.items, SuffixForm it) ∧
  s.items.Pairwise (fun a b => ckey s.tr (useful a.orig) = ckey s.tr (useful b.orig) →
     ∃ ka kb, 1 ≤ ka ∧ ka < kb ∧ a.session = useful a.orig ++ ':' :: natToStr ka ∧
       b.session = useful b.orig ++ ':' :: natToStr kb)

theorem inv_iff (s : Section) :
    Inv s ↔ (∀ it ∈ s.items, SuffixForm it) ∧ s.items.Pairwise (Rel s.tr) := Iff.rfl

/-- the invariant except that nothing is claimed about pairs whose first component is in the group of `t` -/
def InvExcept (tr : Bool) (t : Str) (l : List Item) : Prop :=
  (∀ it ∈ l, SuffixForm it) ∧
  l.Pairwise (fun a b => ckey tr (useful a.orig) ≠ ckey tr t → Rel tr a b)

theorem invExcept_of_inv (s : Section) (t : Str) (h : Inv s) : InvExcept s.tr t s.items :=
  ⟨h.1, List.Pairwise.imp (R := Rel s.tr)
    (S := fun a b => ckey s.tr (useful a.orig) ≠ ckey s.tr t → Rel s.tr a b) (fun hr _ => hr) h.2⟩

theorem InvExcept.sublist {tr t} {l l' : List Item} (hs : List.Sublist l' l) (h : InvExcept tr t l) :
    InvExcept tr t l' :=
  ⟨fun it hit => h.1 it (hs.subset hit), h.2.sublist hs⟩

/-- an item of the group of `t` may be put anywhere: nothing is claimed about pairs it takes part in -/
theorem invExcept_insert (tr : Bool) (t : Str) (l1 l2 : List Item) (it : Item)
    (h : InvExcept tr t (l1 ++ l2)) (hs : SuffixForm it)
    (hg : ckey tr (useful it.orig) = ckey tr t) : InvExcept tr t (l1 ++ it :: l2) := by
  obtain ⟨h1, h2⟩ := h
  rw [List.pairwise_append] at h2
  refine ⟨?_, List.pairwise_append.mpr ⟨h2.1, List.pairwise_cons.mpr ⟨fun y _ hy => absurd hg hy, h2.2.1⟩, ?_⟩⟩
  · simp only [List.forall_mem_append, List.forall_mem_cons] at h1 ⊢
    exact ⟨h1.1, hs, h1.2⟩
  · intro x hx y hy
    rcases List.mem_cons.mp hy with rfl | hy
    · exact fun hx' hsame => absurd (hsame.trans hg) hx'
    · exact h2.2.2 x hx y hy

/-- membership of an item in the group of `t` -/
def inGroup (tr : Bool) (t : Str) (it : Item) : Bool := cmpStr tr (useful it.orig) t

/-- an item with its session name replaced by `useful orig ++ ":" ++ k` -/
def withSuffix (it : Item) (k : Nat) : Item :=
  { it with session := useful it.orig ++ ':' :: natToStr k }

theorem countGroup_cons (tr : Bool) (t : Str) (a : Item) (l : List Item) :
    countGroup tr t (a :: l) = (if cmpStr tr (useful a.orig) t then 1 else 0) + countGroup tr t l := by
  unfold countGroup
  rw [List.filter_cons]
  split <;> simp <;> omega

theorem renumber_cons_in (tr : Bool) (t : Str) (a : Item) (as : List Item) (k : Nat)
    (hg : cmpStr tr (useful a.orig) t = true) :
    renumber tr t (a :: as) k =
      { a with session := useful a.orig ++ ':' :: natToStr (k + 1) } :: renumber tr t as (k + 1) := by
  simp [renumber, hg]

theorem renumber_cons_out (tr : Bool) (t : Str) (a : Item) (as : List Item) (k : Nat)
    (hg : ¬ cmpStr tr (useful a.orig) t = true) :
    renumber tr t (a :: as) k = a :: renumber tr t as k := by
  simp [renumber, hg]

theorem renumber_getElem? (tr : Bool) (t : Str) (l : List Item) (k i : Nat) :
    (renumber tr t l k)[i]? = (l[i]?).map (fun it =>
      if inGroup tr t it then withSuffix it (k + countGroup tr t (l.take i) + 1) else it) := by
  induction l generalizing k i with
  | nil => simp [renumber]
  | cons a rest ih =>
    unfold renumber
    by_cases hg : cmpStr tr (useful a.orig) t = true
    · cases i with
      | zero => simp [hg, inGroup, withSuffix, countGroup]
      | succ i =>
        have e : k + 1 + countGroup tr t (List.take i rest) + 1 =
            k + (1 + countGroup tr t (List.take i rest)) + 1 := by omega
        simp [hg, ih (k + 1) i, countGroup_cons, e]
    · have hg' : cmpStr tr (useful a.orig) t = false := by simpa using hg
      cases i with
      | zero => simp [hg', inGroup]
      | succ i => simp [hg', ih k i, countGroup_cons]

theorem mem_renumber (tr : Bool) (t : Str) (l : List Item) (k : Nat) (x : Item)
    (hx : x ∈ renumber tr t l k) :
    (x ∈ l ∧ cmpStr tr (useful x.orig) t = false) ∨
    (∃ y ∈ l, ∃ m, k + 1 ≤ m ∧ cmpStr tr (useful y.orig) t = true ∧
      x = { y with session := useful y.orig ++ ':' :: natToStr m }) := by
  obtain ⟨i, hi⟩ := List.getElem?_of_mem hx
  rw [renumber_getElem?] at hi
  obtain ⟨y, hy, rfl⟩ := Option.map_eq_some_iff.mp hi
  by_cases hg : inGroup tr t y = true
  · rw [if_pos hg]
    exact Or.inr ⟨y, List.mem_of_getElem? hy, _, by omega, hg, rfl⟩
  · rw [if_neg hg]
    exact Or.inl ⟨List.mem_of_getElem? hy, by simpa [inGroup] using hg⟩

theorem renumber_pairwise (tr : Bool) (t : Str) (l : List Item) (k : Nat)
    (h : l.Pairwise (fun a b => ckey tr (useful a.orig) ≠ ckey tr t → Rel tr a b)) :
    (renumber tr t l k).Pairwise (Rel tr) := by
  induction l generalizing k with
  | nil => simp [renumber]
  | cons a rest ih =>
    rw [List.pairwise_cons] at h
    unfold renumber
    by_cases hg : cmpStr tr (useful a.orig) t = true
    · simp only [hg, if_true]
      refine List.pairwise_cons.mpr ⟨?_, ih (k + 1) h.2⟩
      intro x hx hsame
      rcases mem_renumber _ _ _ _ _ hx with ⟨_, hxg⟩ | ⟨y, _, m, hm, _, rfl⟩
      · exact absurd (hsame.symm.trans ((cmpStr_true_iff _ _ _).mp hg)) ((cmpStr_false_iff _ _ _).mp hxg)
      · exact ⟨k + 1, m, by omega, by omega, rfl, rfl⟩
    · simp only [hg, Bool.false_eq_true, if_false]
      refine List.pairwise_cons.mpr ⟨?_, ih k h.2⟩
      intro x hx hsame
      rw [cmpStr_true_iff] at hg
      rcases mem_renumber _ _ _ _ _ hx with ⟨hxl, _⟩ | ⟨y, _, m, _, hyg, rfl⟩
      · exact h.1 x hxl hg hsame
      · exact absurd (hsame.trans ((cmpStr_true_iff _ _ _).mp hyg)) hg

theorem renumber_suffixForm (tr : Bool) (t : Str) (l : List Item) (k : Nat)
    (h : ∀ it ∈ l, SuffixForm it) : ∀ it ∈ renumber tr t l k, SuffixForm it := by
  intro x hx
  rcases mem_renumber _ _ _ _ _ hx with ⟨hxl, _⟩ | ⟨y, _, m, hm, _, rfl⟩
  · exact h x hxl
  · exact Or.inr ⟨m, by omega, rfl⟩

theorem countGroup_append (tr : Bool) (t : Str) (l1 l2 : List Item) :
    countGroup tr t (l1 ++ l2) = countGroup tr t l1 + countGroup tr t l2 := by
  simp [countGroup]

/-- `countGroup` looks at the original mnemonics only … -/
theorem countGroup_congr (tr : Bool) (t : Str) (l l' : List Item) (h : l.map (·.orig) = l'.map (·.orig)) :
    countGroup tr t l = countGroup tr t l' := by
  have e : ∀ l : List Item, countGroup tr t l =
      ((l.map (·.orig)).filter (fun o => cmpStr tr (useful o) t)).length := by
    intro l
    simp [countGroup, List.filter_map, Function.comp_def]
  rw [e, e, h]

/-- … and at the test mnemonic only through its comparison key -/
theorem cmpStr_ckey (tr : Bool) (x a b : Str) (h : ckey tr a = ckey tr b) : cmpStr tr x a = cmpStr tr x b := by
  rw [cmpStr_eq_ckey, cmpStr_eq_ckey, h]

theorem countGroup_ckey (tr : Bool) (t t' : Str) (l : List Item) (h : ckey tr t = ckey tr t') :
    countGroup tr t l = countGroup tr t' l := by
  unfold countGroup
  congr 2
  funext it
  exact cmpStr_ckey tr _ t t' h

theorem pairwise_of_count_le_one (tr : Bool) (t : Str) (l : List Item)
    (h : l.Pairwise (fun a b => ckey tr (useful a.orig) ≠ ckey tr t → Rel tr a b))
    (hc : countGroup tr t l ≤ 1) : l.Pairwise (Rel tr) := by
  induction l with
  | nil => exact List.Pairwise.nil
  | cons a rest ih =>
    rw [List.pairwise_cons] at h
    rw [countGroup_cons] at hc
    refine List.pairwise_cons.mpr ⟨?_, ih h.2 (by omega)⟩
    intro x hx hsame
    by_cases hg : ckey tr (useful a.orig) = ckey tr t
    · exfalso
      have : 0 < countGroup tr t rest := List.length_pos_of_mem
        (List.mem_filter.mpr ⟨hx, (cmpStr_true_iff _ _ _).mpr (hsame.symm.trans hg)⟩)
      rw [if_pos ((cmpStr_true_iff _ _ _).mpr hg)] at hc
      omega
    · exact h.1 x hx hg hsame

/-- re-suffixing the group of `t` restores the full invariant -/
theorem inv_assign (s : Section) (t : Str) (h : InvExcept s.tr t s.items) : Inv (s.assignSuffixes t) := by
  unfold Section.assignSuffixes
  split
  · exact ⟨renumber_suffixForm _ _ _ _ h.1, renumber_pairwise _ _ _ _ h.2⟩
  · exact ⟨h.1, pairwise_of_count_le_one _ _ _ h.2 (by omega)⟩

theorem suffixForm_mkItem (o u v d : Str) : SuffixForm (mkItem o u v d) := Or.inl (Eq.refl (useful o))

/-- put a fresh (bare) item between two halves of a section satisfying the invariant, then re-suffix its group -/
theorem inv_insert_assign (s : Section) (l1 l2 : List Item) (it : Item) (hl : s.items = l1 ++ l2)
    (h : Inv s) (hs : SuffixForm it) :
    Inv ((⟨l1 ++ it :: l2, s.tr⟩ : Section).assignSuffixes (useful it.orig)) :=
  inv_assign _ _ (invExcept_insert s.tr _ l1 l2 it (hl ▸ invExcept_of_inv s _ h) hs rfl)

theorem inv_sublist (tr : Bool) (l l' : List Item) (hs : List.Sublist l' l) (h : Inv ⟨l, tr⟩) : Inv ⟨l', tr⟩ :=
  ⟨fun it hit => h.1 it (hs.subset hit), h.2.sublist hs⟩

theorem inv_set_assign (tr : Bool) (l : List Item) (i : Nat) (it : Item)
    (h : Inv ⟨l, tr⟩) (hs : SuffixForm it) :
    Inv ((⟨l.set i it, tr⟩ : Section).assignSuffixes (useful it.orig)) := by
  rw [List.set_eq_take_append_cons_drop]
  split
  · apply inv_insert_assign ⟨_, tr⟩ _ _ it rfl _ hs
    apply inv_sublist tr l _ _ h
    rw [← List.eraseIdx_eq_take_drop_succ]
    exact List.eraseIdx_sublist l i
  · exact inv_assign _ _ (invExcept_of_inv ⟨l, tr⟩ _ h)

/-- `Inv` only depends on the (orig, session) pairs -/
theorem inv_congr (tr : Bool) (l l' : List Item)
    (he : l'.map (fun it => (it.orig, it.session)) = l.map (fun it => (it.orig, it.session)))
    (h : Inv ⟨l, tr⟩) : Inv ⟨l', tr⟩ := by
  let P : Str × Str → Prop := fun p =>
    p.2 = useful p.1 ∨ ∃ k, 1 ≤ k ∧ p.2 = useful p.1 ++ ':' :: natToStr k
  let R : Str × Str → Str × Str → Prop := fun a b =>
    ckey tr (useful a.1) = ckey tr (useful b.1) →
      ∃ ka kb, 1 ≤ ka ∧ ka < kb ∧ a.2 = useful a.1 ++ ':' :: natToStr ka ∧
        b.2 = useful b.1 ++ ':' :: natToStr kb
  have key : ∀ l : List Item, Inv ⟨l, tr⟩ ↔ (∀ p ∈ l.map (fun it => (it.orig, it.session)), P p) ∧
      (l.map (fun it => (it.orig, it.session))).Pairwise R :=
    fun l => by rw [List.forall_mem_map, List.pairwise_map]; rfl
  rw [key] at h ⊢
  rwa [he]

/-- re-suffixing rewrites session names only: a function of an item that ignores `session` sees no change -/
theorem renumber_map {β} (f : Item → β) (hf : ∀ a x, f { a with session := x } = f a) (tr : Bool) (t : Str)
    (l : List Item) (n : Nat) : (renumber tr t l n).map f = l.map f := by
  induction l generalizing n with
  | nil => rfl
  | cons a as ih =>
    unfold renumber
    split <;> simp [ih, hf]

theorem assign_map {β} (f : Item → β) (hf : ∀ a x, f { a with session := x } = f a) (s : Section) (t : Str) :
    (s.assignSuffixes t).items.map f = s.items.map f := by
  unfold Section.assignSuffixes
  split
  · exact renumber_map f hf _ _ _ _
  · rfl

theorem renumber_length (tr : Bool) (t : Str) (l : List Item) (n : Nat) :
    (renumber tr t l n).length = l.length := by
  have := congrArg List.length (renumber_map (·.orig) (fun _ _ => rfl) tr t l n)
  simpa using this

theorem assign_origs (s : Section) (t : Str) : (s.assignSuffixes t).origs = s.origs :=
  assign_map (·.orig) (fun _ _ => rfl) s t

theorem assign_tr (s : Section) (t : Str) : (s.assignSuffixes t).tr = s.tr := by
  unfold Section.assignSuffixes
  split <;> rfl

theorem inGroup_ckey (tr : Bool) (t u : Str) (h : ckey tr t = ckey tr u) : inGroup tr t = inGroup tr u :=
  funext fun _ => cmpStr_ckey tr _ t u h

theorem renumber_filter_in (tr : Bool) (t : Str) (l : List Item) (k : Nat) :
    (renumber tr t l k).filter (inGroup tr t) =
      ((l.filter (inGroup tr t)).zipIdx k).map (fun p => withSuffix p.1 (p.2 + 1)) := by
  induction l generalizing k with
  | nil => rfl
  | cons a rest ih =>
    by_cases hg : cmpStr tr (useful a.orig) t = true
    · rw [renumber_cons_in _ _ _ _ _ hg, List.filter_cons_of_pos (show inGroup tr t a = true from hg),
        List.filter_cons_of_pos (show inGroup tr t { a with session := useful a.orig ++ ':' :: natToStr (k + 1) } = true
          from hg), List.zipIdx_cons, List.map_cons, ih (k + 1)]
      rfl
    · rw [renumber_cons_out _ _ _ _ _ hg, List.filter_cons_of_neg (show ¬ inGroup tr t a = true from hg),
        List.filter_cons_of_neg (show ¬ inGroup tr t a = true from hg), ih k]

/-- a filter that rejects the whole group of `t`, whatever the session names, does not see the re-suffixing -/
theorem renumber_filter_of_not (tr : Bool) (t : Str) (p : Item → Bool)
    (hp : ∀ a x, inGroup tr t a = true → p { a with session := x } = false) (l : List Item) (k : Nat) :
    (renumber tr t l k).filter p = l.filter p := by
  induction l generalizing k with
  | nil => rfl
  | cons a rest ih =>
    by_cases hg : cmpStr tr (useful a.orig) t = true
    · have h1 := hp a (useful a.orig ++ ':' :: natToStr (k + 1)) hg
      have h2 : p a = false := hp a a.session hg
      rw [renumber_cons_in _ _ _ _ _ hg, List.filter_cons_of_neg (by rw [h1]; exact Bool.false_ne_true),
        List.filter_cons_of_neg (by rw [h2]; exact Bool.false_ne_true), ih]
    · rw [renumber_cons_out _ _ _ _ _ hg, List.filter_cons, List.filter_cons, ih]

theorem renumber_filter_out (tr : Bool) (t : Str) (l : List Item) (k : Nat) :
    (renumber tr t l k).filter (fun it => !inGroup tr t it) = l.filter (fun it => !inGroup tr t it) :=
  renumber_filter_of_not tr t _ (fun a x hg => by rw [show inGroup tr t { a with session := x } = true from hg]; rfl) l k

theorem assign_getElem? (s : Section) (t : Str) (i : Nat) :
    (s.assignSuffixes t).items[i]? = (s.items[i]?).map (fun it =>
      if inGroup s.tr t it && decide (1 < countGroup s.tr t s.items) then
        withSuffix it (countGroup s.tr t (s.items.take i) + 1) else it) := by
  unfold Section.assignSuffixes
  split
  next h => simp [renumber_getElem?, show 1 < countGroup s.tr t s.items from h]
  next h => simp [show ¬ 1 < countGroup s.tr t s.items from h]
theorem pyIndex_lt {len : Nat} {i : Int} {j : Nat} (h : pyIndex len i = some j) : j < len := by
  unfold pyIndex at h
  split at h
  · split at h
    · simp at h; omega
    · simp at h
  · split at h
    · simp at h; omega
    · simp at h

theorem delitem_ok_iff (s s' : Section) (k : Key) :
    s.delitem k = .ok s' ↔ ∃ i, s.getitem k = .ok i ∧ s' = { s with items := s.items.eraseIdx i } := by
  unfold Section.delitem
  cases s.getitem k <;> simp [eq_comm]

theorem setValue_ok_iff (s s' : Section) (k : Key) (v : Str) :
    s.setValue k v = .ok s' ↔
      ∃ i, s.getitem k = .ok i ∧ s' = { s with items := s.items.modify i (fun it => { it with value := v }) } := by
  unfold Section.setValue
  cases s.getitem k <;> simp [eq_comm]

theorem pop_ok_iff (s s' : Section) (n : Int) :
    s.pop n = .ok s' ↔ ∃ j, pyIndex s.items.length n = some j ∧ s' = { s with items := s.items.eraseIdx j } := by
  unfold Section.pop
  cases pyIndex s.items.length n <;> simp [eq_comm]

end Lasio
