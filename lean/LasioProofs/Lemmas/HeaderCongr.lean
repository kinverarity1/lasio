import LasioProofs.Lemmas.FileDlm
/-
CONGRUENCE of the header writer in the item TEXTS.

`Wr.headerLines v wrap width las` formats, per section, the lines `formatItem (orderOf … it.orig) (sectionWidths …) it`; an item enters
only through `text4 it = (original mnemonic, unit, the text printed for the value, descr)` — `get_section_widths` is computed from the same
four texts, the order is looked up by the original mnemonic.  Two warts of the code are visible in the statement:
  * ~Version is not formatted as it is but as the COPY `RH.versionCopy v wrap las` (WRAP and VERS set by `SectionItems.set_item`, which
    looks the items up by their SESSION mnemonic under `mnemonic_transforms`): the ~Version hypothesis is about that copy;
  * ~Well / ~Parameter values are formatted after `standardize_value`, which looks at `not value`, `value == 0`, `value is None`:
    the hypothesis is about `Wr.standardizeItems las.well` (`standardize_text4_of_values` gives it from equal values).

The congruence is `writeSection_congr` / `headerLines_congr`; its use is `header_text_fixed`: under the hypotheses of
`Fd.cycle_core_dlm`, `CaseStable` on both sides and stripped ~Other lines, the header lines of the re-read object are those of
the original.  Without the last two hypotheses (read option not "lower") the header of the SECOND re-read is the header of the
first: the case mapping and the stripping of ~Other lines are one-step effects.
-/
namespace Lasio.Hc
open Lasio Lasio.Wr

/-- the four texts of an item that reach the file -/
def text4 (it : WItem) : Str × Str × Str × Str := (it.orig, it.unit, it.value.text, it.descr)

def rhs4 (o : Order) (t : Str × Str × Str × Str) : Str := match o with | .valueDescr => t.2.2.1 | .descrValue => t.2.2.2
def last4 (o : Order) (t : Str × Str × Str × Str) : Str := match o with | .valueDescr => t.2.2.2 | .descrValue => t.2.2.1

def widths4 (ord : Str → Order) (ts : List (Str × Str × Str × Str)) : Widths :=
  if ts.isEmpty then ⟨10, 40⟩ else
    ⟨maxList (ts.map fun t => t.1.length), maxList (ts.map fun t => t.2.1.length + 1 + (rhs4 (ord t.1) t).length)⟩

def format4 (o : Order) (W : Widths) (t : Str × Str × Str × Str) : Str :=
  ljust W.left ' ' t.1 ++
    '.' :: (t.2.1 ++ List.replicate (W.middle - t.2.1.length - (rhs4 o t).length) ' ' ++ rhs4 o t ++ ' ' :: ':' :: ' ' :: last4 o t)

def lines4 (ord : Str → Order) (ts : List (Str × Str × Str × Str)) : List Str :=
  ts.map fun t => format4 (ord t.1) (widths4 ord ts) t

theorem rhs4_eq (o : Order) (it : WItem) : rhs4 o (text4 it) = rhsOf o it := by cases o <;> rfl
theorem last4_eq (o : Order) (it : WItem) : last4 o (text4 it) = lastOf o it := by cases o <;> rfl

theorem widths4_eq (ord : Str → Order) (items : List WItem) : widths4 ord (items.map text4) = sectionWidths ord items := by
  unfold widths4 sectionWidths
  cases items with
  | nil => rfl
  | cons it rest =>
    simp only [List.map_cons, List.isEmpty_cons, Bool.false_eq_true, if_false, List.map_map, rhs4_eq]
    rfl

theorem format4_eq (o : Order) (W : Widths) (it : WItem) : format4 o W (text4 it) = formatItem o W it := by
  unfold format4 formatItem
  rw [rhs4_eq, last4_eq]
  rfl

theorem sectionLines_eq (ord : Str → Order) (items : List WItem) : sectionLines ord items = lines4 ord (items.map text4) := by
  unfold sectionLines lines4
  rw [widths4_eq, List.map_map]
  apply List.map_congr_left
  intro it _
  simp only [Function.comp]
  rw [format4_eq]
  rfl

/-- two lists that agree under `f`, position by position, agree under every `g` that `f` determines on their elements -/
theorem map_eq_of_map_eq {α β γ : Type} {f : α → β} {g : α → γ} : ∀ {l l' : List α}, l.map f = l'.map f →
    (∀ a ∈ l, ∀ b ∈ l', f a = f b → g a = g b) → l.map g = l'.map g
  | [], [], _, _ => rfl
  | [], _ :: _, h, _ => nomatch h
  | _ :: _, [], h, _ => nomatch h
  | a :: l, b :: l', h, hg => by
    simp only [List.map_cons, List.cons.injEq] at h ⊢
    exact ⟨hg a (by simp) b (by simp) h.1, map_eq_of_map_eq h.2 fun x hx y hy => hg x (by simp [hx]) y (by simp [hy])⟩

theorem all_eq_of_map_eq {α β : Type} {f : α → β} {p : α → Bool} {l l' : List α} (h : l.map f = l'.map f)
    (hp : ∀ a ∈ l, ∀ b ∈ l', f a = f b → p a = p b) : l.all p = l'.all p := by
  have := congrArg (List.all · id) (map_eq_of_map_eq h hp)
  simpa only [List.all_map, Function.id_comp] using this

/-- **one section**: the same four texts, position by position, give the same result -/
theorem writeSection_congr (version sect : String) (l l' : List WItem) (h : l.map text4 = l'.map text4) :
    writeSection version sect l = writeSection version sect l' := by
  unfold writeSection
  cases sectionOrders version sect with
  | none => rfl
  | some r =>
    simp only
    rw [sectionLines_eq, sectionLines_eq, h]
    congr 2
    -- the order test looks at the original mnemonic only
    exact all_eq_of_map_eq h fun a _ b _ e => by rw [show a.orig = b.orig from congrArg (·.1) e]

/-- **The header writer depends on the items through their four texts only.** -/
theorem headerLines_congr (version : String) (wrap : Option Bool) (w : Nat) (las las2 la lb : WLas) (lines lines2 : List Str)
    (h1 : headerLines version wrap w las = .ok (lines, la)) (h2 : headerLines version wrap w las2 = .ok (lines2, lb))
    (hV : (RH.versionCopy version wrap las).map text4 = (RH.versionCopy version wrap las2).map text4)
    (hW : (standardizeItems las.well).map text4 = (standardizeItems las2.well).map text4)
    (hC : las.curves.map text4 = las2.curves.map text4)
    (hP : (standardizeItems las.params).map text4 = (standardizeItems las2.params).map text4)
    (hO : splitlines las.other = splitlines las2.other) : lines = lines2 := by
  obtain ⟨_, lv, lw, lc, lp, a1, a2, a3, a4, _, a5⟩ := RH.headerLines_ok version wrap w las la lines h1
  obtain ⟨_, lv', lw', lc', lp', b1, b2, b3, b4, _, b5⟩ := RH.headerLines_ok version wrap w las2 lb lines2 h2
  rw [writeSection_congr _ _ _ _ hV, b1] at a1
  rw [writeSection_congr _ _ _ _ hW, b2] at a2
  rw [writeSection_congr _ _ _ _ hC, b3] at a3
  rw [writeSection_congr _ _ _ _ hP, b4] at a4
  cases a1; cases a2; cases a3; cases a4
  rw [a5, b5, hO]

theorem standardize_text4_of_values (l l' : List WItem)
    (h : l.map (fun it => (it.orig, it.unit, it.value, it.descr)) = l'.map (fun it => (it.orig, it.unit, it.value, it.descr))) :
    (standardizeItems l).map text4 = (standardizeItems l').map text4 := by
  unfold standardizeItems
  rw [List.map_map, List.map_map]
  refine map_eq_of_map_eq h fun a _ b _ e => ?_
  simp only [Prod.mk.injEq] at e
  obtain ⟨e1, e2, e3, e4⟩ := e
  simp only [Function.comp, text4, e1, e2, e3, e4]

/-! ## from "the reader returns the same items" to "the same four texts" -/

/-- the mnemonics are fixed by the case map of the read option -/
def CaseStable (o : Rd.ReadOpts) (l : List WItem) : Prop :=
  ∀ it ∈ l, caseMap (RH.cvtCase o.mnemonicCase) it.orig = it.orig

theorem caseStable_preserve (o : Rd.ReadOpts) (h : o.mnemonicCase = .preserve) (l : List WItem) : CaseStable o l := by
  intro it _
  rw [h]
  rfl

theorem text4_of_rdExpected (o : Rd.ReadOpts) (l l' : List WItem) (h : l.map (rdExpected o) = l'.map (rdExpected o))
    (hs : CaseStable o l) (hs' : CaseStable o l') : l.map text4 = l'.map text4 := by
  refine map_eq_of_map_eq h fun a ha b hb e => ?_
  simp only [rdExpected, Rd.RItem.mk.injEq] at e
  obtain ⟨e1, e2, e3, e4⟩ := e
  rw [hs a ha, hs' b hb] at e1
  simp only [text4, e1, e2, e3, e4]

/-- every line of the ~Other text is already stripped (the reader stores the stripped lines) -/
def OtherStripped (t : Str) : Prop := ∀ l ∈ splitlines t, strip l = l

instance (t : Str) : Decidable (OtherStripped t) := by unfold OtherStripped; infer_instance

/-! ## the re-read object is case-stable by itself (unless `mnemonic_case="lower"`) -/

theorem caseStable_itemsOfRead (o : Rd.ReadOpts) (rv : Str → WVal) (tr : Bool) (l : List WItem) :
    CaseStable o (Cy.itemsOfRead rv tr (l.map (rdExpected o))) := by
  intro z hz
  obtain ⟨s, r, hr, rfl⟩ := Cy.mem_itemsOfRead rv tr _ z hz
  obtain ⟨it, _, rfl⟩ := List.mem_map.mp hr
  exact Cy.caseMap_idem _ _

theorem caseMap_VERS_WRAP (o : Rd.ReadOpts) (hlow : o.mnemonicCase ≠ .lower) :
    caseMap (RH.cvtCase o.mnemonicCase) "VERS".toList = "VERS".toList ∧
    caseMap (RH.cvtCase o.mnemonicCase) "WRAP".toList = "WRAP".toList := by
  cases hc : o.mnemonicCase with
  | lower => exact absurd hc hlow
  | upper => exact ⟨by decide, by decide⟩
  | preserve => exact ⟨rfl, rfl⟩

theorem caseStable_versionCopy (o : Rd.ReadOpts) (version : String) (wrap : Option Bool) (L : WLas)
    (hlow : o.mnemonicCase ≠ .lower) (hL : CaseStable o L.version) : CaseStable o (RH.versionCopy version wrap L) := by
  obtain ⟨hVERS, hWRAP⟩ := caseMap_VERS_WRAP o hlow
  -- an item of the copy has the mnemonic of an item of `L.version`, of the WRAP item or of the VERS item
  refine RH.versionCopy_forall version wrap L _ (fun a b e hb => ?_) hL (fun b => ?_) (fun y hy => ?_)
  · rw [show a.orig = b.orig from congrArg (·.1) e]; exact hb
  · rw [Cy.wrapItem_orig]; exact hWRAP
  · rw [(Cy.versItem_facts false version y hy).1]; exact hVERS

/-- the mnemonics of the object `read()` builds are case-mapped already, and the `VERS` / `WRAP` items `write` substitutes are upper case:
whatever `write` prints for it is fixed by the case map, unless the read option is "lower" -/
theorem caseStable_reread (o : Rd.ReadOpts) (rv : Str → WVal) (version : String) (wrap : Option Bool) (las : WLas)
    (hlow : o.mnemonicCase ≠ .lower) :
    CaseStable o (Cy.writtenItems version wrap (Cy.lasOfRead rv o (Cy.firstRead o version wrap las))) := by
  rw [Cy.lasOfRead_firstRead]
  have hA := caseStable_itemsOfRead o rv (o.mnemonicCase != .preserve)
  have hstd : ∀ (l : List WItem), CaseStable o l → CaseStable o (standardizeItems l) := by
    intro l hl z hz
    obtain ⟨y, hy, rfl⟩ := List.mem_map.mp hz
    exact hl y hy
  intro it hit
  simp only [Cy.writtenItems, List.mem_append] at hit
  rcases hit with ((hit | hit) | hit) | hit
  · exact caseStable_versionCopy o version wrap _ hlow (hA _) it hit
  · exact hstd _ (hA _) it hit
  · exact hA _ it hit
  · exact hstd _ (hA _) it hit

theorem caseStable_parts {o : Rd.ReadOpts} {version : String} {wrap : Option Bool} {L : WLas}
    (h : CaseStable o (Cy.writtenItems version wrap L)) :
    CaseStable o (RH.versionCopy version wrap L) ∧ CaseStable o (standardizeItems L.well) ∧ CaseStable o L.curves ∧
      CaseStable o (standardizeItems L.params) := by
  refine ⟨?_, ?_, ?_, ?_⟩
  all_goals exact fun it hit => h it (by simp [Cy.writtenItems, hit])

/-- **The header text is a fixed point of read -> write.** -/
theorem header_text_fixed (o : Rd.ReadOpts) {rv : Str → WVal} (hrv : Cy.Retype rv) (version : String) (wrap : Option Bool)
    (w : Nat) (las las' : WLas) (lines : List Str) (h : headerLines version wrap w las = .ok (lines, las'))
    (hc : Fd.FileConfD o version wrap las) (hx : Cy.CycleConf o version wrap las) (hsp : Cy.SpeltConf rv version wrap las)
    (hcase : CaseStable o (Cy.writtenItems version wrap las))
    (hcase1 : CaseStable o (Cy.writtenItems version wrap (Cy.lasOfRead rv o (Cy.firstRead o version wrap las))))
    (hoth : OtherStripped las.other) :
    ∃ las2', headerLines version wrap w (Cy.lasOfRead rv o (Cy.firstRead o version wrap las)) = .ok (lines, las2') := by
  have hver := Cy.headerLines_version version wrap w las las' lines h
  obtain ⟨_, _, _, hfix, htot⟩ := Fd.cycle_core_dlm o hrv version wrap las hver hc hx hsp
  obtain ⟨lines2, las2', h2⟩ := htot w
  refine ⟨las2', ?_⟩
  unfold Cy.firstRead at hfix
  simp only [List.cons.injEq, Prod.mk.injEq, Rd.SecVal.items.injEq, Rd.SecVal.text.injEq, true_and, and_true] at hfix
  obtain ⟨fV, fW, fC, fP, fO⟩ := hfix
  obtain ⟨cV, cW, cC, cP⟩ := caseStable_parts hcase
  obtain ⟨dV, dW, dC, dP⟩ := caseStable_parts hcase1
  have eq : lines2 = lines := by
    apply headerLines_congr version wrap w _ las las2' las' lines2 lines h2 h (text4_of_rdExpected o _ _ fV dV cV)
      (text4_of_rdExpected o _ _ fW dW cW) (text4_of_rdExpected o _ _ fC dC cC) (text4_of_rdExpected o _ _ fP dP cP)
    show splitlines (Cy.otherRead las.other) = splitlines las.other
    rw [Cy.splitlines_otherRead _ hx.hol]
    conv => rhs; rw [← List.map_id (splitlines las.other)]
    exact List.map_congr_left hoth
  rw [← eq]
  exact h2

theorem otherStripped_otherRead (t : Str) (h : Cy.OtherLast t) : OtherStripped (Cy.otherRead t) := by
  intro l hl
  rw [Cy.splitlines_otherRead t h] at hl
  obtain ⟨l0, _, rfl⟩ := List.mem_map.mp hl
  exact Rd.strip_idem l0

/-- **AFTER ONE CYCLE the header text is a fixed point, whatever the case of the mnemonics and the padding of the ~Other lines were**
(`mnemonic_case` not "lower"): `las1` the re-read of `las`, `las2` the re-read of `las1`: `headerLines las2` returns the lines of
`headerLines las1`.  (`SpeltConf` is still assumed for `las`: the re-spelling `1.00000 -> 1.0` is not covered.) -/
theorem header_text_fixed_after_one_cycle (o : Rd.ReadOpts) {rv : Str → WVal} (hrv : Cy.Retype rv) (version : String) (wrap : Option Bool)
    (w : Nat) (las : WLas) (hver : version = "1.2" ∨ version = "2.0")
    (hc : Fd.FileConfD o version wrap las) (hx : Cy.CycleConf o version wrap las) (hsp : Cy.SpeltConf rv version wrap las)
    (hlow : o.mnemonicCase ≠ .lower) :
    ∃ lines1 la lb,
      headerLines version wrap w (Cy.lasOfRead rv o (Cy.firstRead o version wrap las)) = .ok (lines1, la) ∧
      headerLines version wrap w (Cy.lasOfRead rv o (Cy.firstRead o version wrap
        (Cy.lasOfRead rv o (Cy.firstRead o version wrap las)))) = .ok (lines1, lb) := by
  obtain ⟨hc1, hx1, hsp1, _, htot⟩ := Fd.cycle_core_dlm o hrv version wrap las hver hc hx hsp
  obtain ⟨lines1, la, h1⟩ := htot w
  obtain ⟨lb, h2⟩ := header_text_fixed o hrv version wrap w _ la lines1 h1 hc1 hx1 hsp1
    (caseStable_reread o rv version wrap las hlow) (caseStable_reread o rv version wrap _ hlow)
    (by rw [Cy.lasOfRead_firstRead]; exact otherStripped_otherRead _ hx.hol)
  exact ⟨lines1, la, lb, h1, h2⟩

end Lasio.Hc

#print axioms Lasio.Hc.writeSection_congr
#print axioms Lasio.Hc.headerLines_congr
#print axioms Lasio.Hc.standardize_text4_of_values
#print axioms Lasio.Hc.text4_of_rdExpected
#print axioms Lasio.Hc.caseStable_reread
#print axioms Lasio.Hc.header_text_fixed
#print axioms Lasio.Hc.header_text_fixed_after_one_cycle
