import LasioModel.Basic
/-
`takeWhile` / `dropWhile` over a run of characters that all satisfy the test, and Python's `str.strip` under padding:
the list facts every scanner and every line reader of the model rests on.  At the end: the code range of a digit,
the inversion of a successful `Except` bind, and decimal rendering (`natToStr`: recursion equations, characters, injectivity).
-/
namespace Lasio

theorem takeWhile_append_all {p : Char → Bool} (a b : Str) (ha : ∀ x ∈ a, p x = true) :
    (a ++ b).takeWhile p = a ++ b.takeWhile p ∧ (a ++ b).dropWhile p = b.dropWhile p := by
  induction a with
  | nil => simp
  | cons x a ih =>
    have hx : p x = true := ha x (by simp)
    have := ih (fun y hy => ha y (by simp [hy]))
    simp [hx, this]

theorem takeWhile_append_stop {p : Char → Bool} (a : Str) (c : Char) (b : Str)
    (ha : ∀ x ∈ a, p x = true) (hc : p c = false) :
    (a ++ c :: b).takeWhile p = a ∧ (a ++ c :: b).dropWhile p = c :: b := by
  simpa [hc] using takeWhile_append_all a (c :: b) ha

theorem takeWhile_all {p : Char → Bool} (a : Str) (ha : ∀ x ∈ a, p x = true) :
    a.takeWhile p = a ∧ a.dropWhile p = [] := by
  simpa using takeWhile_append_all a [] ha

theorem dropWhile_eq_nil {p : Char → Bool} (a : Str) (h : a.dropWhile p = []) :
    ∀ x ∈ a, p x = true := by
  induction a with
  | nil => simp
  | cons x a ih =>
    by_cases hx : p x = true
    · simp only [List.dropWhile_cons, hx, ↓reduceIte] at h
      intro y hy
      rcases List.mem_cons.mp hy with rfl | hy
      · exact hx
      · exact ih h y hy
    · simp [hx] at h

theorem lstrip_allspace (a : Str) (ha : ∀ c ∈ a, isPySpace c = true) : lstrip a = [] :=
  (takeWhile_all a ha).2

theorem rstrip_append_allspace (s b : Str) (hb : ∀ c ∈ b, isPySpace c = true) :
    rstrip (s ++ b) = rstrip s := by
  unfold rstrip
  rw [List.reverse_append, (takeWhile_append_all b.reverse s.reverse (by simpa using hb)).2]

theorem strip_pad (a s b : Str) (ha : ∀ c ∈ a, isPySpace c = true)
    (hb : ∀ c ∈ b, isPySpace c = true) : strip (a ++ s ++ b) = strip s := by
  unfold strip
  have h1 : lstrip (a ++ s ++ b) = lstrip (s ++ b) := by
    unfold lstrip; rw [List.append_assoc]; exact (takeWhile_append_all a (s ++ b) ha).2
  rw [h1]
  have h2 : lstrip (s ++ b) = if (lstrip s).isEmpty then lstrip b else lstrip s ++ b := by
    unfold lstrip; exact List.dropWhile_append
  rw [h2]
  split
  · rename_i he
    have : lstrip s = [] := by simpa using he
    rw [this, lstrip_allspace b hb]
  · exact rstrip_append_allspace _ _ hb

theorem strip_pad_left (a s : Str) (ha : ∀ c ∈ a, isPySpace c = true) : strip (a ++ s) = strip s := by
  simpa using strip_pad a s [] ha (by simp)

theorem strip_pad_right (s b : Str) (hb : ∀ c ∈ b, isPySpace c = true) : strip (s ++ b) = strip s :=
  strip_pad [] s b (by simp) hb

/-- nothing is dropped from a list whose first and last elements fail the test -/
theorem dropWhile_both_eq_self {α} (p : α → Bool) (s : List α) (hh : ∀ c, s.head? = some c → p c = false)
    (hl : ∀ c, s.getLast? = some c → p c = false) : ((s.dropWhile p).reverse.dropWhile p).reverse = s := by
  have h1 : s.dropWhile p = s := by
    cases s with
    | nil => rfl
    | cons c s => simp [hh c (by simp)]
  rw [h1]
  cases hr : s.reverse with
  | nil => have : s = [] := by simpa using hr
           simp [this]
  | cons c r =>
    have hc : p c = false := hl c (by
      rw [← List.head?_reverse, hr]; rfl)
    simp only [List.dropWhile_cons, hc]
    rw [← hr]; simp

theorem strip_eq_self (s : Str) (hh : ∀ c, s.head? = some c → isPySpace c = false)
    (hl : ∀ c, s.getLast? = some c → isPySpace c = false) : strip s = s :=
  dropWhile_both_eq_self isPySpace s hh hl

theorem strip_nospace (s : Str) (h : ∀ c ∈ s, isPySpace c = false) : strip s = s :=
  strip_eq_self s (fun c hc => h c (List.mem_of_mem_head? hc)) (fun c hc => h c (List.mem_of_getLast? hc))

theorem strip_getLast_nospace (s : Str) : ∀ c, (strip s).getLast? = some c → isPySpace c = false := by
  intro c hc
  unfold strip rstrip at hc
  rw [List.getLast?_reverse] at hc
  have := List.head?_dropWhile_not isPySpace (lstrip s).reverse
  rw [hc] at this
  exact this

/-- `rstrip` keeps a prefix, and `lstrip` stops at the first character that is no white space -/
theorem strip_head_nospace (s : Str) : ∀ c, (strip s).head? = some c → isPySpace c = false := by
  intro c hc
  obtain ⟨t, ht⟩ : strip s <+: lstrip s := by
    unfold strip rstrip
    have := List.reverse_prefix.mpr (List.dropWhile_suffix (l := (lstrip s).reverse) isPySpace)
    rwa [List.reverse_reverse] at this
  have := List.head?_dropWhile_not isPySpace s
  unfold lstrip at ht
  cases hs : strip s with
  | nil => rw [hs] at hc; cases hc
  | cons a r =>
    rw [hs] at hc ht
    cases hc
    rw [← ht] at this
    exact this

theorem strip_nil : strip [] = [] := rfl

theorem getLast?_append_ne {α} (X L : List α) (h : L ≠ []) : (X ++ L).getLast? = L.getLast? := by
  rw [List.getLast?_append]
  cases hL : L.getLast? with
  | none => exact absurd (List.getLast?_eq_none_iff.mp hL) h
  | some x => rfl

theorem dropWhile_append_stop {α} (p : α → Bool) (a b : List α) (c : α) (hc : p c = false) :
    (a ++ c :: b).dropWhile p = a.dropWhile p ++ c :: b := by
  rw [List.dropWhile_append]
  split
  · rename_i he
    rw [List.isEmpty_iff.mp he, List.dropWhile_cons_of_neg (by simp [hc]), List.nil_append]
  · rfl

theorem strip_allspace (l : Str) (h : ∀ c ∈ l, isPySpace c = true) : strip l = [] := by
  unfold strip
  rw [lstrip_allspace l h]
  rfl

theorem mem_strip (l : Str) (c : Char) (h : c ∈ strip l) : c ∈ l := by
  unfold strip rstrip lstrip at h
  exact (List.dropWhile_sublist _).mem
    (List.mem_reverse.mp ((List.dropWhile_sublist _).mem (List.mem_reverse.mp h)))

/-- what dropping from both ends removes -/
theorem dropWhile_both_decomp {α} (p : α → Bool) (l : List α) : ∃ pre post, (∀ c ∈ pre, p c = true) ∧
    (∀ c ∈ post, p c = true) ∧ l = pre ++ ((l.dropWhile p).reverse.dropWhile p).reverse ++ post := by
  refine ⟨l.takeWhile p, ((l.dropWhile p).reverse.takeWhile p).reverse,
    fun c hc => List.all_eq_true.mp List.all_takeWhile c hc,
    fun c hc => List.all_eq_true.mp List.all_takeWhile c (List.mem_reverse.mp hc), ?_⟩
  rw [List.append_assoc, ← List.reverse_append, List.takeWhile_append_dropWhile,
    List.reverse_reverse]
  exact List.takeWhile_append_dropWhile.symm

/-- what `strip` removes: white space on either side -/
theorem strip_decomp (l : Str) : ∃ pre post, (∀ c ∈ pre, isPySpace c = true) ∧
    (∀ c ∈ post, isPySpace c = true) ∧ l = pre ++ strip l ++ post :=
  dropWhile_both_decomp isPySpace l

theorem strip_eq_nil_iff (l : Str) : strip l = [] ↔ ∀ c ∈ l, isPySpace c = true := by
  refine ⟨fun h c hc => ?_, strip_allspace l⟩
  obtain ⟨pre, post, hpre, hpost, e⟩ := strip_decomp l
  rw [e, h, List.append_nil] at hc
  exact (List.mem_append.mp hc).elim (hpre c) (hpost c)

theorem strip_idem (l : Str) : strip (strip l) = strip l :=
  strip_eq_self _ (strip_head_nospace l) (strip_getLast_nospace l)

/-- `str.strip(ch)` for a white-space character `ch` before or after `str.strip()` changes nothing -/
theorem strip_stripChar (ch : Char) (hch : isPySpace ch = true) (l : Str) : strip (stripChar ch l) = strip l := by
  obtain ⟨pre, post, hpre, hpost, e⟩ := dropWhile_both_decomp (· == ch) l
  have hb : ∀ a : Str, (∀ c ∈ a, (c == ch) = true) → ∀ c ∈ a, isPySpace c = true := fun a ha c hc => by
    rw [beq_iff_eq.mp (ha c hc)]
    exact hch
  conv => rhs; rw [e]
  exact (strip_pad _ _ _ (hb pre hpre) (hb post hpost)).symm

theorem stripChar_strip (ch : Char) (hch : isPySpace ch = true) (l : Str) : stripChar ch (strip l) = strip l := by
  have hne : ∀ c, isPySpace c = false → (c == ch) = false := fun c hc => by
    rw [beq_eq_false_iff_ne]
    rintro rfl
    rw [hch] at hc
    cases hc
  exact dropWhile_both_eq_self (· == ch) _ (fun c hc => hne c (strip_head_nospace l c hc))
    (fun c hc => hne c (strip_getLast_nospace l c hc))

theorem isDigit_iff (c : Char) : isDigit c = true ↔ 48 ≤ c.toNat ∧ c.toNat ≤ 57 := by
  simp [isDigit, Char.le_def, UInt32.le_iff_toNat_le]

/-- a successful `do` step: the first computation succeeded and the rest succeeds on its result -/
theorem bind_ok {ε α β} {x : Except ε α} {f : α → Except ε β} {b : β} (h : x >>= f = .ok b) :
    ∃ a, x = .ok a ∧ f a = .ok b := by
  cases x with
  | error e => cases h
  | ok a => exact ⟨a, rfl, h⟩

/-! ## decimal rendering: `natToStr` -/

theorem natToStrAux_acc (fuel n : Nat) (acc : Str) :
    natToStrAux fuel n acc = natToStrAux fuel n [] ++ acc := by
  induction fuel generalizing n acc with
  | zero => simp [natToStrAux]
  | succ f ih =>
    unfold natToStrAux
    split
    · simp
    · rw [ih (n / 10) (digitChar n :: acc), ih (n / 10) [digitChar n]]; simp

theorem natToStrAux_fuel (f f' n : Nat) (h : n < f) (h' : n < f') :
    natToStrAux f n [] = natToStrAux f' n [] := by
  induction f generalizing f' n with
  | zero => omega
  | succ f ih =>
    cases f' with
    | zero => omega
    | succ f' =>
      unfold natToStrAux
      split
      · rfl
      · rw [natToStrAux_acc f, natToStrAux_acc f', ih f' (n / 10) (by omega) (by omega)]

theorem natToStr_lt (n : Nat) (h : n < 10) : natToStr n = [digitChar n] := by
  simp [natToStr, natToStrAux, h]

theorem natToStr_ge (n : Nat) (h : 10 ≤ n) : natToStr n = natToStr (n / 10) ++ [digitChar n] := by
  have hn : ¬ n < 10 := by omega
  unfold natToStr
  rw [natToStrAux]
  simp only [hn, if_false]
  rw [natToStrAux_acc, natToStrAux_fuel n (n / 10 + 1) (n / 10) (by omega) (by omega)]

-- `digitChar n` is `Char.ofNat (48 + n % 10)` by `rfl`: the ten cases are decided as a bounded ∀ and applied at `n % 10`
-- (a `decide` on the statement itself has the free `n` in it)
theorem digitChar_props (n : Nat) : digitChar n ≠ ':' ∧ upperC (digitChar n) = digitChar n :=
  (by decide : ∀ d, d < 10 → Char.ofNat (48 + d) ≠ ':' ∧ upperC (Char.ofNat (48 + d)) = Char.ofNat (48 + d))
    (n % 10) (Nat.mod_lt _ (by decide))

theorem digitChar_inj (n m : Nat) (h : digitChar n = digitChar m) : n % 10 = m % 10 :=
  (by decide +kernel : ∀ d, d < 10 → ∀ e, e < 10 → Char.ofNat (48 + d) = Char.ofNat (48 + e) → d = e)
    (n % 10) (Nat.mod_lt _ (by decide)) (m % 10) (Nat.mod_lt _ (by decide)) h

theorem natToStr_chars (n : Nat) : ∀ c ∈ natToStr n, c ≠ ':' ∧ upperC c = c := by
  induction n using Nat.strongRecOn with
  | _ n ih =>
    intro c hc
    by_cases h : n < 10
    · rw [natToStr_lt n h] at hc
      simp at hc; subst hc; exact digitChar_props n
    · rw [natToStr_ge n (by omega)] at hc
      simp at hc
      rcases hc with hc | hc
      · exact ih (n / 10) (by omega) c hc
      · subst hc; exact digitChar_props n

theorem natToStr_ne_nil (n : Nat) : natToStr n ≠ [] := by
  by_cases h : n < 10
  · rw [natToStr_lt n h]; simp
  · rw [natToStr_ge n (by omega)]; simp

theorem natToStr_inj : ∀ n m, natToStr n = natToStr m → n = m := by
  intro n
  induction n using Nat.strongRecOn with
  | _ n ih =>
    intro m h
    by_cases hn : n < 10 <;> by_cases hm : m < 10
    · rw [natToStr_lt n hn, natToStr_lt m hm] at h
      have := digitChar_inj n m (by simpa using h)
      omega
    · rw [natToStr_lt n hn, natToStr_ge m (by omega)] at h
      have hl := congrArg List.length h
      simp at hl
      exact absurd hl (natToStr_ne_nil _)
    · rw [natToStr_ge n (by omega), natToStr_lt m hm] at h
      have hl := congrArg List.length h
      simp at hl
      exact absurd hl (natToStr_ne_nil _)
    · rw [natToStr_ge n (by omega), natToStr_ge m (by omega)] at h
      obtain ⟨h1, h2⟩ := List.append_inj' h rfl
      have e1 := ih (n / 10) (by omega) (m / 10) h1
      have e2 := digitChar_inj n m (by simpa using h2)
      omega

theorem colon_not_mem_natToStr (n : Nat) : ':' ∉ natToStr n :=
  fun h => (natToStr_chars n ':' h).1 rfl

theorem upper_natToStr (n : Nat) : upper (natToStr n) = natToStr n :=
  (List.map_congr_left fun c hc => (natToStr_chars n c hc).2).trans (List.map_id' _)

end Lasio
