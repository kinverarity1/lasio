import LasioProofs.Lemmas.RedelimLemmas
import LasioProofs.Props.C02
import LasioProofs.Props.C02Tab
import LasioProofs.Props.C07
/-
Whole-file lifts of C02 (the two engines agree on plain data) and C07 (rectangular result, binding of cells to curves),
for Props/C02File: every window the header-level reader reports is the window of a data section; lines of plain decimal cells
(`numBody .space`, decidable) form a `Body`, C02's domain; what a successful `readData` returns.
-/
namespace Lasio.Tf
open Lasio Lasio.Dt

theorem mem_dataWins (k : Rd.SecKind) (secs : List (Str × List Str)) (n : Nat) (w : Nat × Nat × Str)
    (h : w ∈ dataWins k secs n) :
    ∃ A t b C, secs = A ++ (t, b) :: C ∧ kindOf t = k ∧ w = (n + Rd.size A, n + Rd.size A + b.length, Rd.sline t) := by
  induction secs generalizing n with
  | nil => cases h
  | cons tb rest ih =>
    obtain ⟨t, b⟩ := tb
    simp only [dataWins, List.mem_append] at h
    rcases h with h | h
    · unfold secWin at h
      split at h
      · rename_i hk
        simp only [List.mem_singleton] at h
        exact ⟨[], t, b, rest, rfl, hk, by rw [h]; simp [Rd.size]⟩
      · cases h
    · obtain ⟨A, t', b', C, e, hk, hw⟩ := ih _ h
      refine ⟨(t, b) :: A, t', b', C, by rw [e]; rfl, hk, ?_⟩
      rw [hw]
      simp only [Rd.size]
      have : n + 1 + b.length + Rd.size A = n + (1 + b.length + Rd.size A) := by omega
      simp only [this]

theorem mem_docData (secs : List (Str × List Str)) (n : Nat) (w : Nat × Nat × Str) (h : w ∈ docData secs n) :
    ∃ A t b C, secs = A ++ (t, b) :: C ∧ isDataKind (kindOf t) ∧
      w = (n + Rd.size A, n + Rd.size A + b.length, Rd.sline t) := by
  unfold docData at h
  split at h
  · obtain ⟨A, t, b, C, e, hk, hw⟩ := mem_dataWins .las3data secs n w h
    exact ⟨A, t, b, C, e, Or.inr hk, hw⟩
  · obtain ⟨A, t, b, C, e, hk, hw⟩ := mem_dataWins .data secs n w h
    exact ⟨A, t, b, C, e, Or.inl hk, hw⟩

theorem skipLine_of_isSkip (l : Str) (h : isSkip l = true) : SkipLine l := by
  unfold isSkip at h
  simp only [cleanLine_eq_strip, Bool.or_eq_true] at h
  rcases h with h | h
  · left
    have : (pySplit l).isEmpty = true := by rw [← isEmpty_strip]; exact h
    exact pySplit_eq_nil l (by simpa using this)
  · right
    obtain ⟨pre, post, hpre, _, e⟩ := strip_decomp l
    cases hs : strip l with
    | nil => rw [hs] at h; simp [isComment, startsWith] at h
    | cons c cs =>
      rw [hs, isComment_cons] at h
      have : c = '#' := by simpa using (beq_iff_eq.mp h).symm
      subst this
      exact ⟨pre, cs ++ post, hpre, by rw [e, hs]; rfl⟩

theorem rowLine_of_drow {cells : List Str} {l : Str} (h : DRow .space cells l) : RowLine cells l := by
  obtain ⟨pre, core, post, hpre, hpost, hcore, e⟩ := h
  exact ⟨pre, core, post, hpre, hpost, sepd_core (by decide) hcore, e⟩

/-- a body of blank/comment lines and lines of `c` plain decimal cells is a `Body` (C02's domain) -/
theorem body_of_numBody (c : Nat) (b : List Str) (h : numBody .space c b = true) : ∃ rows, Body c b rows := by
  induction b with
  | nil => exact ⟨[], Body.nil⟩
  | cons l ls ih =>
    obtain ⟨rows, hrows⟩ := ih (numBody_cons h)
    rcases numBody_line h l (by simp) with hs | ⟨hn, hc⟩
    · exact ⟨rows, Body.skip (skipLine_of_isSkip l hs) hrows⟩
    · exact ⟨_ :: rows, Body.row (rowLine_of_drow (drow_of_numCells .space l hn)) hc hrows⟩

theorem body_rows_nil {c : Nat} {b : List Str} {rows : List (List Str)} (h : Body c b rows) (hr : rows = []) :
    ∀ ln ∈ b, SkipLine ln := by
  induction h with
  | nil => intro ln hl; cases hl
  | skip hs _ ih =>
    intro ln hl
    rcases List.mem_cons.mp hl with rfl | hl
    · exact hs
    · exact ih hr ln hl
  | row _ _ _ _ => cases hr

/-- the number of cells of the first data line (0 when there is none) -/
def bodyCols (b : List Str) : Nat :=
  match b.find? (fun l => !isSkip l) with
  | some l => (cellsOf .space (splitEol l).1).length
  | none => 0

/-- decidable: every line is a blank line, a comment line, or a line of plain decimal numbers, as many as on the first data line -/
def plainBody (b : List Str) : Bool := numBody .space (bodyCols b) b

/-- C02's domain for one section body: rows of `c ≥ 1` quiet tokens (at least one), or no data line at all -/
def PlainSec (b : List Str) : Prop :=
  (∃ c rows, Body c b rows ∧ 0 < c ∧ rows ≠ []) ∨ ∀ ln ∈ b, SkipLine ln

theorem plainSec_of_plainBody (b : List Str) (h : plainBody b = true) : PlainSec b := by
  unfold plainBody at h
  cases hf : b.find? (fun l => !isSkip l) with
  | none => exact Or.inr fun l hl => skipLine_of_isSkip l (by simpa using List.find?_eq_none.mp hf l hl)
  | some l =>
    obtain ⟨rows, hrows⟩ := body_of_numBody _ b h
    by_cases hr : rows = []
    · exact Or.inr (body_rows_nil hrows hr)
    · refine Or.inl ⟨bodyCols b, rows, hrows, ?_, hr⟩
      -- a data line has at least one cell
      have hl := List.mem_of_find?_eq_some hf
      have hns : isSkip l = false := by
        have := List.find?_some hf
        simpa using this
      unfold bodyCols
      rw [hf]
      simp only
      rcases numBody_line h l hl with hs | ⟨hn, _⟩
      · rw [hs] at hns; cases hns
      · obtain ⟨_, core, _, _, _, hcore, _⟩ := drow_of_numCells .space l hn
        exact List.length_pos_iff.mpr (sepd_cells_ne hcore)

/-- a successful `readData`: the columns `cols` of one of the engines (all of one length), NULL applied, assigned to the curves -/
theorem readData_ok_cols (o : DataOpts) (lines : List Str) (first last : Nat) (st : Steer) (d : Nat) (ft : FloatTable)
    (e : Engine) (curves : List (Slot × Column)) (h : readData o lines first last st d ft = .ok (e, curves)) :
    ∃ cols, Rect cols ∧ curves = assignCurves d (applyNull (o.nullPolicy == .strict) st.nullValue cols) ∧
      (e = .numpy → numpyEngine ft lines first last = some cols) ∧
      (e = .normal → ∃ sb n, (sb = readSubs st.delimiter ∨ sb = (readSubs st.delimiter).dropHyphen) ∧
        n = readerColumns st d (sniffTwice (readSubs st.delimiter) st.delimiter lines first last).2 ∧
        normalEngine ft sb st.delimiter n lines first last = .ok cols) := by
  have hsb := sniffTwiceB_subs (readSubs st.delimiter) st.delimiter (bodyLines lines first last)
  rw [← sniffTwice_body] at hsb
  -- `readData` answers from genfromtxt, or — asked for, or as the fallback — from the normal engine
  obtain ⟨cols, hnp, he⟩ | hn : (∃ cols, numpyEngine ft lines first last = some cols ∧
        (Engine.numpy, assignCurves d (applyNull (o.nullPolicy == .strict) st.nullValue cols)) = (e, curves)) ∨
      (normalEngine ft (sniffTwice (readSubs st.delimiter) st.delimiter lines first last).1 st.delimiter
        (readerColumns st d (sniffTwice (readSubs st.delimiter) st.delimiter lines first last).2) lines first last).map
        (fun cols => (Engine.normal, assignCurves d (applyNull (o.nullPolicy == .strict) st.nullValue cols))) = .ok (e, curves) := by
    unfold readData at h
    simp only at h
    split at h
    · split at h
      · rename_i cols hnp
        exact Or.inl ⟨cols, hnp, Except.ok.inj h⟩
      · exact Or.inr h
    · exact Or.inr h
  · obtain ⟨rfl, rfl⟩ := Prod.mk.inj he
    exact ⟨cols, numpyEngineLines_rect _ _ _ _ hnp, rfl, fun _ => hnp, (fun e => by cases e)⟩
  · generalize hne : normalEngine ft _ st.delimiter _ lines first last = x at hn
    cases x with
    | error err => simp [Except.map] at hn
    | ok cols =>
      simp only [Except.map, Except.ok.injEq, Prod.mk.injEq] at hn
      obtain ⟨rfl, rfl⟩ := hn
      exact ⟨cols, normalEngineLines_rect _ _ _ _ _ _ hne, rfl, (fun e => by cases e), fun _ => ⟨_, _, hsb, rfl, hne⟩⟩

end Lasio.Tf
