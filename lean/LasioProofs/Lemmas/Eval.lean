/-
Running the model on a closed input inside the kernel (`decide +kernel`): `Except` gets decidable equality, and a run whose
result type has none (it holds functions or was not given the instance) is identified through the Boolean `isOk`.
-/
deriving instance DecidableEq for Except

/-- `y` is "whatever the run returns": `hy` is closed by unfolding `y` and rewriting with the equation, `h` by evaluation. -/
theorem Except.eq_ok_of_isOk {ε α : Type _} {x : Except ε α} {y : α} (h : x.isOk = true) (hy : ∀ r, x = .ok r → y = r) :
    x = .ok y := by
  cases x with
  | error e => cases h
  | ok r => rw [hy r rfl]
