import LasioModel.Resource

/-!
Soundness of the C20 outcome analysis (`outs`, `leakFree`) with respect to the
executable semantics `exec`, for every fuel and every fault/branch schedule.
-/
namespace Lasio

theorem collectRaw_some_mem {xs : List Res} {f : Res → Option (List Res)} {L : List Res}
    (h : collectRaw f xs = some L) {x : Res} (hx : x ∈ xs) :
    ∃ l, f x = some l ∧ ∀ y ∈ l, y ∈ L := by
  induction xs generalizing L with
  | nil => cases hx
  | cons a as ih =>
    simp only [collectRaw] at h
    split at h
    next la lr hfa hrest =>
      cases h
      rcases List.mem_cons.mp hx with rfl | hx'
      · exact ⟨la, hfa, fun y hy => List.mem_append_left _ hy⟩
      · obtain ⟨l, hl, hsub⟩ := ih hrest hx'
        exact ⟨l, hl, fun y hy => List.mem_append_right _ (hsub y hy)⟩
    next => cases h

theorem collect_some_mem {xs : List Res} {f : Res → Option (List Res)} {L : List Res}
    (h : collect xs f = some L) {x : Res} (hx : x ∈ xs) :
    ∃ l, f x = some l ∧ ∀ y ∈ l, y ∈ L := by
  unfold collect at h
  split at h
  next L' hr =>
    cases h
    obtain ⟨l, hl, hsub⟩ := collectRaw_some_mem hr hx
    exact ⟨l, hl, fun y hy => List.mem_eraseDups.mpr (hsub y hy)⟩
  next => cases h

theorem grow_mono (fb : St → Option (List Res)) (n : Nat) (R R' : List St)
    (h : grow fb n R = some R') : ∀ s ∈ R, s ∈ R' := by
  induction n generalizing R with
  | zero => simp [grow] at h; subst h; exact fun s hs => hs
  | succ n ih =>
    simp only [grow] at h
    split at h
    · rename_i l hl
      intro s hs
      apply ih _ h
      exact List.mem_eraseDups.mpr (List.mem_append_left _ hs)
    · cases h

theorem mem_normStates {l : List Res} {s : St} (h : (Out.norm, s) ∈ l) : s ∈ normStates l := by
  unfold normStates
  refine List.mem_map.mpr ⟨(Out.norm, s), ?_, rfl⟩
  exact List.mem_filter.mpr ⟨h, by simp⟩

theorem closed_step {fb : St → Option (List Res)} {R : List St} (hc : closedUnder fb R = true)
    {r : St} (hr : r ∈ R) {l : List Res} (hl : fb r = some l) : ∀ s, (Out.norm, s) ∈ l → s ∈ R := by
  have := List.all_eq_true.mp hc r hr
  rw [hl] at this
  intro s hs
  simpa using List.all_eq_true.mp this s (mem_normStates hs)

/-- loop soundness for an invariant set `R` closed under the body -/
theorem loop_sound (b : Stmt) (R : List St) (Lx : List Res)
    (hb : ∀ fuel σ s L, outs b s = some L → resOf (exec fuel b σ s) ∈ L)
    (hc : closedUnder (outs b) R = true)
    (hx : collect (R.map fun r => (Out.norm, r)) (fun x => outs b x.2) = some Lx) :
    ∀ fuel σ s, s ∈ R →
      resOf (exec fuel (.loop b) σ s) ∈ R.map (fun r => (Out.norm, r)) ++ Lx.filter (fun r => r.1 != .norm) := by
  intro fuel
  induction fuel with
  | zero =>
    intro σ s hs
    simp only [exec, resOf]
    exact List.mem_append_left _ (List.mem_map.mpr ⟨s, hs, rfl⟩)
  | succ fuel ih =>
    intro σ s hs
    simp only [exec]
    rcases pop σ with ⟨_ | _, σ'⟩
    · simp only [Bool.false_eq_true, if_false, resOf]
      exact List.mem_append_left _ (List.mem_map.mpr ⟨s, hs, rfl⟩)
    · simp only [if_true]
      obtain ⟨l, hl, hsub⟩ := collect_some_mem hx (x := (Out.norm, s)) (List.mem_map.mpr ⟨s, hs, rfl⟩)
      have hmem := hb fuel σ' s l hl
      rcases he : exec fuel b σ' s with ⟨o, s1, σ1⟩
      rw [he] at hmem
      simp only [resOf] at hmem
      cases o with
      | norm =>
        simp only []
        exact ih σ1 s1 (closed_step hc hs hl s1 hmem)
      | _ =>
        simp only [resOf]
        exact List.mem_append_right _ (List.mem_filter.mpr ⟨hsub _ hmem, by simp⟩)

/-- the common step of `seq`, `tryFinally`, `tryExcept`: the outcome of the first part is among its enumerated outcomes,
so the continuation applied to it is defined and its results are kept -/
theorem bind_collect_mem {oa : Option (List Res)} {f : Res → Option (List Res)} {L : List Res} {x : Res}
    (h : (match oa with | some la => collect la f | none => none) = some L)
    (hx : ∀ la, oa = some la → x ∈ la) : ∃ l, f x = some l ∧ ∀ y ∈ l, y ∈ L := by
  cases oa with
  | none => cases h
  | some la => exact collect_some_mem h (hx la rfl)

theorem sound : ∀ (p : Stmt) (fuel : Nat) (σ : List Bool) (s : St) (L : List Res),
    outs p s = some L → resOf (exec fuel p σ s) ∈ L := by
  intro p fuel σ s L h
  induction p generalizing fuel σ s L with
  | skip => simp [outs] at h; subst h; simp [exec, resOf]
  | ret => simp [outs] at h; subst h; simp [exec, resOf]
  | raise => simp [outs] at h; subst h; simp [exec, resOf]
  | mayRaise =>
    simp [outs] at h; subst h
    simp only [exec]
    rcases pop σ with ⟨_ | _, σ'⟩ <;> simp [resOf]
  | openV v =>
    simp [outs] at h; subst h
    simp only [exec]
    rcases pop σ with ⟨_ | _, σ'⟩ <;> simp [resOf]
  | close v => simp [outs] at h; subst h; simp [exec, resOf]
  | move dst src => simp [outs] at h; subst h; simp [exec, resOf]
  | setFlag f b => simp [outs] at h; subst h; simp [exec, resOf]
  | seq a b iha ihb =>
    simp only [outs] at h
    obtain ⟨l, hl, hsub⟩ := bind_collect_mem h (iha fuel σ s)
    simp only [exec]
    rcases he : exec fuel a σ s with ⟨o, s1, σ1⟩
    rw [he] at hl
    cases o with
    | norm => exact hsub _ (ihb fuel σ1 s1 l (by simpa [resOf] using hl))
    | _ =>
      simp [resOf] at hl; subst hl
      simpa [resOf] using hsub _ List.mem_cons_self
  | tryFinally a f iha ihf =>
    simp only [outs] at h
    obtain ⟨l, hl, hsub⟩ := bind_collect_mem h (iha fuel σ s)
    simp only [exec]
    rcases he : exec fuel a σ s with ⟨o, s1, σ1⟩
    rw [he] at hl
    simp only [resOf] at hl ⊢
    split at hl
    next lf hof =>
      cases hl
      have hm2 := ihf fuel σ1 s1 lf hof
      rcases he2 : exec fuel f σ1 s1 with ⟨o2, s2, σ2⟩
      rw [he2] at hm2; simp only [resOf] at hm2
      apply hsub
      refine List.mem_map.mpr ⟨(o2, s2), hm2, ?_⟩
      cases o2 <;> simp
    next => cases hl
  | tryExcept a hh iha ihh =>
    simp only [outs] at h
    obtain ⟨l, hl, hsub⟩ := bind_collect_mem h (iha fuel σ s)
    simp only [exec]
    rcases he : exec fuel a σ s with ⟨o, s1, σ1⟩
    rw [he] at hl
    cases o with
    | exc => exact hsub _ (ihh fuel σ1 s1 l (by simpa [resOf] using hl))
    | _ =>
      simp [resOf] at hl; subst hl
      simpa [resOf] using hsub _ List.mem_cons_self
  | choice a b iha ihb =>
    simp only [outs] at h
    split at h
    next la lb hoa hob =>
      cases h
      simp only [exec]
      rcases pop σ with ⟨_ | _, σ'⟩
      · simp only [Bool.false_eq_true, if_false]
        exact List.mem_eraseDups.mpr (List.mem_append_right _ (ihb fuel σ' s lb hob))
      · simp only [if_true]
        exact List.mem_eraseDups.mpr (List.mem_append_left _ (iha fuel σ' s la hoa))
    next => cases h
  | ifFlag f a b iha ihb =>
    simp only [outs] at h
    simp only [exec]
    cases hf : getFlag f s with
    | true =>
      simp only [hf, if_true] at h ⊢
      exact iha fuel σ s L h
    | false =>
      simp only [hf, Bool.false_eq_true, if_false] at h ⊢
      exact ihb fuel σ s L h
  | withOpen b ihb =>
    simp only [outs] at h
    split at h
    next lb hob =>
      cases h
      simp only [exec]
      rcases pop σ with ⟨_ | _, σ'⟩
      · simp only [Bool.false_eq_true, if_false]
        exact List.mem_eraseDups.mpr (List.mem_cons_of_mem _ (ihb fuel σ' s lb hob))
      · simp only [if_true, resOf]
        exact List.mem_eraseDups.mpr (List.mem_cons_self)
    next => cases h
  | scope b ihb =>
    simp only [outs] at h
    split at h
    next lb hob =>
      cases h
      have hm := ihb fuel σ s lb hob
      simp only [exec]
      rcases he : exec fuel b σ s with ⟨o, s1, σ1⟩
      rw [he] at hm
      exact List.mem_eraseDups.mpr (List.mem_map.mpr ⟨(o, s1), hm, rfl⟩)
    next => cases h
  | loop b ihb =>
    simp only [outs] at h
    split at h
    next R hg =>
      split at h
      next hc =>
        split at h
        next Lx hx =>
          cases h
          exact loop_sound b R Lx ihb hc hx fuel σ s (grow_mono _ _ _ _ hg s (by simp))
        next => cases h
      next => cases h
    next => cases h

/-- a Boolean test that holds of every enumerated outcome holds of every behaviour -/
theorem outs_all_sound (p : Stmt) (q : Res → Bool)
    (h : (match outs p St.init with | some l => l.all q | none => false) = true) (fuel : Nat) (σ : List Bool) :
    q (resOf (exec fuel p σ St.init)) = true := by
  split at h
  next L ho => exact List.all_eq_true.mp h _ (sound p fuel σ St.init L ho)
  next => cases h

/-- the C20 statement for a program: whatever the fault schedule and loop counts, nothing is left open -/
theorem leakFree_sound (p : Stmt) (h : leakFree p = true) (fuel : Nat) (σ : List Bool) :
    (exec fuel p σ St.init).2.1.held = [] ∧ (exec fuel p σ St.init).2.1.leaked = false := by
  simpa [resOf, List.isEmpty_iff] using outs_all_sound p _ h fuel σ

/-- same statement with the initial state spelled out -/
theorem leakFree_sound' (p : Stmt) (h : leakFree p = true) (fuel : Nat) (σ : List Bool) :
    (exec fuel p σ ⟨[], false, [], false⟩).2.1.held = [] ∧
    (exec fuel p σ ⟨[], false, [], false⟩).2.1.leaked = false :=
  leakFree_sound p h fuel σ

theorem readProg_ok : leakFree readProg = true := by decide

theorem readProg_never_leaks (fuel : Nat) (σ : List Bool) :
    (exec fuel readProg σ St.init).2.1.held = [] ∧ (exec fuel readProg σ St.init).2.1.leaked = false :=
  leakFree_sound readProg readProg_ok fuel σ

theorem writeProg_leaks : ∃ fuel σ, (exec fuel writeProg σ St.init).2.1.held ≠ [] :=
  ⟨1, [true, false, true], by simp [exec, writeProg, pop, openSt, St.init]⟩

theorem writeProg_rejected : leakFree writeProg = false := by decide

end Lasio

#print axioms Lasio.sound
#print axioms Lasio.leakFree_sound
#print axioms Lasio.readProg_ok
#print axioms Lasio.writeProg_leaks
