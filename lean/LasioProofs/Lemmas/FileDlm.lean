import LasioProofs.Lemmas.FileConfig
/-
One written file read back, with a DLM item allowed in the written ~Version section (every object made by `lasio.LASFile()`
carries `DLM . SPACE : Column Data Section Delimiter`): the single statement that the whole-file theorems about a written file
start from.  The hypothesis `Fd.FileConfD`, the reader on the written file (`Fd.readFull_file_dlm`) and the delimiter handed to
`readData` (`Fd.dtSteer_file_dlm`) stand in CycleLemmas / FileRoundTrip; here the curves of the one data window are added.
-/
namespace Lasio.Fd
open Lasio Lasio.Wr Lasio.Cy

theorem file_read_dlm (opts : Tf.Opts) (nullOf : Option Str → Option Str) (ft : Dt.FloatTable)
    (version : String) (wrap : Option Bool) (w : Nat) (las las' : WLas)
    (hlines : List Str) (hH : headerLines version wrap w las = .ok (hlines, las'))
    (hc : FileConfD opts.hdr version wrap las)
    {cfg : Dw.DataCfg} {null : Str} {mn : List Str} {rows : List (List Dw.F64)} {c : Dw.RowCfg} {n : Nat} {hdr : Str}
    {body : List Str} (wd : Rt.Written cfg null mn rows c n hdr body) (hn : null.head? ≠ some '~')
    (a : Char) (r : Str) (hd : cfg.dataSectionHeader = '~' :: a :: r) (ha : upperC a = 'A')
    (hfit : Fc.Fit opts.hdr version wrap las cfg) (hcur : las.curves.length = n) :
    ∃ res, Tf.readFull opts nullOf ft (Fr.fileDoc hlines hdr body) = .ok
      ⟨firstRead opts.hdr version wrap las, fileSteerD opts.hdr version wrap las,
       [⟨hlines.length, hlines.length + body.length, res⟩]⟩ ∧
      res.map Prod.snd = .ok (Dt.assignCurves n (Dt.applyNull (opts.dat.nullPolicy == .strict)
        (nullOf (Fr.steerVal opts.hdr "NULL" (standardizeItems las.well)))
        (Dt.matrixColumns ft n (Rt.tokenRows c null rows)))) := by
  refine ⟨_, readFull_file_dlm opts nullOf ft version wrap w las las' hlines hH hc wd hn a r hd ha, ?_⟩
  obtain ⟨h1, h2, h3⟩ := dtSteer_file_dlm nullOf opts.hdr version wrap las hc.hdlm
  obtain ⟨e, p⟩ := opts.dat
  rw [hcur]
  rcases hfit with hy | ⟨hwrap, t, ht, hne⟩
  · obtain ⟨h4, h5⟩ := h3 _ hy
    rw [Fr.readData_file_wrapYes wd hlines e p _ ft h1 h4 h5, h2]
    rfl
  · obtain ⟨_, h5⟩ := h3 _ ht
    rw [Fr.readData_file_unwrapped wd hwrap hlines e p _ _ ft h1 (by rw [h5]; exact hne), h2]

end Lasio.Fd
