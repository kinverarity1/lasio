import LasioModel.Transform
import LasioProofs.Lemmas.DataLemmas
import LasioProofs.Lemmas.ReaderLemmas
/-
C09 (presentation transformations): `strip` against blanks and line ends; what the data reader looks at in a line; the
document structure (lines before the first title, then sections) of any list of lines; the header-level reader on two documents
whose sections it cannot tell apart (`SecRel`); the data reader on a window given by its body, for bodies that agree line by line
(`BodySim`); header and data together (`readFull` on related documents).  `pySplit` (= `str.split()`), `readBody` and the numpy
engine through the rows it sees are in Lemmas/DataLemmas.lean, under the names `Lasio.Tf.*`.
-/
namespace Lasio.Tf
open Lasio Lasio.Dt

/-! ## §1 strings -/

theorem isBT_space (c : Char) (h : isBT c = true) : isPySpace c = true := by
  unfold isBT at h
  simp only [Bool.or_eq_true, beq_iff_eq] at h
  rcases h with rfl | rfl <;> decide

theorem allWs_blanksOf (s : Str) : AllWs (blanksOf s) := by
  intro c hc
  unfold blanksOf at hc
  exact isBT_space c (List.mem_filter.mp hc).2

theorem allWs_nl : AllWs nl := by intro c hc; simp [nl] at hc; subst hc; decide
theorem allWs_crnl : AllWs ['\r', '\n'] := by
  intro c hc; simp at hc; rcases hc with rfl | rfl <;> decide

theorem strip_sandwich_ws (a s b : Str) (ha : AllWs a) (hb : AllWs b) : strip (a ++ (s ++ b)) = strip s := by
  rw [← List.append_assoc]
  exact strip_pad a s b ha hb

/-! ### `splitEol` -/

theorem splitEol_spec (l : Str) :
    l = (splitEol l).1 ++ (splitEol l).2 ∧
    ((splitEol l).2 = [] ∨ (splitEol l).2 = ['\n'] ∨ (splitEol l).2 = ['\r', '\n']) := by
  unfold splitEol
  have hl : l = l.reverse.reverse := (List.reverse_reverse l).symm
  generalize l.reverse = r at hl
  subst hl
  match r with
  | [] => simp
  | [c] => by_cases h : c = '\n' <;> simp [h]
  | c :: d :: r =>
    by_cases h : c = '\n'
    · subst h
      by_cases h2 : d = '\r'
      · subst h2; simp
      · simp [h2]
    · simp [h]

theorem splitEol_allWs (l : Str) : AllWs (splitEol l).2 := by
  rcases (splitEol_spec l).2 with h | h | h <;> rw [h]
  · exact allWs_nil
  · exact allWs_nl
  · exact allWs_crnl

theorem strip_splitEol (l : Str) : strip (splitEol l).1 = strip l := by
  have h := strip_pad_right (splitEol l).1 (splitEol l).2 (splitEol_allWs l)
  rw [← (splitEol_spec l).1] at h
  exact h.symm

/-! ## what the data reader looks at in a line -/

/-- the sniffer's view of a sampled line: its item count and whether it contains a hyphen -/
def sniffInfo (sb : Subs) (dlm : Dlm) (s : Str) : Nat × Bool := ((splitLine dlm (applySubs sb s)).length, s.contains '-')

/-- Two physical lines the data reader cannot tell apart (delimiter `dlm`): same items for the normal engine whatever
substitutions are active, same sample for the sniffer, same tokens for `genfromtxt`. -/
structure DataEq (dlm : Dlm) (a b : Str) : Prop where
  toks : ∀ sb, lineTokens sb dlm a = lineTokens sb dlm b
  sniff : ∀ sb, (sampleLine a).map (sniffInfo sb dlm) = (sampleLine b).map (sniffInfo sb dlm)
  np : npTokens a = npTokens b

/-- no quote character -/
def QuoteFree (s : Str) : Prop := ∀ c ∈ s, c ≠ '"' ∧ c ≠ '\''

/-- the first word starts with `#` -/
def firstHash : List Str → Bool
  | (c :: _) :: _ => c == '#'
  | _ => false

/-- the items of the text `s` for the whitespace splitter, after the read substitutions and the removal of ctrl-Z -/
def lineToks (sb : Subs) (s : Str) : List Str := splitWs ((applySubs sb s).filter (· != ctrlZ))

/-! ## §5 the document structure of any line list -/

/-- lines before the first title, then the sections (title line, body lines) -/
def parse : List Str → List Str × List (Str × List Str)
  | [] => ([], [])
  | x :: xs => if Rd.isTitle x then ([], (x, (parse xs).1) :: (parse xs).2) else (x :: (parse xs).1, (parse xs).2)

theorem parse_flat (l : List Str) : l = (parse l).1 ++ Rd.flat (parse l).2 := by
  induction l with
  | nil => rfl
  | cons x xs ih =>
    simp only [parse]
    split
    · simp only [Rd.flat, List.nil_append, List.cons_append]
      rw [← ih]
    · simp only [List.cons_append]
      rw [← ih]

theorem parse_pre (l : List Str) : ∀ x ∈ (parse l).1, Rd.isTitle x = false := by
  induction l with
  | nil => intro x hx; cases hx
  | cons a xs ih =>
    simp only [parse]
    split
    · intro x hx; cases hx
    · rename_i h
      intro x hx
      rcases List.mem_cons.mp hx with rfl | hx
      · simpa using h
      · exact ih x hx

theorem parse_wf (l : List Str) : Rd.WellFormed (parse l).2 := by
  induction l with
  | nil => intro tb h; cases h
  | cons a xs ih =>
    simp only [parse]
    split
    · rename_i h
      intro tb htb
      rcases List.mem_cons.mp htb with rfl | htb
      · exact ⟨h, parse_pre xs⟩
      · exact ih tb htb
    · exact ih

/-- kind of the section a title line opens -/
def kindOf (t : Str) : Rd.SecKind := Rd.sectionType (Rd.sline t)

theorem sline_strip_congr {a b : Str} (h : strip a = strip b) : Rd.sline a = Rd.sline b := by
  rw [Rd.sline_eq_strip, Rd.sline_eq_strip, h]

theorem lineStrip_strip_congr {a b : Str} (h : strip a = strip b) : Rd.lineStrip a = Rd.lineStrip b := by
  rw [Rd.lineStrip_eq_strip, Rd.lineStrip_eq_strip, h]

theorem isTitle_strip_congr {a b : Str} (h : strip a = strip b) : Rd.isTitle a = Rd.isTitle b := by
  rw [Rd.isTitle_eq, Rd.isTitle_eq, h]

theorem kindOf_strip_congr {a b : Str} (h : strip a = strip b) : kindOf a = kindOf b := by
  unfold kindOf; rw [sline_strip_congr h]

/-! ## §6 the header-level reader on related sections -/

/-- two sections the header-level reader cannot tell apart -/
structure SecRel (tb tb' : Str × List Str) : Prop where
  title : strip tb.1 = strip tb'.1
  items : kindOf tb.1 = .items →
    ∀ (o : Rd.ReadOpts) (ver : Rd.VerVal) (p : Rd.Parser), Rd.mkParser (Rd.lineStrip tb.1) ver = .ok p →
      ∀ (n n' : Nat) (l : List Rd.RItem), Rd.bodyRun o p tb.2 n = .ok l → Rd.bodyRun o p tb'.2 n' = .ok l
  other : kindOf tb.1 = .other → tb.2.map Rd.lineStrip = tb'.2.map Rd.lineStrip

/-- the window a section contributes to the list of data sections of kind `k` -/
def secWin (k : Rd.SecKind) (n : Nat) (tb : Str × List Str) : List (Nat × Nat × Str) :=
  if kindOf tb.1 = k then [(n, n + tb.2.length, Rd.sline tb.1)] else []

theorem finishItems_core (o : Rd.ReadOpts) (title : Str) (items : List Rd.RItem) (st st' r : Rd.RState)
    (hc : Rd.core st = Rd.core st') (h : Rd.finishItems o title items st = .ok r) :
    ∃ r', Rd.finishItems o title items st' = .ok r' ∧ Rd.core r' = Rd.core r ∧ r.data = st.data ∧ r.las3 = st.las3 ∧
      r'.data = st'.data ∧ r'.las3 = st'.las3 := by
  simp only [Rd.core, Prod.mk.injEq] at hc
  obtain ⟨h1, h2, h3⟩ := hc
  obtain ⟨k, hlen, hr, rfl⟩ := Rd.finishItems_ok o title items st r h
  rw [h1] at hr
  exact ⟨_, Rd.finishItems_of o title items st' k hlen hr, by simp only [Rd.core, h1, h2, h3], rfl, rfl, rfl, rfl⟩

/-- one section: related sections read from states with the same header part give states with the same header part -/
theorem docSection_rel (o : Rd.ReadOpts) (n n' : Nat) (tb tb' : Str × List Str) (st st' r : Rd.RState)
    (hrel : SecRel tb tb') (hc : Rd.core st = Rd.core st') (h : Rd.docSection o n tb st = .ok r) :
    ∃ r', Rd.docSection o n' tb' st' = .ok r' ∧ Rd.core r' = Rd.core r ∧
      r.data = st.data ++ secWin .data n tb ∧ r.las3 = st.las3 ++ secWin .las3data n tb ∧
      r'.data = st'.data ++ secWin .data n' tb' ∧ r'.las3 = st'.las3 ++ secWin .las3data n' tb' := by
  have hs : Rd.sline tb.1 = Rd.sline tb'.1 := sline_strip_congr hrel.title
  have hl : Rd.lineStrip tb.1 = Rd.lineStrip tb'.1 := lineStrip_strip_congr hrel.title
  simp only [Rd.core, Prod.mk.injEq] at hc
  cases hk : Rd.sectionType (Rd.sline tb.1) with
  | items =>
    obtain ⟨p, items, hp, hb, hf⟩ := (Rd.docSection_items hk).mp h
    obtain ⟨r', h1, h2, h3, h4, h5, h6⟩ := finishItems_core o _ items st st' r (by simp only [Rd.core, hc]) hf
    rw [hl, hc.1] at hp
    rw [hs] at h1
    refine ⟨r', (Rd.docSection_items (hs ▸ hk)).mpr ⟨p, items, hp, hrel.items hk o _ p (hl ▸ hp) n n' items hb, h1⟩,
      h2, ?_, ?_, ?_, ?_⟩ <;> simp [secWin, kindOf, hk, ← hs, h3, h4, h5, h6]
  | other =>
    rw [Rd.docSection_other hk] at h
    cases h
    rw [Rd.docSection_other (hs ▸ hk), ← hrel.other hk, ← hs]
    refine ⟨_, rfl, ?_, ?_, ?_, ?_, ?_⟩ <;> simp [Rd.finishOther, Rd.core, secWin, kindOf, hk, ← hs, hc.1, hc.2.1, hc.2.2]
  | data =>
    rw [Rd.docSection_data hk] at h
    cases h
    rw [Rd.docSection_data (hs ▸ hk), ← hs]
    refine ⟨_, rfl, ?_, ?_, ?_, ?_, ?_⟩ <;> simp [Rd.core, secWin, kindOf, hk, ← hs, hc.1, hc.2.1, hc.2.2]
  | las3data =>
    rw [Rd.docSection_las3data hk] at h
    cases h
    rw [Rd.docSection_las3data (hs ▸ hk), ← hs]
    refine ⟨_, rfl, ?_, ?_, ?_, ?_, ?_⟩ <;> simp [Rd.core, secWin, kindOf, hk, ← hs, hc.1, hc.2.1, hc.2.2]

inductive Forall2 {α β} (R : α → β → Prop) : List α → List β → Prop
  | nil : Forall2 R [] []
  | cons {a b l l'} : R a b → Forall2 R l l' → Forall2 R (a :: l) (b :: l')

/-- the windows of the sections of kind `k` of a document whose first title is line `n` -/
def dataWins (k : Rd.SecKind) : List (Str × List Str) → Nat → List (Nat × Nat × Str)
  | [], _ => []
  | tb :: rest, n => secWin k n tb ++ dataWins k rest (n + 1 + tb.2.length)

theorem docSections_rel (o : Rd.ReadOpts) (secs secs' : List (Str × List Str)) (n n' : Nat) (st st' r : Rd.RState)
    (hrel : Forall2 SecRel secs secs') (hc : Rd.core st = Rd.core st') (h : Rd.docSections o secs n st = .ok r) :
    ∃ r', Rd.docSections o secs' n' st' = .ok r' ∧ Rd.core r' = Rd.core r ∧
      r.data = st.data ++ dataWins .data secs n ∧ r.las3 = st.las3 ++ dataWins .las3data secs n ∧
      r'.data = st'.data ++ dataWins .data secs' n' ∧ r'.las3 = st'.las3 ++ dataWins .las3data secs' n' := by
  induction hrel generalizing n n' st st' with
  | nil =>
    simp only [Rd.docSections] at h ⊢
    cases h
    exact ⟨st', rfl, hc.symm, by simp [dataWins], by simp [dataWins], by simp [dataWins], by simp [dataWins]⟩
  | @cons tb tb' rest rest' hsec _ ih =>
    obtain ⟨s1, hd, h⟩ := Rd.docSections_cons_ok.mp h
    obtain ⟨s1', h1, h2, h3, h4, h5, h6⟩ := docSection_rel o n n' tb tb' st st' s1 hsec hc hd
    obtain ⟨r', g1, g2, g3, g4, g5, g6⟩ := ih (n + 1 + tb.2.length) (n' + 1 + tb'.2.length) s1 s1' h2.symm h
    refine ⟨r', Rd.docSections_cons_ok.mpr ⟨s1', h1, g1⟩, g2, ?_, ?_, ?_, ?_⟩
    · rw [g3, h3]; simp [dataWins]
    · rw [g4, h4]; simp [dataWins]
    · rw [g5, h5]; simp [dataWins]
    · rw [g6, h6]; simp [dataWins]

/-- the data sections `read` parses: the ~A kind, the `_Data` kind when there is none -/
def docData (secs : List (Str × List Str)) (n : Nat) : List (Nat × Nat × Str) :=
  if (dataWins .data secs n).isEmpty then dataWins .las3data secs n else dataWins .data secs n

/-- the keys `read` has assigned, with their values (`finishRead`) -/
def assigned (m : List (Rd.RKey × Option Rd.SecVal)) : List (Rd.RKey × Rd.SecVal) :=
  m.filterMap (fun kv => kv.2.map fun v => (kv.1, v))

/-- `finishRead` succeeds when the delimiter name (if any) is known and ~Curves held items; it returns the assigned sections -/
theorem finishRead_ok_iff (st : Rd.RState) (h : Rd.RHeader) :
    Rd.finishRead st = .ok h ↔
      (∀ d, st.steer.dlm = some d → Rd.delimiters.contains d = true) ∧ st.curvesPlain = false ∧
        ⟨assigned st.sections, st.steer, if st.data.isEmpty then st.las3 else st.data⟩ = h := by
  unfold Rd.finishRead
  cases hd : st.steer.dlm with
  | none => cases st.curvesPlain <;> simp [assigned]
  | some d => by_cases hc : d ∈ Rd.delimiters <;> cases st.curvesPlain <;> simp [assigned, hc]

/-- `finishRead` on two states with the same steering values and `curvesPlain` flag -/
theorem finishRead_same (st st' : Rd.RState) (h : Rd.RHeader) (hs : st.steer = st'.steer)
    (hc : st.curvesPlain = st'.curvesPlain) (hr : Rd.finishRead st = .ok h) :
    h = ⟨assigned st.sections, st.steer, if st.data.isEmpty then st.las3 else st.data⟩ ∧
    Rd.finishRead st' = .ok ⟨assigned st'.sections, st.steer, if st'.data.isEmpty then st'.las3 else st'.data⟩ := by
  obtain ⟨hd, hcp, rfl⟩ := (finishRead_ok_iff st h).mp hr
  exact ⟨rfl, (finishRead_ok_iff st' _).mpr ⟨hs ▸ hd, hc ▸ hcp, by rw [hs]⟩⟩

/-- HEADER PART, whole file: related documents that can be read at all give the same sections and steering values; their
data windows are those of the data sections of the document structure. -/
theorem readLines_rel (o : Rd.ReadOpts) (pre pre' : List Str) (secs secs' : List (Str × List Str))
    (hpre : ∀ x ∈ pre, Rd.isTitle x = false) (hpre' : ∀ x ∈ pre', Rd.isTitle x = false)
    (hw : Rd.WellFormed secs) (hw' : Rd.WellFormed secs')
    (hrel : Forall2 SecRel secs secs') (h : Rd.RHeader) (hr : Rd.readLines o (pre ++ Rd.flat secs) = .ok h) :
    h.data = docData secs pre.length ∧
    Rd.readLines o (pre' ++ Rd.flat secs') = .ok ⟨h.sections, h.steer, docData secs' pre'.length⟩ := by
  obtain ⟨hne, st, hd, hr⟩ := (Rd.readLines_ok_iff hpre hw).mp hr
  have hne' : secs' ≠ [] := by
    cases hrel with
    | nil => exact absurd rfl hne
    | cons _ _ => simp
  obtain ⟨st', g1, g2, g3, g4, g5, g6⟩ :=
    docSections_rel o secs secs' pre.length pre'.length Rd.RState.init Rd.RState.init st hrel rfl hd
  simp only [Rd.core, Prod.mk.injEq] at g2
  obtain ⟨rfl, f2⟩ := finishRead_same st st' h g2.1.symm g2.2.2.symm hr
  have e1 : st.data = dataWins .data secs pre.length := by simpa [Rd.RState.init] using g3
  have e2 : st.las3 = dataWins .las3data secs pre.length := by simpa [Rd.RState.init] using g4
  have e3 : st'.data = dataWins .data secs' pre'.length := by simpa [Rd.RState.init] using g5
  have e4 : st'.las3 = dataWins .las3data secs' pre'.length := by simpa [Rd.RState.init] using g6
  refine ⟨by simp only [e1, e2]; rfl, (Rd.readLines_ok_iff hpre' hw').mpr ⟨hne', st', g1, ?_⟩⟩
  rw [f2, g2.2.1, e3, e4]; rfl

/-! ## §7 the data reader on a window given by its body -/

/-- bodies the data reader cannot tell apart line by line: equivalent lines, blank / comment lines come and go -/
inductive BodySim (dlm : Dlm) : List Str → List Str → Prop
  | nil : BodySim dlm [] []
  | line {a b l l'} : DataEq dlm a b → BodySim dlm l l' → BodySim dlm (a :: l) (b :: l')
  | insL {s l l'} : SkipLine s → BodySim dlm l l' → BodySim dlm (s :: l) l'
  | insR {s l l'} : SkipLine s → BodySim dlm l l' → BodySim dlm l (s :: l')

theorem bodySim_tokens (dlm : Dlm) (sb : Subs) {b b' : List Str} (h : BodySim dlm b b') :
    normalTokens sb dlm b = normalTokens sb dlm b' := by
  induction h with
  | nil => rfl
  | line hd _ ih => simp only [normalTokens, List.flatMap_cons] at ih ⊢; rw [hd.toks sb, ih]
  | insL hs _ ih => simp only [normalTokens, List.flatMap_cons] at ih ⊢; rw [lineTokens_skip sb dlm hs, ih]; rfl
  | insR hs _ ih => simp only [normalTokens, List.flatMap_cons] at ih ⊢; rw [lineTokens_skip sb dlm hs, ih]; rfl

/-- what the sniffer extracts from the body -/
def infos (sb : Subs) (dlm : Dlm) (body : List Str) : List (Nat × Bool) := (body.filterMap sampleLine).map (sniffInfo sb dlm)

theorem bodySim_infos (dlm : Dlm) (sb : Subs) {b b' : List Str} (h : BodySim dlm b b') : infos sb dlm b = infos sb dlm b' := by
  induction h with
  | nil => rfl
  | @line a c l l' hd _ ih =>
    have := hd.sniff sb
    simp only [infos, List.filterMap_cons] at ih ⊢
    cases ha : sampleLine a <;> cases hc : sampleLine c <;> simp [ha, hc] at this ⊢
    · exact ih
    · exact ⟨this, ih⟩
  | insL hs _ ih => simp only [infos, List.filterMap_cons, sampleLine_skip hs] at ih ⊢; exact ih
  | insR hs _ ih => simp only [infos, List.filterMap_cons, sampleLine_skip hs] at ih ⊢; exact ih

theorem sniffB_infos (sb : Subs) (dlm : Dlm) (body : List Str) :
    sniffB sb dlm body = { count := consistent (((infos sb dlm body).take 21).map Prod.fst),
                           hyphenFired := ((infos sb dlm body).take 21).all Prod.snd } := by
  unfold sniffB infos
  simp only [← List.map_take, List.map_map, List.all_map]
  rfl

theorem bodySim_sniffB (dlm : Dlm) (sb : Subs) {b b' : List Str} (h : BodySim dlm b b') : sniffB sb dlm b = sniffB sb dlm b' := by
  rw [sniffB_infos, sniffB_infos, bodySim_infos dlm sb h]

theorem bodySim_sniffTwiceB (dlm : Dlm) (sb : Subs) {b b' : List Str} (h : BodySim dlm b b') :
    sniffTwiceB sb dlm b = sniffTwiceB sb dlm b' := by
  unfold sniffTwiceB
  rw [bodySim_sniffB dlm sb h, bodySim_sniffB dlm sb.dropHyphen h]

theorem normalEngineLines_tokens (ft : FloatTable) (sb : Subs) (dlm : Dlm) (n : Nat) (b b' : List Str)
    (h : normalTokens sb dlm b = normalTokens sb dlm b') : normalEngineLines ft sb dlm n b = normalEngineLines ft sb dlm n b' := by
  unfold normalEngineLines; rw [h]

/-- NORMAL ENGINE: bodies related line by line are read alike — sniffer (sample of 21 data lines, hyphen rule) included -/
theorem normalRead_sim (o : DataOpts) (st : Steer) (d : Nat) (ft : FloatTable) {b b' : List Str}
    (h : BodySim st.delimiter b b') : normalRead o st d ft b = normalRead o st d ft b' := by
  unfold normalRead
  rw [bodySim_sniffTwiceB st.delimiter _ h]
  rw [normalEngineLines_tokens ft _ st.delimiter _ b b' (bodySim_tokens st.delimiter _ h)]

theorem bodySim_npRows (dlm : Dlm) {b b' : List Str} (h : BodySim dlm b b') : npRows b = npRows b' := by
  induction h with
  | nil => rfl
  | line hd _ ih => rw [npRows_cons, npRows_cons, hd.np, ih]
  | insL hs _ ih => rw [npRows_cons, npTokens_skip hs, ih]; rfl
  | insR hs _ ih => rw [npRows_cons, npTokens_skip hs, ih]; rfl


/-- reading the window as the last section of a file gives the curves the normal engine gives: the two engines agree on
this data section (C02: true of every PlainData section) -/
def AgreeAlone (o : DataOpts) (st : Steer) (d : Nat) (ft : FloatTable) (b : List Str) : Prop :=
  (readBody o st d ft b []).map Prod.snd = (normalRead o st d ft b).map Prod.snd

theorem normalRead_nil (o : DataOpts) (st : Steer) (d : Nat) (ft : FloatTable) :
    normalRead o st d ft [] = .ok (finishCols o st d .normal []) := by
  simp [normalRead, normalEngineLines, normalTokens, Except.map]

theorem numpy_alone_empty (ft : FloatTable) (b : List Str) (hr : npRows b = []) (hb : 1 ≤ b.length) :
    numpyEngineLines ft b.length (b ++ []) = some [] := by
  rw [numpyEngineLines_rows, List.append_nil, hr]
  have : ¬ b.length < 1 := by omega
  simp [numpyRows, this]

/-- the curves, whatever engine produced them, after an answer of the numpy engine -/
theorem readBody_numpy_some (o : DataOpts) (st : Steer) (d : Nat) (ft : FloatTable) (b after : List Str) (cols : List Column)
    (he : effectiveEngine o st = .numpy) (h : numpyEngineLines ft b.length (b ++ after) = some cols) :
    (readBody o st d ft b after).map Prod.snd = .ok (finishCols o st d .normal cols).2 := by
  simp [readBody, he, h, Except.map, finishCols]

theorem readBody_numpy_none (o : DataOpts) (st : Steer) (d : Nat) (ft : FloatTable) (b after : List Str)
    (he : effectiveEngine o st = .numpy) (h : numpyEngineLines ft b.length (b ++ after) = none) :
    readBody o st d ft b after = normalRead o st d ft b := by
  simp [readBody, he, h]

/-- DATA PART, one window: bodies related line by line, each followed by the end of the file or a title line, are read to
the same curves by `readData` — with the numpy engine provided the two engines agree on the base window. -/
theorem readBody_sim (o : DataOpts) (st : Steer) (d : Nat) (ft : FloatTable) {b b' after after' : List Str}
    (h : BodySim st.delimiter b b') (ha : AfterOK ft after) (ha' : AfterOK ft after') (hagree : AgreeAlone o st d ft b) :
    (readBody o st d ft b after).map Prod.snd = (readBody o st d ft b' after').map Prod.snd := by
  have hn := normalRead_sim o st d ft h
  cases he : effectiveEngine o st with
  | normal => simp only [readBody, he, hn]
  | numpy =>
    have hrows := bodySim_npRows st.delimiter h
    -- the value of the normal engine whenever the numpy engine answers `cols` on the base window alone
    have key : ∀ cols, numpyEngineLines ft b.length (b ++ []) = some cols →
        (normalRead o st d ft b).map Prod.snd = .ok (finishCols o st d .normal cols).2 := by
      intro cols hc
      rw [← hagree]
      exact readBody_numpy_some o st d ft b [] cols he hc
    -- both sides are `X` (the numpy answer on the rows alone) or an exception
    have side : ∀ (c : List Str) (aft : List Str), AfterOK ft aft → npRows c = npRows b → normalRead o st d ft c = normalRead o st d ft b →
        (readBody o st d ft c aft).map Prod.snd = (normalRead o st d ft b).map Prod.snd := by
      intro c aft haft hcr hcn
      by_cases hr : npRows b = []
      · rcases numpy_cases_empty ft c aft haft (hcr.trans hr) with h1 | h1
        · rw [readBody_numpy_some o st d ft c aft [] he h1]
          by_cases hb : 1 ≤ b.length
          · exact (key [] (numpy_alone_empty ft b hr hb)).symm
          · have : b = [] := by cases b with
              | nil => rfl
              | cons _ _ => simp at hb
            subst this
            rw [normalRead_nil]; rfl
        · rw [readBody_numpy_none o st d ft c aft he h1, hcn]
      · rcases numpy_cases ft c aft haft (hcr ▸ hr) with h1 | h1
        · rw [hcr, ← numpy_full ft b [] (.inr rfl) hr] at h1
          cases hX : numpyEngineLines ft b.length (b ++ []) with
          | none => rw [hX] at h1; rw [readBody_numpy_none o st d ft c aft he h1, hcn]
          | some cols =>
            rw [hX] at h1
            rw [readBody_numpy_some o st d ft c aft cols he h1]
            exact (key cols hX).symm
        · rw [readBody_numpy_none o st d ft c aft he h1, hcn]
    rw [side b after ha rfl rfl, side b' after' ha' hrows.symm hn.symm]

/-! ## §8 header and data together -/

def isDataKind (k : Rd.SecKind) : Prop := k = .data ∨ k = .las3data

/-- Section-wise relation of two documents: the header-level reader cannot tell the sections apart, and every data section
is read to the same curves whenever the steering values `st`, `d` satisfy the guard `G` on its body. -/
inductive DocRel (o : DataOpts) (ft : FloatTable) (G : Steer → Nat → List Str → Prop) :
    List (Str × List Str) → List (Str × List Str) → Prop
  | nil : DocRel o ft G [] []
  | cons {tb tb' rest rest'} : SecRel tb tb' →
      (isDataKind (kindOf tb.1) → ∀ st d, G st d tb.2 →
        (readBody o st d ft tb.2 (Rd.flat rest)).map Prod.snd = (readBody o st d ft tb'.2 (Rd.flat rest')).map Prod.snd) →
      DocRel o ft G rest rest' → DocRel o ft G (tb :: rest) (tb' :: rest')

theorem DocRel.secs {o : DataOpts} {ft : FloatTable} {G : Steer → Nat → List Str → Prop} {secs secs' : List (Str × List Str)}
    (h : DocRel o ft G secs secs') : Forall2 SecRel secs secs' := by
  induction h with
  | nil => exact .nil
  | cons hs _ _ ih => exact .cons hs ih

/-- the guard holds on the body of every data section -/
def AllData (P : List Str → Prop) (secs : List (Str × List Str)) : Prop :=
  ∀ tb ∈ secs, isDataKind (kindOf tb.1) → P tb.2

theorem dataWins_length {R : Str × List Str → Str × List Str → Prop} (hR : ∀ tb tb', R tb tb' → kindOf tb.1 = kindOf tb'.1)
    (k : Rd.SecKind) {secs secs' : List (Str × List Str)} (n n' : Nat) (hrel : Forall2 R secs secs') :
    (dataWins k secs n).length = (dataWins k secs' n').length := by
  induction hrel generalizing n n' with
  | nil => rfl
  | @cons tb tb' rest rest' hsec _ ih =>
    have hh : (secWin k n tb).length = (secWin k n' tb').length := by
      simp only [secWin, hR tb tb' hsec]
      split <;> rfl
    simp only [dataWins, List.length_append]
    rw [ih (n + 1 + tb.2.length) (n' + 1 + tb'.2.length), hh]

/-- the curves of the window `w` of the file `lines` -/
def curvesOf (o : DataOpts) (st : Steer) (d : Nat) (ft : FloatTable) (lines : List Str) (w : Nat × Nat × Str) :
    Except DErr (List (Slot × Column)) := (readData o lines w.1 w.2.1 st d ft).map Prod.snd

/-- The windows of kind `k` of a document, each read in the file and the result passed through `g`: the first section
contributes what `readBody` gives on its body and the lines after it, the rest is read as the rest of a longer prefix. -/
theorem dataWins_cons_map {β} (g : Except DErr (Engine × List (Slot × Column)) → β) {F : List Str → Nat × Nat × Str → β}
    (o : DataOpts) (st : Steer) (d : Nat) (ft : FloatTable) (hF : ∀ lines w, F lines w = g (readData o lines w.1 w.2.1 st d ft))
    (k : Rd.SecKind) (A : List Str) (t : Str) (b : List Str) (rest : List (Str × List Str)) :
    (dataWins k ((t, b) :: rest) A.length).map (F (A ++ Rd.flat ((t, b) :: rest))) =
      (if kindOf t = k then [g (readBody o st d ft b (Rd.flat rest))] else []) ++
        (dataWins k rest (A ++ t :: b).length).map (F ((A ++ t :: b) ++ Rd.flat rest)) := by
  have e1 : (A ++ t :: b).length = A.length + 1 + b.length := by simp; omega
  have e2 : (A ++ t :: b) ++ Rd.flat rest = A ++ Rd.flat ((t, b) :: rest) := by simp [Rd.flat]
  have hhead : (secWin k A.length (t, b)).map (F (A ++ t :: (b ++ Rd.flat rest))) =
      if kindOf t = k then [g (readBody o st d ft b (Rd.flat rest))] else [] := by
    unfold secWin
    split
    · simp only [List.map_cons, List.map_nil, hF]
      rw [readData_window]
    · rfl
  rw [e1, e2]
  simp only [dataWins, List.map_append]
  rw [← hhead]
  rfl

theorem dataWins_results (o : DataOpts) (ft : FloatTable) (G : Steer → Nat → List Str → Prop) (st : Steer) (d : Nat)
    (k : Rd.SecKind) (hk : isDataKind k) {secs secs' : List (Str × List Str)} (hrel : DocRel o ft G secs secs')
    (hG : AllData (G st d) secs) (A A' : List Str) :
    (dataWins k secs A.length).map (curvesOf o st d ft (A ++ Rd.flat secs)) =
      (dataWins k secs' A'.length).map (curvesOf o st d ft (A' ++ Rd.flat secs')) := by
  induction hrel generalizing A A' with
  | nil => rfl
  | @cons tb tb' rest rest' hs hv _ ih =>
    obtain ⟨t, b⟩ := tb
    obtain ⟨t', b'⟩ := tb'
    rw [dataWins_cons_map (·.map Prod.snd) (F := curvesOf o st d ft) o st d ft (fun _ _ => rfl),
      dataWins_cons_map (·.map Prod.snd) (F := curvesOf o st d ft) o st d ft (fun _ _ => rfl),
      ih (fun x hx => hG x (List.mem_cons_of_mem _ hx)) (A ++ t :: b) (A' ++ t' :: b'), ← kindOf_strip_congr hs.title]
    by_cases hkt : kindOf t = k
    · have hd : isDataKind (kindOf t) := hkt ▸ hk
      rw [if_pos hkt, if_pos hkt, hv hd st d (hG (t, b) List.mem_cons_self hd)]
    · rw [if_neg hkt, if_neg hkt]

/-- `docData` chooses between the two kinds of windows by the number of ~A windows alone -/
theorem docData_map {β} (F F' : Nat × Nat × Str → β) (secs secs' : List (Str × List Str)) (n n' : Nat)
    (hlen : (dataWins .data secs n).length = (dataWins .data secs' n').length)
    (h : ∀ k, isDataKind k → (dataWins k secs n).map F = (dataWins k secs' n').map F') :
    (docData secs n).map F = (docData secs' n').map F' := by
  have he : (dataWins .data secs n).isEmpty = (dataWins .data secs' n').isEmpty := by
    cases h1 : dataWins .data secs n <;> cases h2 : dataWins .data secs' n' <;> simp [h1, h2] at hlen ⊢
  unfold docData
  rw [← he]
  split
  · exact h .las3data (Or.inr rfl)
  · exact h .data (Or.inl rfl)

theorem docData_results (o : DataOpts) (ft : FloatTable) (G : Steer → Nat → List Str → Prop) (st : Steer) (d : Nat)
    {secs secs' : List (Str × List Str)} (hrel : DocRel o ft G secs secs') (hG : AllData (G st d) secs) (A A' : List Str) :
    (docData secs A.length).map (curvesOf o st d ft (A ++ Rd.flat secs)) =
    (docData secs' A'.length).map (curvesOf o st d ft (A' ++ Rd.flat secs')) :=
  docData_map _ _ secs secs' _ _ (dataWins_length (fun _ _ h => kindOf_strip_congr h.title) .data _ _ hrel.secs)
    fun k hk => dataWins_results o ft G st d k hk hrel hG A A'

/-- WHOLE FILE: a readable document and a section-wise related one give the same parsed result (`readModel`), provided the
guard of the relation holds for the steering values and the number of declared curves of the (base) file. -/
theorem readFull_rel (o : Opts) (nullOf : Option Str → Option Str) (ft : FloatTable) (G : Steer → Nat → List Str → Prop)
    (pre pre' : List Str) (secs secs' : List (Str × List Str))
    (hpre : ∀ x ∈ pre, Rd.isTitle x = false) (hpre' : ∀ x ∈ pre', Rd.isTitle x = false)
    (hw : Rd.WellFormed secs) (hw' : Rd.WellFormed secs') (hrel : DocRel o.dat ft G secs secs')
    (r : FullRead) (hr : readFull o nullOf ft (pre ++ Rd.flat secs) = .ok r)
    (hG : AllData (G (dtSteer nullOf r.steer) (declaredCount r.sections)) secs) :
    ∃ r', readFull o nullOf ft (pre' ++ Rd.flat secs') = .ok r' ∧ r'.steer = r.steer ∧ r'.parsed = r.parsed := by
  unfold readFull at hr ⊢
  cases hh : Rd.readLines o.hdr (pre ++ Rd.flat secs) with
  | error e => rw [hh] at hr; cases hr
  | ok h =>
    rw [hh] at hr
    obtain ⟨hd, hr'⟩ := readLines_rel o.hdr pre pre' secs secs' hpre hpre' hw hw' hrel.secs h hh
    rw [hr']
    simp only [Except.ok.injEq] at hr
    subst hr
    refine ⟨_, rfl, rfl, ?_⟩
    simp only [FullRead.parsed, List.map_map] at hG ⊢
    congr 1
    rw [hd]
    exact (docData_results o.dat ft G _ _ hrel hG pre pre').symm

end Lasio.Tf
