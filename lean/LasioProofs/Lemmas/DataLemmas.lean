import LasioModel.Data
import LasioProofs.Lemmas.Eval
import LasioProofs.Lemmas.StrLemmas
/-
Lemmas about the data-section reader (`LasioModel/Data.lean`).
Part 1: `applyNull`, reshape/transpose, typed columns, `assignCurves`.
Part 2: strings — trimming, the `re.sub` and `findall` scanners, rows of quiet tokens, what the engines get from a line.
Part 3: the r × c matrix; plain data sections and `readData` on them: `LineRows dlm c body rows` (the body lines give the token
rows `rows` under the delimiter `dlm`) is what the sniffer and the normal engine need, `PlainData` (its SPACE case `Body` and
what follows the window) what the numpy engine needs.
Part 4: rectangular results; the plain decimal grammar is inside `simplePlain`.
The blocks in `namespace Lasio.Tf` (`pySplit` and its words in Part 2; `readData` on a window given by its body and the numpy
engine through the rows it sees in Part 3) are the part of this theory that the transformation lemmas (C09) are built on.
-/
namespace Lasio.Dt

/-! ## applyNull -/

/-- cell `i` of column `j` when that column is a float column -/
def floatCell (cols : List Column) (j i : Nat) : Option Str :=
  match cols[j]? with
  | some (.floats cells) => cells[i]?
  | _ => none

theorem applyNullFrom_getElem? (u : Bool) (null : Option Str) (cols : List Column) (k j : Nat) :
    (applyNullFrom u null k cols)[j]? = (cols[j]?).map (applyNullCol u null (k + j)) := by
  induction cols generalizing k j with
  | nil => simp [applyNullFrom]
  | cons c cs ih =>
    cases j with
    | zero => simp [applyNullFrom]
    | succ j =>
      simp only [applyNullFrom, List.getElem?_cons_succ]
      rw [ih]
      congr 2
      omega

theorem applyNull_getElem? (u : Bool) (null : Option Str) (cols : List Column) (j : Nat) :
    (applyNull u null cols)[j]? = (cols[j]?).map (applyNullCol u null j) := by
  unfold applyNull
  rw [applyNullFrom_getElem?]
  simp

theorem applyNullCol_none (null : Option Str) (j : Nat) (c : Column) : applyNullCol false null j c = c := by
  unfold applyNullCol
  split <;> simp

theorem applyNullCol_zero (u : Bool) (null : Option Str) (c : Column) : applyNullCol u null 0 c = c := by
  unfold applyNullCol
  split <;> simp

theorem applyNullCol_text (u : Bool) (null : Option Str) (j : Nat) (cells : List Str) :
    applyNullCol u null j (.text cells) = .text cells := by
  unfold applyNullCol
  split <;> simp_all

theorem applyNullCol_nonnumeric (u : Bool) (j : Nat) (c : Column) : applyNullCol u none j c = c := by
  unfold applyNullCol
  split <;> simp_all

theorem applyNullCol_floats (nv : Str) (j : Nat) (hj : j ≠ 0) (cells : List Str) :
    applyNullCol true (some nv) j (.floats cells) = .floats (nullCells nv cells) := by
  simp [applyNullCol, hj]

theorem nullCells_getElem? (nv : Str) (cells : List Str) (i : Nat) :
    (nullCells nv cells)[i]? = (cells[i]?).map (fun v => if feq v nv then nanTxt else v) := by
  simp [nullCells]

/-- a float cell after NULL handling: replaced by NaN exactly when the policy is strict, the column is not column 0 and the
cell is `==` a numeric header NULL -/
theorem floatCell_applyNull (u : Bool) (null : Option Str) (cols : List Column) (j i : Nat) :
    floatCell (applyNull u null cols) j i =
      (floatCell cols j i).map fun v => if (u && j != 0 && null.any (feq v ·)) = true then nanTxt else v := by
  unfold floatCell
  rw [applyNull_getElem?]
  cases cols[j]? with
  | none => rfl
  | some col =>
    cases col with
    | text cells => rw [Option.map_some, applyNullCol_text]; rfl
    | floats cells =>
      rw [Option.map_some]
      cases null with
      | none => simp [applyNullCol_nonnumeric]
      | some nv =>
        cases h : u && j != 0 with
        | false => simp [applyNullCol, h]
        | true => simp [applyNullCol, h, nullCells_getElem?]

/-- NaN is never `==` anything -/
theorem feq_nan (b : Str) : feq nanTxt b = false := by simp [feq]

theorem applyNullCol_length (u : Bool) (null : Option Str) (j : Nat) (c : Column) :
    (applyNullCol u null j c).length = c.length := by
  unfold applyNullCol
  split
  · split <;> simp [Column.length, nullCells]
  · rfl

theorem applyNullFrom_length (u : Bool) (null : Option Str) (cols : List Column) (k : Nat) :
    (applyNullFrom u null k cols).length = cols.length := by
  induction cols generalizing k with
  | nil => rfl
  | cons c cs ih => simp [applyNullFrom, ih]

theorem applyNull_length (u : Bool) (null : Option Str) (cols : List Column) :
    (applyNull u null cols).length = cols.length := applyNullFrom_length u null cols 0

theorem applyNull_mem_length (u : Bool) (null : Option Str) (cols : List Column) (L : Nat)
    (h : ∀ c ∈ cols, c.length = L) : ∀ c ∈ applyNull u null cols, c.length = L := by
  intro c hc
  obtain ⟨j, hj, rfl⟩ := List.getElem_of_mem hc
  have h1 := applyNull_getElem? u null cols j
  rw [List.getElem?_eq_getElem hj] at h1
  have hj' : j < cols.length := by rw [applyNull_length] at hj; exact hj
  rw [List.getElem?_eq_getElem hj'] at h1
  simp only [Option.map_some, Option.some.injEq] at h1
  rw [h1, applyNullCol_length]
  exact h _ (List.getElem_mem hj')

theorem curveLength_applyNull (u : Bool) (null : Option Str) (cols : List Column) :
    curveLength (applyNull u null cols) = curveLength cols := by
  cases cols with
  | nil => rfl
  | cons c cs => simp [applyNull, applyNullFrom, curveLength, applyNullCol_length]

/-! ## reshape / transpose -/

theorem chunk_nil {α} (c fuel : Nat) : chunk c fuel ([] : List α) = [] := by
  cases fuel <;> simp [chunk]

theorem chunk_flatten {α} (c : Nat) (hc : 0 < c) (rows : List (List α)) (h : ∀ r ∈ rows, r.length = c)
    (fuel : Nat) (hf : rows.length ≤ fuel) : chunk c fuel rows.flatten = rows := by
  induction rows generalizing fuel with
  | nil => simp [chunk_nil]
  | cons r rs ih =>
    cases fuel with
    | zero => simp at hf
    | succ f =>
      have hr : r.length = c := h r (by simp)
      have hne : r ≠ [] := by intro e; rw [e] at hr; simp at hr; omega
      simp only [List.flatten_cons, chunk]
      have : (r ++ rs.flatten).isEmpty = false := by
        cases r with
        | nil => exact absurd rfl hne
        | cons a t => rfl
      rw [this]
      simp only [Bool.false_eq_true, ↓reduceIte]
      rw [List.take_left' hr, List.drop_left' hr]
      rw [ih (fun r' hr' => h r' (by simp [hr'])) f (by simp at hf; omega)]

theorem length_flatten_eq {α} (c : Nat) (rows : List (List α)) (h : ∀ r ∈ rows, r.length = c) :
    rows.flatten.length = rows.length * c := by
  induction rows with
  | nil => simp
  | cons r rs ih =>
    have hr : r.length = c := h r (by simp)
    have := ih (fun r' hr' => h r' (by simp [hr']))
    simp only [List.flatten_cons, List.length_cons, List.length_append, this, hr]
    rw [Nat.add_mul]; omega

theorem length_flatten_ge {α} (c : Nat) (hc : 0 < c) (rows : List (List α)) (h : ∀ r ∈ rows, r.length = c) :
    rows.length ≤ rows.flatten.length := by
  rw [length_flatten_eq c rows h]
  exact Nat.le_mul_of_pos_right _ hc

/-- `np.reshape(flat, (-1, c))` of the row-major flattening of an r × c matrix is the matrix -/
theorem reshape_flatten {α} (c : Nat) (hc : 0 < c) (rows : List (List α)) (h : ∀ r ∈ rows, r.length = c) :
    reshape c rows.flatten = rows :=
  chunk_flatten c hc rows h _ (length_flatten_ge c hc rows h)

theorem chunk_rows_length {α} (c : Nat) (fuel : Nat) (l : List α) (hd : l.length % c = 0) :
    ∀ r ∈ chunk c fuel l, r.length = c := by
  induction fuel generalizing l with
  | zero => simp [chunk]
  | succ f ih =>
    intro r hr
    simp only [chunk] at hr
    split at hr
    · simp at hr
    · rename_i hne
      have hl : c ≤ l.length := by
        cases l with
        | nil => simp at hne
        | cons a t =>
          have : 0 < (a :: t).length := by simp
          rcases Nat.lt_or_ge (a :: t).length c with hlt | hge
          · rw [Nat.mod_eq_of_lt hlt] at hd; omega
          · exact hge
      simp only [List.mem_cons] at hr
      rcases hr with rfl | hr
      · simp [List.length_take, Nat.min_eq_left hl]
      · apply ih (l.drop c) _ r hr
        rw [List.length_drop]
        have := Nat.sub_mod_eq_zero_of_mod_eq (m := l.length) (n := c) (k := c) (by simp [hd])
        simpa using this

theorem columnOf_length (rows : List (List Str)) (j : Nat) : (columnOf rows j).length = rows.length := by
  simp [columnOf]

theorem mem_columnsOf_length (c : Nat) (rows : List (List Str)) : ∀ col ∈ columnsOf c rows, col.length = rows.length := by
  intro col h
  simp only [columnsOf, List.mem_map] at h
  obtain ⟨j, _, rfl⟩ := h
  exact columnOf_length rows j

theorem columnsOf_length (c : Nat) (rows : List (List Str)) : (columnsOf c rows).length = c := by
  simp [columnsOf]

/-! ## typed columns -/

theorem floatCells_length (ft : FloatTable) (toks vs : List Str) (h : floatCells ft toks = some vs) :
    vs.length = toks.length := by
  induction toks generalizing vs with
  | nil => simp [floatCells] at h; subst h; rfl
  | cons t ts ih =>
    simp only [floatCells] at h
    split at h
    · rename_i v vs' _ h2
      simp at h; subst h
      simp [ih vs' h2]
    · simp at h

theorem floatCells_getElem? (ft : FloatTable) (toks vs : List Str) (h : floatCells ft toks = some vs) (i : Nat) (t : Str)
    (ht : toks[i]? = some t) : vs[i]? = toFloat ft t := by
  induction toks generalizing vs i with
  | nil => simp at ht
  | cons a ts ih =>
    simp only [floatCells] at h
    split at h
    · rename_i v vs' h1 h2
      simp at h; subst h
      cases i with
      | zero => simp at ht; subst ht; simp [h1]
      | succ i => simp at ht; simpa using ih vs' h2 i ht
    · simp at h

theorem typedColumn_length (ft : FloatTable) (toks : List Str) : (typedColumn ft toks).length = toks.length := by
  unfold typedColumn
  split
  · rename_i vs h; simp [Column.length, floatCells_length ft toks vs h]
  · rfl

theorem floatCells_of_all (ft : FloatTable) (toks : List Str) (h : ∀ t ∈ toks, (toFloat ft t).isSome) :
    ∃ vs, floatCells ft toks = some vs := by
  induction toks with
  | nil => exact ⟨[], rfl⟩
  | cons t ts ih =>
    obtain ⟨vs, hvs⟩ := ih (fun t' ht' => h t' (by simp [ht']))
    have ht := h t (by simp)
    cases hv : toFloat ft t with
    | none => simp [hv] at ht
    | some v => exact ⟨v :: vs, by simp [floatCells, hv, hvs]⟩

theorem floatCells_none_of_mem (ft : FloatTable) (toks : List Str) (t : Str) (ht : t ∈ toks) (hn : toFloat ft t = none) :
    floatCells ft toks = none := by
  induction toks with
  | nil => simp at ht
  | cons a ts ih =>
    simp only [List.mem_cons] at ht
    simp only [floatCells]
    rcases ht with rfl | ht
    · simp [hn]
    · rw [ih ht]; split <;> simp_all

theorem allFloatCols_eq (ft : FloatTable) (cols : List (List Str)) (out : List Column) (h : allFloatCols ft cols = some out) :
    out = cols.map (typedColumn ft) := by
  induction cols generalizing out with
  | nil => simp [allFloatCols] at h; subst h; rfl
  | cons col cs ih =>
    simp only [allFloatCols] at h
    split at h
    · rename_i vs r h1 h2
      simp at h; subst h
      simp [typedColumn, h1, ih r h2]
    · simp at h

theorem allFloatCols_of_all (ft : FloatTable) (cols : List (List Str)) (h : ∀ col ∈ cols, ∀ t ∈ col, (toFloat ft t).isSome) :
    allFloatCols ft cols = some (cols.map (typedColumn ft)) := by
  induction cols with
  | nil => rfl
  | cons col cs ih =>
    obtain ⟨vs, hvs⟩ := floatCells_of_all ft col (h col (by simp))
    have := ih (fun c hc => h c (by simp [hc]))
    simp [allFloatCols, hvs, this, typedColumn]

theorem allFloatCols_none_of_mem (ft : FloatTable) (cols : List (List Str)) (col : List Str) (t : Str)
    (hc : col ∈ cols) (ht : t ∈ col) (hn : toFloat ft t = none) : allFloatCols ft cols = none := by
  induction cols with
  | nil => simp at hc
  | cons a cs ih =>
    simp only [List.mem_cons] at hc
    simp only [allFloatCols]
    rcases hc with rfl | hc
    · rw [floatCells_none_of_mem ft col t ht hn]
    · rw [ih hc]; split <;> simp_all

/-! ## assignCurves -/

theorem assignFrom_length (d k : Nat) (cols : List Column) : (assignFrom d k cols).length = cols.length := by
  induction cols generalizing k with
  | nil => rfl
  | cons c cs ih => simp [assignFrom, ih]

theorem assignFrom_getElem? (d k j : Nat) (cols : List Column) :
    (assignFrom d k cols)[j]? = (cols[j]?).map fun c => ((if k + j < d then Slot.declared (k + j) else Slot.extra), c) := by
  induction cols generalizing k j with
  | nil => simp [assignFrom]
  | cons c cs ih =>
    cases j with
    | zero => simp [assignFrom]
    | succ j =>
      simp only [assignFrom, List.getElem?_cons_succ]
      rw [ih]
      have : k + 1 + j = k + (j + 1) := by omega
      rw [this]

theorem assignFrom_snd (d k : Nat) (cols : List Column) : (assignFrom d k cols).map Prod.snd = cols := by
  induction cols generalizing k with
  | nil => rfl
  | cons c cs ih => simp [assignFrom, ih]

/-! ## Part 2: strings -/

def AllWs (s : Str) : Prop := ∀ c ∈ s, isPySpace c = true

def WsHead (s : Str) : Prop := s = [] ∨ ∃ w r, s = w :: r ∧ isPySpace w = true

theorem wsHead_of_allWs_append (a b : Str) (ha : AllWs a) (hne : a ≠ []) : WsHead (a ++ b) := by
  cases a with
  | nil => exact absurd rfl hne
  | cons w r => exact Or.inr ⟨w, r ++ b, rfl, ha w (by simp)⟩

theorem wsHead_allWs (a : Str) (ha : AllWs a) : WsHead a := by
  cases a with
  | nil => exact Or.inl rfl
  | cons w r => exact Or.inr ⟨w, r, rfl, ha w (by simp)⟩

theorem ws_not_digit (c : Char) (h : isPySpace c = true) : isUDigit c = false := by
  unfold isPySpace at h
  unfold isUDigit
  simp only [Bool.or_eq_true, Bool.and_eq_true, decide_eq_true_eq, beq_iff_eq] at h
  simp only [Bool.or_eq_false_iff, Bool.and_eq_false_iff, decide_eq_false_iff_not]
  omega

theorem ws_beq (c d : Char) (h : isPySpace c = true) (hd : isPySpace d = false) : (c == d) = false := by
  rw [beq_eq_false_iff_ne]
  intro e
  subst e
  simp [h] at hd

theorem WsHead.stops {s : Str} (h : WsHead s) {p : Char → Bool} (hp : ∀ w, isPySpace w = true → p w = false) :
    s = [] ∨ ∃ w r, s = w :: r ∧ p w = false :=
  Or.imp_right (fun ⟨w, r, e, hw⟩ => ⟨w, r, e, hp w hw⟩) h

/-- a test that fails on the head of `b` does not look into `b` -/
theorem span_append_stop (p : Char → Bool) (a b : Str) (hb : b = [] ∨ ∃ w r, b = w :: r ∧ p w = false) :
    (a ++ b).takeWhile p = a.takeWhile p ∧ (a ++ b).dropWhile p = a.dropWhile p ++ b := by
  induction a with
  | nil => rcases hb with rfl | ⟨w, r, rfl, hw⟩ <;> simp [*]
  | cons x a ih =>
    simp only [List.cons_append, List.takeWhile_cons, List.dropWhile_cons]
    split <;> simp [ih]

theorem takeWhile_append_stop (p : Char → Bool) (a b : Str) (ha : ∀ x ∈ a, p x = true)
    (hb : b = [] ∨ ∃ w r, b = w :: r ∧ p w = false) : (a ++ b).takeWhile p = a := by
  rw [(span_append_stop p a b hb).1, (Lasio.takeWhile_all a ha).1]

/-- a string with a non-blank first and a non-blank last character -/
structure Solid (m : Str) : Prop where
  head : ∃ h tl, m = h :: tl ∧ isPySpace h = false
  last : ∃ ini z, m = ini ++ [z] ∧ isPySpace z = false

theorem strip_sandwich (pre m post : Str) (hpre : AllWs pre) (hpost : AllWs post) (hm : Solid m) :
    strip (pre ++ (m ++ post)) = m := by
  obtain ⟨h, tl, e1, hh⟩ := hm.head
  obtain ⟨ini, z, e2, hz⟩ := hm.last
  rw [← List.append_assoc, strip_pad pre m post hpre hpost]
  exact strip_eq_self m (fun c hc => by rw [e1] at hc; cases hc; exact hh)
    (fun c hc => by rw [e2, List.getLast?_concat] at hc; cases hc; exact hz)

/-- `line.strip("\n").strip()` is `line.strip()`: a line feed is white space -/
theorem cleanLine_eq_strip (l : Str) : cleanLine l = strip l := strip_stripChar '\n' (by decide) l

theorem cleanLine_sandwich (pre m post : Str) (hpre : AllWs pre) (hpost : AllWs post) (hm : Solid m) :
    cleanLine (pre ++ (m ++ post)) = m := by
  rw [cleanLine_eq_strip]
  exact strip_sandwich pre m post hpre hpost hm

theorem cleanLine_blank (ln : Str) (h : AllWs ln) : cleanLine ln = [] := by
  rw [cleanLine_eq_strip]
  exact strip_allspace ln h

theorem cleanLine_comment (pre rest : Str) (hpre : AllWs pre) :
    ∃ r, cleanLine (pre ++ '#' :: rest) = '#' :: r := by
  refine ⟨(rest.reverse.dropWhile isPySpace).reverse, ?_⟩
  rw [cleanLine_eq_strip, strip_pad_left pre _ hpre]
  unfold strip lstrip rstrip
  rw [List.dropWhile_cons_of_neg (by decide), List.reverse_cons, dropWhile_append_stop _ _ _ _ (by decide)]
  simp

/-! ### the `re.sub` scanner finds nothing -/

def NoMatch (m : Str → Option (Str × Nat)) (l : Str) : Prop := ∀ s, s <:+ l → m s = none

theorem reSub_id (m : Str → Option (Str × Nat)) (l : Str) (h : NoMatch m l) : reSub m 0 l = l := by
  induction l with
  | nil => rfl
  | cons c cs ih =>
    have h0 : m (c :: cs) = none := h _ List.suffix_rfl
    simp only [reSub, h0]
    rw [ih (fun s hs => h s (hs.trans (List.suffix_cons c cs)))]

/-- the verdict of the matcher does not look beyond the first blank -/
def Local (m : Str → Option (Str × Nat)) : Prop := ∀ x tail, WsHead tail → m (x ++ tail) = m x

theorem noMatch_nil (m : Str → Option (Str × Nat)) (h : m [] = none) : NoMatch m [] := by
  intro s hs
  have : s = [] := by simpa using hs
  rw [this, h]

theorem noMatch_append (m : Str → Option (Str × Nat)) (hl : Local m) (t tail : Str) (ht : NoMatch m t)
    (htail : NoMatch m tail) (hw : WsHead tail) : NoMatch m (t ++ tail) := by
  induction t with
  | nil => simpa using htail
  | cons c cs ih =>
    intro s hs
    rw [List.cons_append, List.suffix_cons_iff] at hs
    rcases hs with rfl | hs
    · rw [← List.cons_append, hl (c :: cs) tail hw]
      exact ht _ List.suffix_rfl
    · exact ih (fun s' hs' => ht s' (hs'.trans (List.suffix_cons c cs))) s hs

theorem noMatch_allWs_append (m : Str → Option (Str × Nat)) (hws : ∀ w r, isPySpace w = true → m (w :: r) = none)
    (a r : Str) (ha : AllWs a) (hr : NoMatch m r) : NoMatch m (a ++ r) := by
  induction a with
  | nil => simpa using hr
  | cons w a ih =>
    intro s hs
    rcases (List.suffix_cons_iff.mp hs) with rfl | hs
    · exact hws w (a ++ r) (ha w (by simp))
    · exact ih (fun c hc => ha c (by simp [hc])) s hs

/-! ### the three matchers are local and never start on a blank -/

/-- A matcher that looks at the first three characters only and wants a digit, the non-blank `p`, a digit (the shape of
`(\d),(\d)` and `(\d)-(\d)`) never starts on a blank and does not look beyond the first blank. -/
theorem window3_facts (m : Str → Option (Str × Nat)) (p : Char) (out : Char → Char → Str × Nat)
    (h0 : m [] = none) (h1 : ∀ a, m [a] = none) (h2 : ∀ a q, m [a, q] = none)
    (h3 : ∀ a q b r, m (a :: q :: b :: r) = if q == p && isUDigit a && isUDigit b then some (out a b) else none)
    (hp : isPySpace p = false) :
    Local m ∧ ∀ w r, isPySpace w = true → m (w :: r) = none := by
  have hws : ∀ w r, isPySpace w = true → m (w :: r) = none := by
    intro w r hw
    match r with
    | [] => exact h1 w
    | [q] => exact h2 w q
    | q :: b :: r => rw [h3, ws_not_digit w hw, Bool.and_false, Bool.false_and]; rfl
  refine ⟨fun x tail hw => ?_, hws⟩
  rcases hw with rfl | ⟨w, r, rfl, hw⟩
  · rw [List.append_nil]
  · match x with
    | [] => rw [List.nil_append, hws w r hw, h0]
    | [a] =>
      rw [h1]
      match r with
      | [] => exact h2 a w
      | b :: r => exact (h3 a w b r).trans (by rw [ws_beq w p hw hp]; rfl)
    | [a, q] => exact (h3 a q w r).trans (by rw [ws_not_digit w hw, Bool.and_false, h2]; rfl)
    | a :: q :: b :: x => exact (h3 a q b (x ++ w :: r)).trans (h3 a q b x).symm

theorem mComma_facts : Local mComma ∧ ∀ w r, isPySpace w = true → mComma (w :: r) = none :=
  window3_facts mComma ',' (fun a b => ([a, '.', b], 2)) rfl (fun _ => rfl) (fun _ _ => rfl) (fun _ _ _ _ => rfl) (by decide)

theorem mHyphen_facts : Local mHyphen ∧ ∀ w r, isPySpace w = true → mHyphen (w :: r) = none :=
  window3_facts mHyphen '-' (fun a b => ([a, ' ', '-', b], 2)) rfl (fun _ => rfl) (fun _ _ => rfl) (fun _ _ _ _ => rfl)
    (by decide)
theorem mComma_local : Local mComma := mComma_facts.1
theorem mComma_ws (w : Char) (r : Str) (hw : isPySpace w = true) : mComma (w :: r) = none := mComma_facts.2 w r hw
theorem mHyphen_local : Local mHyphen := mHyphen_facts.1
theorem mHyphen_ws (w : Char) (r : Str) (hw : isPySpace w = true) : mHyphen (w :: r) = none := mHyphen_facts.2 w r hw

theorem digitsThenDot_wsHead (tail : Str) (hw : WsHead tail) : digitsThenDot tail = none := by
  rcases hw with rfl | ⟨w, r, rfl, hw⟩
  · rfl
  · simp [digitsThenDot, ws_beq w '.' hw (by decide), ws_not_digit w hw]

theorem digitsThenDot_local (x tail : Str) (hw : WsHead tail) :
    digitsThenDot (x ++ tail) = (digitsThenDot x).map (fun nr => (nr.1, nr.2 ++ tail)) := by
  induction x with
  | nil => simp [digitsThenDot_wsHead tail hw, digitsThenDot]
  | cons c cs ih =>
    simp only [List.cons_append, digitsThenDot]
    split
    · rfl
    · split
      · rw [ih]; cases digitsThenDot cs <;> simp
      · rfl

theorem takeWhile_digit_local (x tail : Str) (hw : WsHead tail) :
    (x ++ tail).takeWhile isUDigit = x.takeWhile isUDigit :=
  (span_append_stop isUDigit x tail (hw.stops ws_not_digit)).1

theorem dotTail_local (neg : Nat) (x tail : Str) (hw : WsHead tail) : dotTail neg (x ++ tail) = dotTail neg x := by
  unfold dotTail
  rw [digitsThenDot_local _ tail hw]
  cases h1 : digitsThenDot x with
  | none => rfl
  | some nr =>
    simp only [Option.map_some]
    rw [digitsThenDot_local _ tail hw]
    cases h2 : digitsThenDot nr.2 with
    | none => rfl
    | some nr2 =>
      simp only [Option.map_some]
      rw [takeWhile_digit_local _ tail hw]

theorem mDotAlt1_local (x tail : Str) (hw : WsHead tail) : mDotAlt1 (x ++ tail) = mDotAlt1 x := by
  cases x with
  | nil =>
    rcases hw with rfl | ⟨w, r, rfl, hw'⟩
    · rfl
    · simp only [List.nil_append, mDotAlt1, ws_beq w '-' hw' (by decide), Bool.false_eq_true, ↓reduceIte]
      unfold dotTail
      rw [digitsThenDot_wsHead (w :: r) (Or.inr ⟨w, r, rfl, hw'⟩)]
  | cons c cs =>
    simp only [List.cons_append, mDotAlt1]
    split
    · exact dotTail_local 1 cs tail hw
    · exact dotTail_local 0 (c :: cs) tail hw

theorem mDotAlt2_local (x tail : Str) (hw : WsHead tail) : mDotAlt2 (x ++ tail) = mDotAlt2 x := by
  match x with
  | c1 :: c2 :: c3 :: p :: d :: rest =>
    simp only [List.cons_append, mDotAlt2, takeWhile_digit_local rest tail hw]
  | [] =>
    rcases hw with rfl | ⟨w, r, rfl, hw⟩
    · rfl
    · have : (w == 'N') = false := ws_beq w 'N' hw (by decide)
      match r with
      | [] | [_] | [_, _] | [_, _, _] => rfl
      | _ :: _ :: _ :: _ :: _ => simp [mDotAlt2, this]
  | [c1] =>
    rcases hw with rfl | ⟨w, r, rfl, hw⟩
    · rfl
    · have : (w == 'a') = false := ws_beq w 'a' hw (by decide)
      match r with
      | [] | [_] | [_, _] => rfl
      | _ :: _ :: _ :: _ => simp [mDotAlt2, this]
  | [c1, c2] =>
    rcases hw with rfl | ⟨w, r, rfl, hw⟩
    · rfl
    · have : (w == 'N') = false := ws_beq w 'N' hw (by decide)
      match r with
      | [] | [_] => rfl
      | _ :: _ :: _ => simp [mDotAlt2, this]
  | [c1, c2, c3] =>
    rcases hw with rfl | ⟨w, r, rfl, hw⟩
    · rfl
    · have h1 : (w == '.') = false := ws_beq w '.' hw (by decide)
      have h2 : (w == '-') = false := ws_beq w '-' hw (by decide)
      match r with
      | [] => rfl
      | _ :: _ => simp [mDotAlt2, h1, h2]
  | [c1, c2, c3, p] =>
    rcases hw with rfl | ⟨w, r, rfl, hw⟩
    · rfl
    · simp [mDotAlt2, ws_not_digit w hw]

theorem mDot_local : Local mDot := by
  intro x tail hw
  unfold mDot
  rw [mDotAlt1_local x tail hw, mDotAlt2_local x tail hw]

theorem mDot_ws (w : Char) (r : Str) (hw : isPySpace w = true) : mDot (w :: r) = none := by
  have h := mDot_local [] (w :: r) (Or.inr ⟨w, r, rfl, hw⟩)
  simp only [List.nil_append] at h
  rw [h]; rfl

/-! ### the `findall` scanner on blank-separated tokens -/

theorem scanTok_skip (m : Str → Option (Str × Nat)) (a b : Str) : scanTok m a.length (a ++ b) = scanTok m 0 b := by
  induction a with
  | nil => rfl
  | cons x a ih => simpa [scanTok] using ih

theorem scanTok_allWs (m : Str → Option (Str × Nat)) (hws : ∀ w r, isPySpace w = true → m (w :: r) = none)
    (a r : Str) (ha : AllWs a) : scanTok m 0 (a ++ r) = scanTok m 0 r := by
  induction a with
  | nil => rfl
  | cons w a ih =>
    simp only [List.cons_append, scanTok, hws w (a ++ r) (ha w (by simp))]
    exact ih (fun c hc => ha c (by simp [hc]))

theorem scanTok_allWs_nil (m : Str → Option (Str × Nat)) (hws : ∀ w r, isPySpace w = true → m (w :: r) = none)
    (a : Str) (ha : AllWs a) : scanTok m 0 a = [] := by
  have := scanTok_allWs m hws a [] ha
  rwa [List.append_nil] at this

/-- a match of a whole token at the head: the scanner emits it and goes on behind it -/
theorem scanTok_take (m : Str → Option (Str × Nat)) (c : Char) (cs tail : Str)
    (hm : m (c :: cs ++ tail) = some (c :: cs, cs.length)) :
    scanTok m 0 (c :: cs ++ tail) = (c :: cs) :: scanTok m 0 tail := by
  rw [List.cons_append] at hm ⊢
  rw [scanTok, hm]
  simp only
  rw [scanTok_skip]

/-- characters a data token is made of: no blank, no quote, no `#`, no ctrl-Z -/
def tokChar (c : Char) : Bool := !isPySpace c && c != '"' && c != '\'' && c != '#' && c != ctrlZ

/-- the matcher takes a whole token when a blank (or the end) follows -/
def TakesToken (m : Str → Option (Str × Nat)) : Prop :=
  ∀ c t tail, (∀ x ∈ c :: t, tokChar x = true) → WsHead tail → m (c :: t ++ tail) = some (c :: t, t.length)

theorem tokChar_parts (c : Char) (h : tokChar c = true) :
    isPySpace c = false ∧ (c == '"') = false ∧ (c == '\'') = false ∧ (c == '#') = false ∧ (c == ctrlZ) = false := by
  unfold tokChar at h
  simp only [Bool.and_eq_true, Bool.not_eq_true', bne_iff_ne, ne_eq] at h
  simp [h]

theorem ws_not_quote (w : Char) (hw : isPySpace w = true) : (w == '"') = false ∧ (w == '\'') = false :=
  ⟨ws_beq w '"' hw (by decide), ws_beq w '\'' hw (by decide)⟩

theorem mSplit_ws (w : Char) (r : Str) (hw : isPySpace w = true) : mSplit isPySpace (w :: r) = none := by
  simp [mSplit, ws_not_quote w hw, hw]

theorem mWord_ws (w : Char) (r : Str) (hw : isPySpace w = true) : mWord (w :: r) = none := by
  simp [mWord, hw]

/-- `mSplit` takes a whole run of characters that are neither separators nor quotes when a separator (or the end) follows -/
theorem mSplit_takes_run (isSep : Char → Bool) (c : Char) (t tail : Str)
    (hc : ∀ x ∈ c :: t, isSep x = false ∧ (x == '"') = false ∧ (x == '\'') = false)
    (hw : tail = [] ∨ ∃ w r, tail = w :: r ∧ isSep w = true) :
    mSplit isSep (c :: t ++ tail) = some (c :: t, t.length) := by
  obtain ⟨h1, h2, h3⟩ := hc c List.mem_cons_self
  have : (t ++ tail).takeWhile (fun x => !(isSep x || x == '"' || x == '\'')) = t := by
    apply Dt.takeWhile_append_stop
    · intro x hx
      obtain ⟨a1, a2, a3⟩ := hc x (List.mem_cons_of_mem _ hx)
      simp [a1, a2, a3]
    · rcases hw with rfl | ⟨w, r, rfl, hw⟩
      · exact Or.inl rfl
      · exact Or.inr ⟨w, r, rfl, by simp [hw]⟩
  simp only [List.cons_append, mSplit, h2, h3, Bool.or_self, Bool.false_eq_true, ↓reduceIte, h1, this]

/-- `mWord` takes a whole run of non-blank characters when a blank (or the end) follows -/
theorem mWord_takes_run (c : Char) (t tail : Str) (hc : ∀ x ∈ c :: t, isPySpace x = false) (hw : WsHead tail) :
    mWord (c :: t ++ tail) = some (c :: t, t.length) := by
  have : (t ++ tail).takeWhile (fun x => !isPySpace x) = t := by
    apply Dt.takeWhile_append_stop
    · intro x hx; simp [hc x (List.mem_cons_of_mem _ hx)]
    · exact hw.stops fun w h => by simp [h]
  simp only [List.cons_append, mWord, hc c List.mem_cons_self, Bool.false_eq_true, ↓reduceIte, this]

theorem mSplit_takes : TakesToken (mSplit isPySpace) := fun c t tail hc hw =>
  mSplit_takes_run isPySpace c t tail (fun x hx => have p := tokChar_parts x (hc x hx); ⟨p.1, p.2.1, p.2.2.1⟩) hw

theorem mWord_takes : TakesToken mWord := fun c t tail hc hw =>
  mWord_takes_run c t tail (fun x hx => (tokChar_parts x (hc x hx)).1) hw

/-! ### quiet tokens and rows -/

/-- A token on which no read substitution fires and that contains no blank, quote, `#` or ctrl-Z.
Every plain decimal number is one (`quietTok_of_simple`); so are most words. -/
structure QuietTok (t : Str) : Prop where
  ne : t ≠ []
  chars : ∀ c ∈ t, tokChar c = true
  comma : NoMatch mComma t
  hyphen : NoMatch mHyphen t
  dot : NoMatch mDot t

/-- `Core toks s`: `s` is the tokens `toks` (at least one) separated by non-empty runs of blanks -/
inductive Core : List Str → Str → Prop
  | one {t : Str} : QuietTok t → Core [t] t
  | cons {t sep rest : Str} {ts : List Str} :
      QuietTok t → sep ≠ [] → AllWs sep → Core ts rest → Core (t :: ts) (t ++ (sep ++ rest))

theorem quietTok_solid (t : Str) (h : QuietTok t) : Solid t := by
  constructor
  · cases t with
    | nil => exact absurd rfl h.ne
    | cons c cs => exact ⟨c, cs, rfl, (tokChar_parts c (h.chars c (by simp))).1⟩
  · have := List.eq_nil_or_concat t
    rcases this with e | ⟨ini, z, e⟩
    · exact absurd e h.ne
    · exact ⟨ini, z, by simpa using e, (tokChar_parts z (h.chars z (by simp [e]))).1⟩

theorem core_solid {toks : List Str} {s : Str} (h : Core toks s) : Solid s := by
  induction h with
  | one ht => exact quietTok_solid _ ht
  | @cons t sep rest ts ht _ _ _ ih =>
    constructor
    · obtain ⟨c, cs, e, hc⟩ := (quietTok_solid _ ht).head
      exact ⟨c, cs ++ (sep ++ rest), by rw [e]; rfl, hc⟩
    · obtain ⟨ini, z, e, hz⟩ := ih.last
      exact ⟨t ++ (sep ++ ini), z, by rw [e]; simp, hz⟩

theorem core_head_tok {toks : List Str} {s : Str} (h : Core toks s) : ∃ c cs, s = c :: cs ∧ tokChar c = true := by
  cases h with
  | one ht =>
    cases s with
    | nil => exact absurd rfl ht.ne
    | cons c cs => exact ⟨c, cs, rfl, ht.chars c (by simp)⟩
  | @cons t sep rest ts ht _ _ _ =>
    cases t with
    | nil => exact absurd rfl ht.ne
    | cons c cs => exact ⟨c, cs ++ _, rfl, ht.chars c (by simp)⟩

theorem ws_ne_hash (w : Char) (hw : isPySpace w = true) : (w == '#') = false := ws_beq w '#' hw (by decide)
theorem ws_ne_ctrlZ (w : Char) (hw : isPySpace w = true) : (w == ctrlZ) = false := ws_beq w ctrlZ hw (by decide)

theorem core_chars {toks : List Str} {s : Str} (h : Core toks s) : ∀ c ∈ s, (c == '#') = false ∧ (c == ctrlZ) = false := by
  induction h with
  | one ht => intro c hc; have := tokChar_parts c (ht.chars c hc); exact ⟨this.2.2.2.1, this.2.2.2.2⟩
  | cons ht _ hsep _ ih =>
    intro c hc
    simp only [List.mem_append] at hc
    rcases hc with hc | hc | hc
    · have := tokChar_parts c (ht.chars c hc); exact ⟨this.2.2.2.1, this.2.2.2.2⟩
    · exact ⟨ws_ne_hash c (hsep c hc), ws_ne_ctrlZ c (hsep c hc)⟩
    · exact ih c hc

theorem core_noMatch (m : Str → Option (Str × Nat)) (hl : Local m) (hws : ∀ w r, isPySpace w = true → m (w :: r) = none)
    (hq : ∀ t, QuietTok t → NoMatch m t) {toks : List Str} {s : Str} (h : Core toks s) : NoMatch m s := by
  induction h with
  | one ht => exact hq _ ht
  | cons ht hne hsep _ ih =>
    apply noMatch_append m hl _ _ (hq _ ht)
    · exact noMatch_allWs_append m hws _ _ hsep ih
    · exact wsHead_of_allWs_append _ _ hsep hne

/-- a string in which none of the three patterns matches is left alone by every subset of the substitutions -/
theorem applySubs_of_noMatch (sb : Subs) {s : Str} (hc : NoMatch mComma s) (hh : NoMatch mHyphen s) (hd : NoMatch mDot s) :
    applySubs sb s = s := by
  have h1 : subCommaDecimal s = s := reSub_id _ _ hc
  have h2 : subRunOnHyphen s = s := reSub_id _ _ hh
  have h3 : subRunOnDot s = s := reSub_id _ _ hd
  unfold applySubs
  simp only [h1, h2, h3, ite_self]

theorem applySubs_core (sb : Subs) {toks : List Str} {s : Str} (h : Core toks s) : applySubs sb s = s :=
  applySubs_of_noMatch sb (core_noMatch mComma mComma_local mComma_ws (fun _ ht => ht.comma) h)
    (core_noMatch mHyphen mHyphen_local mHyphen_ws (fun _ ht => ht.hyphen) h)
    (core_noMatch mDot mDot_local mDot_ws (fun _ ht => ht.dot) h)

theorem scanTok_core (m : Str → Option (Str × Nat)) (hws : ∀ w r, isPySpace w = true → m (w :: r) = none)
    (htk : TakesToken m) {toks : List Str} {s : Str} (h : Core toks s) (post : Str) (hpost : AllWs post) :
    scanTok m 0 (s ++ post) = toks := by
  induction h with
  | @one t ht =>
    obtain ⟨c, cs, rfl⟩ := List.exists_cons_of_ne_nil ht.ne
    rw [scanTok_take m c cs post (htk c cs post ht.chars (wsHead_allWs post hpost)), scanTok_allWs_nil m hws post hpost]
  | @cons t sep rest ts ht hne hsep _ ih =>
    obtain ⟨c, cs, rfl⟩ := List.exists_cons_of_ne_nil ht.ne
    rw [List.append_assoc, List.append_assoc,
      scanTok_take m c cs _ (htk c cs _ ht.chars (wsHead_of_allWs_append _ _ hsep hne)), scanTok_allWs m hws sep _ hsep, ih]

theorem filter_ctrlZ_core {toks : List Str} {s : Str} (h : Core toks s) : s.filter (· != ctrlZ) = s := by
  rw [List.filter_eq_self]
  intro c hc
  have := (core_chars h c hc).2
  simpa using this

/-! ### lines of the body -/

/-- a data line: optional blanks, the tokens `toks` separated by blanks, optional blanks (the line end `\n` / `\r\n` included) -/
def RowLine (toks : List Str) (ln : Str) : Prop :=
  ∃ pre core post, AllWs pre ∧ AllWs post ∧ Core toks core ∧ ln = pre ++ (core ++ post)

/-- a blank line or a `#` comment line -/
def SkipLine (ln : Str) : Prop := AllWs ln ∨ ∃ pre rest, AllWs pre ∧ ln = pre ++ '#' :: rest

theorem isComment_cons (c : Char) (cs : Str) : isComment (c :: cs) = ('#' == c) := by
  simp [isComment, startsWith, List.isPrefixOf]

theorem takeWhile_all (p : Char → Bool) (l : Str) (h : ∀ x ∈ l, p x = true) : l.takeWhile p = l :=
  (Lasio.takeWhile_all l h).1

theorem core_not_comment {toks : List Str} {s : Str} (h : Core toks s) : isComment s = false := by
  obtain ⟨c, cs, rfl, hc⟩ := core_head_tok h
  have h1 := (tokChar_parts c hc).2.2.2.1
  have hne : c ≠ '#' := by simpa using h1
  rw [isComment_cons, beq_eq_false_iff_ne]
  exact fun e => hne e.symm

theorem core_ne_nil {toks : List Str} {s : Str} (h : Core toks s) : s.isEmpty = false := by
  obtain ⟨c, cs, rfl, _⟩ := core_head_tok h
  rfl

theorem rowLine_clean {toks : List Str} {ln : Str} (h : RowLine toks ln) : ∃ core, Core toks core ∧ cleanLine ln = core := by
  obtain ⟨pre, core, post, hpre, hpost, hcore, rfl⟩ := h
  exact ⟨core, hcore, cleanLine_sandwich pre core post hpre hpost (core_solid hcore)⟩

theorem splitWs_core {toks : List Str} {s : Str} (h : Core toks s) : splitWs s = toks := by
  have := scanTok_core (mSplit isPySpace) mSplit_ws mSplit_takes h [] (by intro c hc; simp at hc)
  simpa [splitWs] using this

/-- what a data line gives under delimiter `dlm`, whichever substitutions are active: the items `toks` to the normal engine,
and to the sniffer a sample that counts as many -/
structure LineToks (dlm : Dlm) (toks : List Str) (ln : Str) : Prop where
  items : ∀ sb, lineTokens sb dlm ln = toks
  sample : ∃ l, sampleLine ln = some l ∧ ∀ sb, (splitLine dlm (applySubs sb l)).length = toks.length

/-- a line that cleans to a row of quiet tokens which the splitter of `dlm` takes apart -/
theorem lineToks_of_core {dlm : Dlm} {toks : List Str} {ln core : Str} (hcl : cleanLine ln = core) (hcore : Core toks core)
    (hsplit : splitLine dlm core = toks) : LineToks dlm toks ln := by
  constructor
  · intro sb
    unfold lineTokens
    simp only [hcl, core_not_comment hcore, applySubs_core sb hcore, filter_ctrlZ_core hcore, core_ne_nil hcore,
      Bool.false_eq_true, ↓reduceIte, hsplit]
  · refine ⟨core, ?_, fun sb => by rw [applySubs_core sb hcore, hsplit]⟩
    unfold sampleLine
    simp [hcl, core_not_comment hcore, core_ne_nil hcore]

theorem RowLine.lineToks {toks : List Str} {ln : Str} (h : RowLine toks ln) : LineToks .space toks ln := by
  obtain ⟨core, hcore, hcl⟩ := rowLine_clean h
  exact lineToks_of_core hcl hcore (splitWs_core hcore)

theorem allWs_no_hash (s : Str) (h : AllWs s) : ∀ c ∈ s, (c != '#') = true := by
  intro c hc
  simp [bne, ws_ne_hash c (h c hc)]

theorem npTokens_row {toks : List Str} {ln : Str} (h : RowLine toks ln) : npTokens ln = toks := by
  obtain ⟨pre, core, post, hpre, hpost, hcore, rfl⟩ := h
  unfold npTokens
  have : (pre ++ (core ++ post)).takeWhile (· != '#') = pre ++ (core ++ post) := by
    apply Dt.takeWhile_all
    intro c hc
    simp only [List.mem_append] at hc
    rcases hc with hc | hc | hc
    · exact allWs_no_hash pre hpre c hc
    · simp [bne, (core_chars hcore c hc).1]
    · exact allWs_no_hash post hpost c hc
  rw [this]
  unfold pySplit
  rw [scanTok_allWs mWord mWord_ws pre _ hpre]
  exact scanTok_core mWord mWord_ws mWord_takes hcore post hpost

theorem lineTokens_skip (sb : Subs) (dlm : Dlm) {ln : Str} (h : SkipLine ln) : lineTokens sb dlm ln = [] := by
  unfold lineTokens
  rcases h with h | ⟨pre, rest, hpre, rfl⟩
  · rw [cleanLine_blank ln h]
    have : applySubs sb [] = [] := applySubs_of_noMatch sb (noMatch_nil _ rfl) (noMatch_nil _ rfl) (noMatch_nil _ rfl)
    simp [isComment, startsWith, this]
  · obtain ⟨r, hr⟩ := cleanLine_comment pre rest hpre
    simp [hr, isComment, startsWith]

theorem sampleLine_skip {ln : Str} (h : SkipLine ln) : sampleLine ln = none := by
  unfold sampleLine
  rcases h with h | ⟨pre, rest, hpre, rfl⟩
  · simp [cleanLine_blank ln h]
  · obtain ⟨r, hr⟩ := cleanLine_comment pre rest hpre
    simp [hr, isComment, startsWith]

theorem npTokens_skip {ln : Str} (h : SkipLine ln) : npTokens ln = [] := by
  unfold npTokens pySplit
  rcases h with h | ⟨pre, rest, hpre, rfl⟩
  · have : ln.takeWhile (· != '#') = ln := by
      exact Dt.takeWhile_all _ ln (allWs_no_hash ln h)
    rw [this, scanTok_allWs_nil mWord mWord_ws ln h]
  · have : (pre ++ '#' :: rest).takeWhile (· != '#') = pre := by
      apply Dt.takeWhile_append_stop _ _ _ (allWs_no_hash pre hpre)
      exact Or.inr ⟨'#', rest, rfl, by decide⟩
    rw [this, scanTok_allWs_nil mWord mWord_ws pre hpre]

end Lasio.Dt

-- kept under `Tf`: the transformation files (C09) use these lemmas about `pySplit` and its words by these names
namespace Lasio.Tf
open Lasio Lasio.Dt

theorem allWs_nil : AllWs [] := fun _ h => by cases h

theorem allWs_append {a b : Str} (ha : AllWs a) (hb : AllWs b) : AllWs (a ++ b) := by
  intro c hc
  rcases List.mem_append.mp hc with h | h
  · exact ha c h
  · exact hb c h

theorem allWs_cons {c : Char} {s : Str} (hc : isPySpace c = true) (hs : AllWs s) : AllWs (c :: s) := by
  intro x hx
  rcases List.mem_cons.mp hx with rfl | h
  · exact hc
  · exact hs x h

theorem allWs_of_cons {c : Char} {s : Str} (h : AllWs (c :: s)) : isPySpace c = true ∧ AllWs s :=
  ⟨h c (by simp), fun x hx => h x (by simp [hx])⟩

/-! ### `pySplit` (= `str.split()`): its three defining equations, words -/

/-- not a blank -/
abbrev ns (c : Char) : Bool := !isPySpace c

theorem pySplit_nil : pySplit [] = [] := rfl

theorem pySplit_ws (c : Char) (cs : Str) (h : isPySpace c = true) : pySplit (c :: cs) = pySplit cs := by
  simp [pySplit, scanTok, mWord, h]

theorem pySplit_word (c : Char) (cs : Str) (h : isPySpace c = false) :
    pySplit (c :: cs) = (c :: cs.takeWhile ns) :: pySplit (cs.dropWhile ns) := by
  have e : cs = cs.takeWhile ns ++ cs.dropWhile ns := (List.takeWhile_append_dropWhile (p := ns) (l := cs)).symm
  simp only [pySplit, scanTok, mWord, h, Bool.false_eq_true, if_false]
  congr 1
  have := scanTok_skip mWord (cs.takeWhile ns) (cs.dropWhile ns)
  rw [← e] at this
  exact this

theorem pySplit_allWs (a : Str) (ha : AllWs a) : pySplit a = [] := by
  induction a with
  | nil => rfl
  | cons c a ih =>
    obtain ⟨hc, ha'⟩ := allWs_of_cons ha
    rw [pySplit_ws c a hc]; exact ih ha'

theorem pySplit_ws_left (a s : Str) (ha : AllWs a) : pySplit (a ++ s) = pySplit s := by
  induction a with
  | nil => rfl
  | cons c a ih =>
    obtain ⟨hc, ha'⟩ := allWs_of_cons ha
    rw [List.cons_append, pySplit_ws c _ hc]; exact ih ha'

theorem dropWhile_head (p : Char → Bool) (l : Str) :
    l.dropWhile p = [] ∨ ∃ c cs, l.dropWhile p = c :: cs ∧ p c = false := by
  have := List.head?_dropWhile_not p l
  cases h : l.dropWhile p with
  | nil => exact .inl rfl
  | cons c cs => rw [h] at this; exact .inr ⟨c, cs, rfl, this⟩

theorem wsHead_dropWhile_ns (cs : Str) : WsHead (cs.dropWhile ns) :=
  Or.imp_right (fun ⟨c, r, e, hc⟩ => ⟨c, r, e, by simpa [ns] using hc⟩) (dropWhile_head ns cs)

theorem mem_takeWhile_p {α} (p : α → Bool) (l : List α) (x : α) (h : x ∈ l.takeWhile p) : p x = true :=
  List.all_eq_true.mp List.all_takeWhile x h

/-- a word: not empty, no blank inside -/
def IsWord (w : Str) : Prop := w ≠ [] ∧ ∀ c ∈ w, isPySpace c = false

/-- a word, then the end or a blank: `str.split()` gives the word and goes on behind it -/
theorem pySplit_word_append {w t : Str} (hw : IsWord w) (ht : WsHead t) : pySplit (w ++ t) = w :: pySplit t := by
  obtain ⟨c, cs, rfl⟩ := List.exists_cons_of_ne_nil hw.1
  have hcs : ∀ x ∈ cs, ns x = true := fun x hx => by simp [ns, hw.2 x (List.mem_cons_of_mem _ hx)]
  obtain ⟨e1, e2⟩ := span_append_stop ns cs t (ht.stops fun w h => by simp [ns, h])
  rw [List.cons_append, pySplit_word c _ (hw.2 c List.mem_cons_self), e1, e2, (Lasio.takeWhile_all cs hcs).1,
    (Lasio.takeWhile_all cs hcs).2]
  rfl

theorem pySplit_isWord (w : Str) (h : IsWord w) : pySplit w = [w] := by
  have := pySplit_word_append h (.inl rfl)
  rwa [List.append_nil] at this

/-! ### induction along the words of a string -/

theorem words_induction (P : Str → Prop) (nil : P [])
    (ws : ∀ c cs, isPySpace c = true → P cs → P (c :: cs))
    (word : ∀ w tail, IsWord w → WsHead tail → pySplit (w ++ tail) = w :: pySplit tail → P tail → P (w ++ tail)) :
    ∀ s, P s := by
  intro s
  induction hn : s.length using Nat.strongRecOn generalizing s with
  | _ n ih =>
    cases s with
    | nil => exact nil
    | cons c cs =>
      cases hc : isPySpace c with
      | true => exact ws c cs hc (ih cs.length (by subst hn; simp) cs rfl)
      | false =>
        have e : c :: cs = (c :: cs.takeWhile ns) ++ cs.dropWhile ns := by
          rw [List.cons_append, List.takeWhile_append_dropWhile]
        have hw : IsWord (c :: cs.takeWhile ns) := by
          refine ⟨by simp, ?_⟩
          intro x hx
          rcases List.mem_cons.mp hx with rfl | hx
          · exact hc
          · have := mem_takeWhile_p ns cs x hx
            simpa [ns] using this
        rw [e]
        refine word _ _ hw (wsHead_dropWhile_ns cs) (by rw [← e]; exact pySplit_word c cs hc) ?_
        exact ih (cs.dropWhile ns).length (by
          subst hn
          have := (List.dropWhile_sublist ns (l := cs)).length_le
          simp only [List.length_cons]; omega) _ rfl

/-- `str.split()` ignores what follows a blank only through the following words -/
theorem pySplit_append (s b : Str) (hb : WsHead b) : pySplit (s ++ b) = pySplit s ++ pySplit b := by
  induction s using words_induction with
  | nil => rfl
  | ws c cs hc ih => rw [List.cons_append, pySplit_ws c _ hc, pySplit_ws c _ hc, ih]
  | word w tail hw ht hsp ih =>
    have ht' : WsHead (tail ++ b) := by
      rcases ht with rfl | ⟨x, r, rfl, hx⟩
      · exact hb
      · exact .inr ⟨x, r ++ b, rfl, hx⟩
    rw [hsp, List.append_assoc, pySplit_word_append hw ht', ih]
    rfl

theorem pySplit_ws_right (s b : Str) (hb : AllWs b) : pySplit (s ++ b) = pySplit s := by
  rw [pySplit_append s b (wsHead_allWs b hb), pySplit_allWs b hb, List.append_nil]

theorem mem_pySplit_isWord (s : Str) : ∀ w ∈ pySplit s, IsWord w := by
  induction s using words_induction with
  | nil => intro w hw; cases hw
  | ws c cs hc ih => rw [pySplit_ws c _ hc]; exact ih
  | word w tail hw _ hsp ih =>
    rw [hsp]
    intro x hx
    rcases List.mem_cons.mp hx with rfl | hx
    · exact hw
    · exact ih x hx

/-- a word followed by a blank run -/
theorem pySplit_word_sep (w sep rest : Str) (hw : IsWord w) (hsep : AllWs sep) (hne : sep ≠ []) :
    pySplit (w ++ (sep ++ rest)) = w :: pySplit rest := by
  rw [pySplit_word_append hw (wsHead_of_allWs_append sep rest hsep hne), pySplit_ws_left sep rest hsep]

end Lasio.Tf

namespace Lasio.Dt

/-! ### plain decimal tokens are quiet -/

def plainChar (c : Char) : Bool := isDigit c || c == '+' || c == '-' || c == '.' || c == 'e' || c == 'E'

def noDigitHyphen : Str → Bool
  | a :: b :: rest => !(isUDigit a && b == '-') && noDigitHyphen (b :: rest)
  | _ => true

/-- Characters `0-9 + - . e E` only, not empty, at most one `.`, no digit immediately before a `-`.
Every plain decimal number `[+-]?(\d+\.?\d*|\.\d+)([eE][+-]?\d+)?` satisfies this: its only `-` signs stand first or after `e`/`E`. -/
def simplePlain (t : Str) : Bool :=
  !t.isEmpty && t.all plainChar && decide (t.count '.' ≤ 1) && noDigitHyphen t

theorem toNat_tokChar (c : Char) (h1 : 33 ≤ c.toNat) (h2 : c.toNat ≤ 126) (h3 : c.toNat ≠ 34) (h4 : c.toNat ≠ 39)
    (h5 : c.toNat ≠ 35) : tokChar c = true := by
  have e : ∀ d : Char, c = d → c.toNat = d.toNat := fun d h => by rw [h]
  unfold tokChar isPySpace
  simp only [Bool.and_eq_true, Bool.not_eq_true', bne_iff_ne, ne_eq, Bool.or_eq_false_iff, Bool.and_eq_false_iff,
    decide_eq_false_iff_not, beq_eq_false_iff_ne]
  refine ⟨⟨⟨⟨?_, ?_⟩, ?_⟩, ?_⟩, ?_⟩
  · omega
  · intro h; have := e _ h; simp at this; omega
  · intro h; have := e _ h; simp at this; omega
  · intro h; have := e _ h; simp at this; omega
  · intro h; have := e _ h; simp [ctrlZ] at this; omega

theorem plainChar_tokChar (c : Char) (h : plainChar c = true) : tokChar c = true := by
  unfold plainChar at h
  simp only [Bool.or_eq_true, beq_iff_eq] at h
  rcases h with ((((h | rfl) | rfl) | rfl) | rfl) | rfl
  · obtain ⟨a, b⟩ := (isDigit_iff c).mp h
    exact toNat_tokChar c (by omega) (by omega) (by omega) (by omega) (by omega)
  all_goals decide

theorem plainChar_ne (c d : Char) (h : plainChar c = true) (hd : plainChar d = false) : (c == d) = false := by
  rw [beq_eq_false_iff_ne]; intro e; subst e; simp [h] at hd

theorem mem_of_suffix {s t : Str} (h : s <:+ t) {c : Char} (hc : c ∈ s) : c ∈ t := h.subset hc

theorem noMatch_comma_simple (t : Str) (h : ∀ c ∈ t, plainChar c = true) : NoMatch mComma t := by
  intro s hs
  match s, hs with
  | [], _ => rfl
  | [_], _ => rfl
  | [_, _], _ => rfl
  | a :: p :: b :: r, hs =>
    have hp : plainChar p = true := h p (mem_of_suffix hs (by simp))
    simp [mComma, plainChar_ne p ',' hp (by decide)]

theorem noDigitHyphen_suffix (t s : Str) (h : noDigitHyphen t = true) (hs : s <:+ t) : noDigitHyphen s = true := by
  induction t with
  | nil => have : s = [] := by simpa using hs
           subst this; rfl
  | cons c cs ih =>
    rw [List.suffix_cons_iff] at hs
    rcases hs with rfl | hs
    · exact h
    · apply ih _ hs
      cases cs with
      | nil => rfl
      | cons b r => simp only [noDigitHyphen, Bool.and_eq_true] at h; exact h.2

theorem noMatch_hyphen_simple (t : Str) (h : noDigitHyphen t = true) : NoMatch mHyphen t := by
  intro s hs
  have := noDigitHyphen_suffix t s h hs
  match s, this with
  | [], _ => rfl
  | [_], _ => rfl
  | [_, _], _ => rfl
  | a :: p :: b :: r, hn =>
    simp only [noDigitHyphen, Bool.and_eq_true, Bool.not_eq_true', Bool.and_eq_false_iff] at hn
    rcases hn.1 with ha | hp
    · simp [mHyphen, ha]
    · simp [mHyphen, hp]

theorem digitsThenDot_count (s : Str) (n : Nat) (r : Str) (h : digitsThenDot s = some (n, r)) :
    s.count '.' = r.count '.' + 1 := by
  induction s generalizing n with
  | nil => simp [digitsThenDot] at h
  | cons c cs ih =>
    simp only [digitsThenDot] at h
    split at h
    · rename_i hc
      simp only [beq_iff_eq] at hc
      simp only [Option.some.injEq, Prod.mk.injEq] at h
      obtain ⟨_, rfl⟩ := h
      subst hc
      simp
    · rename_i hc
      split at h
      · cases hd : digitsThenDot cs with
        | none => simp [hd] at h
        | some nr =>
          simp only [hd, Option.map_some, Option.some.injEq, Prod.mk.injEq] at h
          obtain ⟨_, rfl⟩ := h
          have := ih nr.1 (by rw [hd])
          have hne : c ≠ '.' := by simpa using hc
          rw [List.count_cons_of_ne hne]
          exact this
      · simp at h

theorem dotTail_count (neg : Nat) (s : Str) (n : Nat) (h : dotTail neg s = some n) : 2 ≤ s.count '.' := by
  unfold dotTail at h
  split at h
  · rename_i d1 s3 h1
    split at h
    · rename_i d2 s5 h2
      have a := digitsThenDot_count s d1 s3 h1
      have b := digitsThenDot_count s3 d2 s5 h2
      omega
    · simp at h
  · simp at h

theorem mDotAlt1_count (s : Str) (n : Nat) (h : mDotAlt1 s = some n) : 2 ≤ s.count '.' := by
  cases s with
  | nil => simp [mDotAlt1] at h
  | cons c cs =>
    simp only [mDotAlt1] at h
    split at h
    · have := dotTail_count 1 cs n h
      have : cs.count '.' ≤ (c :: cs).count '.' := by
        rw [List.count_cons]; omega
      omega
    · exact dotTail_count 0 (c :: cs) n h

theorem noMatch_dot_simple (t : Str) (h : ∀ c ∈ t, plainChar c = true) (hd : t.count '.' ≤ 1) : NoMatch mDot t := by
  intro s hs
  unfold mDot
  cases h1 : mDotAlt1 s with
  | some n =>
    have := mDotAlt1_count s n h1
    have := hs.sublist.count_le '.'
    omega
  | none =>
    simp only
    have : mDotAlt2 s = none := by
      match s, hs with
      | [], _ | [_], _ | [_, _], _ | [_, _, _], _ | [_, _, _, _], _ => rfl
      | c1 :: c2 :: c3 :: p :: d :: rest, hs =>
        have hp : plainChar c1 = true := h c1 (mem_of_suffix hs (by simp))
        simp [mDotAlt2, plainChar_ne c1 'N' hp (by decide)]
    rw [this]

theorem quietTok_of_simple (t : Str) (h : simplePlain t = true) : QuietTok t := by
  unfold simplePlain at h
  simp only [Bool.and_eq_true, Bool.not_eq_true', List.all_eq_true, decide_eq_true_eq] at h
  obtain ⟨⟨⟨h1, h2⟩, h3⟩, h4⟩ := h
  exact {
    ne := by intro e; subst e; simp at h1
    chars := fun c hc => plainChar_tokChar c (h2 c hc)
    comma := noMatch_comma_simple t h2
    hyphen := noMatch_hyphen_simple t h4
    dot := noMatch_dot_simple t h2 h3 }

/-! ## Part 3: the r × c matrix, plain data sections (domain of C02) -/

/-- the r × c matrix as typed columns: column j holds the j-th entry of every row -/
def matrixColumns (ft : FloatTable) (c : Nat) (rows : List (List Str)) : List Column :=
  (List.range c).map fun j => typedColumn ft (rows.map fun r => r.getD j [])

theorem matrixColumns_eq (ft : FloatTable) (c : Nat) (rows : List (List Str)) :
    matrixColumns ft c rows = (columnsOf c rows).map (typedColumn ft) := by
  simp [matrixColumns, columnsOf, columnOf]

theorem matrixColumns_length (ft : FloatTable) (c : Nat) (rows : List (List Str)) : (matrixColumns ft c rows).length = c := by
  rw [matrixColumns, List.length_map, List.length_range]

theorem matrixColumns_getElem? (ft : FloatTable) {c j : Nat} (hj : j < c) (rows : List (List Str)) :
    (matrixColumns ft c rows)[j]? = some (typedColumn ft (rows.map fun r => r.getD j [])) := by
  rw [matrixColumns, List.getElem?_map, List.getElem?_range hj]
  rfl

theorem mem_matrixColumns_length {ft : FloatTable} {c : Nat} {rows : List (List Str)} {col : Column}
    (h : col ∈ matrixColumns ft c rows) : col.length = rows.length := by
  rw [matrixColumns_eq] at h
  obtain ⟨x, hx, rfl⟩ := List.mem_map.mp h
  rw [typedColumn_length]
  exact mem_columnsOf_length _ _ x hx

/-- Normal engine, `n_columns = c`, flat token sequence = the row-major flattening of an r × c matrix (r ≥ 1, c ≥ 1):
the result is the c columns of the matrix, column j = the j-th entries of the rows. -/
theorem normalEngineLines_matrix (ft : FloatTable) (sb : Subs) (dlm : Dlm) (body : List Str) (rows : List (List Str)) (c : Nat)
    (hc : 0 < c) (hr : rows ≠ []) (hrows : ∀ r ∈ rows, r.length = c)
    (htoks : normalTokens sb dlm body = rows.flatten) :
    normalEngineLines ft sb dlm c body = .ok (matrixColumns ft c rows) := by
  unfold normalEngineLines
  simp only [htoks]
  have hlen := length_flatten_eq c rows hrows
  have hne : rows.flatten.isEmpty = false := by
    cases rows with
    | nil => exact absurd rfl hr
    | cons r rs =>
      have : r.length = c := hrows r (by simp)
      cases r with
      | nil => simp at this; omega
      | cons a t => rfl
  simp only [hne, Bool.false_eq_true, ↓reduceIte, hc, hlen, Nat.mul_mod_left, bne_self_eq_false]
  rw [reshape_flatten c hc rows hrows, matrixColumns_eq]

end Lasio.Dt

/-! ### `readData` on a window given by its body -/
-- kept under `Tf`: the transformation files use `Tf.sniffB`, `Tf.normalRead`, `Tf.readBody` and their lemmas by these names
namespace Lasio.Tf
open Lasio Lasio.Dt

theorem drop_at (A : List Str) (t : Str) (rest : List Str) : (A ++ t :: rest).drop (A.length + 1) = rest := by
  rw [← List.drop_drop, List.drop_left]; rfl

theorem bodyLines_at (A : List Str) (t : Str) (b after : List Str) :
    bodyLines (A ++ t :: (b ++ after)) A.length (A.length + b.length) = b := by
  unfold bodyLines
  rw [drop_at, show A.length + b.length - A.length = b.length by omega, List.take_left]

/-- the sniffer on the body -/
def sniffB (sb : Subs) (dlm : Dlm) (body : List Str) : SniffResult :=
  let sampled := (body.filterMap sampleLine).take 21
  { count := consistent (sampled.map fun l => (splitLine dlm (applySubs sb l)).length),
    hyphenFired := sampled.all (fun l => l.contains '-') }

theorem sniffColumns_body (sb : Subs) (dlm : Dlm) (lines : List Str) (first last : Nat) :
    sniffColumns sb dlm lines first last = sniffB sb dlm (bodyLines lines first last) := rfl

def sniffTwiceB (sb : Subs) (dlm : Dlm) (body : List Str) : Subs × Option Nat :=
  let r1 := sniffB sb dlm body
  if r1.hyphenFired && sb.dropHyphen != sb then (sb.dropHyphen, (sniffB sb.dropHyphen dlm body).count) else (sb, r1.count)

theorem sniffTwice_body (sb : Subs) (dlm : Dlm) (lines : List Str) (first last : Nat) :
    sniffTwice sb dlm lines first last = sniffTwiceB sb dlm (bodyLines lines first last) := rfl

/-- the end of `readData`: NULL and the assignment to curves -/
def finishCols (o : DataOpts) (st : Steer) (d : Nat) (e : Engine) (cols : List Column) : Engine × List (Slot × Column) :=
  (e, assignCurves d (applyNull (o.nullPolicy == .strict) st.nullValue cols))

/-- the normal engine's way through `readData`, on the body -/
def normalRead (o : DataOpts) (st : Steer) (d : Nat) (ft : FloatTable) (body : List Str) :
    Except DErr (Engine × List (Slot × Column)) :=
  (normalEngineLines ft (sniffTwiceB (readSubs st.delimiter) st.delimiter body).1 st.delimiter
    (readerColumns st d (sniffTwiceB (readSubs st.delimiter) st.delimiter body).2) body).map (finishCols o st d .normal)

/-- `readData` on the body `b` of a window and the lines `after` it -/
def readBody (o : DataOpts) (st : Steer) (d : Nat) (ft : FloatTable) (b after : List Str) :
    Except DErr (Engine × List (Slot × Column)) :=
  match effectiveEngine o st with
  | .numpy =>
    match numpyEngineLines ft b.length (b ++ after) with
    | some cols => .ok (finishCols o st d .numpy cols)
    | none => normalRead o st d ft b
  | .normal => normalRead o st d ft b

/-- `readData` looks at the body of its window (and, the numpy engine, at the lines after it) only -/
theorem readData_window (o : DataOpts) (A : List Str) (t : Str) (b after : List Str) (st : Steer) (d : Nat) (ft : FloatTable) :
    readData o (A ++ t :: (b ++ after)) A.length (A.length + b.length) st d ft = readBody o st d ft b after := by
  have e : A.length + b.length - A.length = b.length := by omega
  unfold readData readBody normalRead normalEngine numpyEngine
  simp only [sniffTwice_body, bodyLines_at, drop_at, e]
  rfl

/-! ### the numpy engine through the rows it sees -/

/-- the token rows `genfromtxt` sees: lines without tokens are skipped -/
def npRows (lines : List Str) : List (List Str) := (lines.map npTokens).filter (fun t => !t.isEmpty)

def collectRows (c : Nat) : Nat → List (List Str) → Option (List (List Str))
  | 0, _ => some []
  | _ + 1, [] => some []
  | b + 1, t :: rest => if t.length != c then none else (collectRows c b rest).map (t :: ·)

theorem npRows_nil : npRows [] = [] := rfl

theorem npRows_cons (ln : Str) (rest : List Str) :
    npRows (ln :: rest) = if (npTokens ln).isEmpty then npRows rest else npTokens ln :: npRows rest := by
  unfold npRows
  simp only [List.map_cons, List.filter_cons]
  cases (npTokens ln).isEmpty <;> simp

theorem npRows_append (a b : List Str) : npRows (a ++ b) = npRows a ++ npRows b := by
  simp [npRows]

theorem npRows_ne (lines : List Str) : ∀ r ∈ npRows lines, r ≠ [] := by
  intro r hr
  unfold npRows at hr
  have := (List.mem_filter.mp hr).2
  intro e; subst e; simp at this

theorem npCollect_rows (c b : Nat) (lines : List Str) : npCollect c b lines = collectRows c b (npRows lines) := by
  induction lines generalizing b with
  | nil => cases b <;> rfl
  | cons ln rest ih =>
    cases b with
    | zero => simp [npCollect, collectRows]
    | succ b =>
      rw [npRows_cons]
      cases he : (npTokens ln).isEmpty with
      | true => simp only [npCollect, he, if_true]; exact ih (b + 1)
      | false => simp only [npCollect, he, Bool.false_eq_true, if_false, collectRows, ih b]

theorem npFirstCount_rows (lines : List Str) : npFirstCount lines = (npRows lines).head?.map List.length := by
  induction lines with
  | nil => rfl
  | cons ln rest ih =>
    rw [npRows_cons]
    cases he : (npTokens ln).isEmpty with
    | true => simp only [npFirstCount, he, if_true]; exact ih
    | false => simp [npFirstCount, he]

/-- `numpyEngineLines` as a function of the rows -/
def numpyRows (ft : FloatTable) (m : Nat) (rows : List (List Str)) : Option (List Column) :=
  if m < 1 then none
  else
    match rows.head? with
    | none => some []
    | some r =>
      match collectRows r.length m rows with
      | none => none
      | some rs => allFloatCols ft (columnsOf r.length rs)

theorem numpyEngineLines_rows (ft : FloatTable) (m : Nat) (lines : List Str) :
    numpyEngineLines ft m lines = numpyRows ft m (npRows lines) := by
  unfold numpyEngineLines numpyRows
  rw [npFirstCount_rows]
  cases (npRows lines).head? with
  | none => rfl
  | some r => simp only [Option.map_some, npCollect_rows]; rfl

theorem collectRows_some (c b : Nat) (rows rs : List (List Str)) (h : collectRows c b rows = some rs) : rs = rows.take b := by
  induction rows generalizing b rs with
  | nil => cases b <;> simp [collectRows] at h <;> simp [h]
  | cons t rest ih =>
    cases b with
    | zero => simp [collectRows] at h; simp [h]
    | succ b =>
      simp only [collectRows] at h
      split at h
      · cases h
      · cases hc : collectRows c b rest with
        | none => simp [hc] at h
        | some r2 =>
          simp [hc] at h
          subst h
          simp [ih b r2 hc]

theorem collectRows_take (c b : Nat) (rows : List (List Str)) : collectRows c b (rows.take b) = collectRows c b rows := by
  induction rows generalizing b with
  | nil => simp
  | cons t rest ih =>
    cases b with
    | zero => simp [collectRows]
    | succ b => simp only [List.take_succ_cons, collectRows, ih b]

theorem collectRows_ge (c b b' : Nat) (rows : List (List Str)) (h : rows.length ≤ b) (h' : rows.length ≤ b') :
    collectRows c b rows = collectRows c b' rows := by
  induction rows generalizing b b' with
  | nil => cases b <;> cases b' <;> rfl
  | cons t rest ih =>
    cases b with
    | zero => simp at h
    | succ b =>
      cases b' with
      | zero => simp at h'
      | succ b' =>
        simp only [collectRows]
        rw [ih b b' (by simpa using h) (by simpa using h')]

/-- only the first `m` rows matter -/
theorem numpyRows_take (ft : FloatTable) (m : Nat) (rows : List (List Str)) (hm : 1 ≤ m) :
    numpyRows ft m (rows.take m) = numpyRows ft m rows := by
  unfold numpyRows
  have hh : (rows.take m).head? = rows.head? := by
    cases rows with
    | nil => simp
    | cons r rs => cases m with
      | zero => omega
      | succ m => simp
  rw [hh]
  cases rows.head? with
  | none => rfl
  | some r => simp only [collectRows_take]

/-- a budget beyond the number of rows changes nothing -/
theorem numpyRows_ge (ft : FloatTable) (m m' : Nat) (rows : List (List Str)) (h1 : 1 ≤ m) (h1' : 1 ≤ m')
    (h : rows.length ≤ m) (h' : rows.length ≤ m') : numpyRows ft m rows = numpyRows ft m' rows := by
  unfold numpyRows
  have e1 : ¬ m < 1 := by omega
  have e2 : ¬ m' < 1 := by omega
  simp only [e1, e2, if_false]
  cases rows.head? with
  | none => rfl
  | some r => simp only [collectRows_ge _ m m' rows h h']

/-- a row whose first token is not a number, within the budget: `genfromtxt` raises -/
theorem numpyRows_bad (ft : FloatTable) (m : Nat) (r1 : List (List Str)) (t : Str) (ts : List Str) (rest : List (List Str))
    (hne : ∀ r ∈ r1, r ≠ []) (hlt : r1.length < m) (hnf : toFloat ft t = none) :
    numpyRows ft m (r1 ++ (t :: ts) :: rest) = none := by
  unfold numpyRows
  have e1 : ¬ m < 1 := by omega
  simp only [e1, if_false]
  cases hh : (r1 ++ (t :: ts) :: rest).head? with
  | none => cases r1 <;> simp at hh
  | some r =>
    simp only
    have hr : r ≠ [] := by
      cases r1 with
      | nil => simp at hh; subst hh; simp
      | cons a r1' => simp at hh; subst hh; exact hne _ (by simp)
    have hc : 0 < r.length := List.length_pos_iff.mpr hr
    cases hcol : collectRows r.length m (r1 ++ (t :: ts) :: rest) with
    | none => rfl
    | some rs =>
      simp only
      have hrs := collectRows_some _ _ _ _ hcol
      have hmem : (t :: ts) ∈ rs := by
        rw [hrs, List.take_append]
        apply List.mem_append_right
        have : m - r1.length = (m - r1.length - 1) + 1 := by omega
        rw [this, List.take_succ_cons]
        simp
      have hcol0 : columnOf rs 0 ∈ columnsOf r.length rs := by
        simp only [columnsOf, List.mem_map, List.mem_range]
        exact ⟨0, hc, rfl⟩
      apply allFloatCols_none_of_mem ft _ _ t hcol0 _ hnf
      simp only [columnOf, List.mem_map]
      exact ⟨t :: ts, hmem, rfl⟩

/-- what may follow a data window: nothing, or a line whose first token is not a number (a title line) -/
def AfterOK (ft : FloatTable) (after : List Str) : Prop :=
  after = [] ∨ ∃ ln rest t ts, after = ln :: rest ∧ npTokens ln = t :: ts ∧ toFloat ft t = none

theorem npRows_length_le (b : List Str) : (npRows b).length ≤ b.length := by
  unfold npRows
  have := List.length_filter_le (fun t : List Str => !t.isEmpty) (b.map npTokens)
  simpa using this

theorem collectRows_all (c b : Nat) (rows : List (List Str)) (h : ∀ r ∈ rows, r.length = c) (hb : rows.length ≤ b) :
    collectRows c b rows = some rows := by
  induction rows generalizing b with
  | nil => cases b <;> rfl
  | cons t rest ih =>
    cases b with
    | zero => simp at hb
    | succ b =>
      rw [collectRows, if_neg (by simp [h t List.mem_cons_self]),
        ih b (fun r hr => h r (List.mem_cons_of_mem _ hr)) (by simpa using hb)]
      rfl

/-- rows of one length `c`, all within the budget: the all-float conversion of exactly these rows -/
theorem numpyRows_rect (ft : FloatTable) {c m : Nat} {rows : List (List Str)} (hne : rows ≠ [])
    (h : ∀ r ∈ rows, r.length = c) (hm : rows.length ≤ m) : numpyRows ft m rows = allFloatCols ft (columnsOf c rows) := by
  obtain ⟨r, rs, rfl⟩ := List.exists_cons_of_ne_nil hne
  rw [numpyRows, if_neg (by simp at hm; omega)]
  simp only [List.head?_cons, h r List.mem_cons_self, collectRows_all c m _ h hm]

/-- no skipped line in the body, or nothing after it: the numpy engine makes of the window what it makes of the rows of the
body alone -/
theorem numpy_full (ft : FloatTable) (b after : List Str) (h : b.length = (npRows b).length ∨ after = []) (hr : npRows b ≠ []) :
    numpyEngineLines ft b.length (b ++ after) = numpyRows ft (npRows b).length (npRows b) := by
  have hle := npRows_length_le b
  have hpos := List.length_pos_iff.mpr hr
  rw [numpyEngineLines_rows, npRows_append]
  rcases h with heq | rfl
  · rw [← numpyRows_take ft b.length _ (by omega), heq, List.take_left]
  · rw [npRows_nil, List.append_nil]
    exact numpyRows_ge ft _ _ _ (by omega) hpos hle (Nat.le_refl _)

/-- a skipped line in the body and a following line whose first token is not a number: `genfromtxt` reads on and raises -/
theorem numpy_raises (ft : FloatTable) (b after : List Str) (hafter : AfterOK ft after) (hne : after ≠ [])
    (hlt : (npRows b).length < b.length) : numpyEngineLines ft b.length (b ++ after) = none := by
  rcases hafter with rfl | ⟨ln, rest, t, ts, rfl, htok, hnf⟩
  · exact absurd rfl hne
  · have hrows : npRows (ln :: rest) = (t :: ts) :: npRows rest := by rw [npRows_cons, htok]; rfl
    rw [numpyEngineLines_rows, npRows_append, hrows]
    exact numpyRows_bad ft _ _ t ts _ (npRows_ne b) hlt hnf

/-- the numpy engine on a window with at least one row: what it makes of the rows of the body alone, or an exception -/
theorem numpy_cases (ft : FloatTable) (b after : List Str) (hafter : AfterOK ft after) (hr : npRows b ≠ []) :
    numpyEngineLines ft b.length (b ++ after) = numpyRows ft (npRows b).length (npRows b) ∨
    numpyEngineLines ft b.length (b ++ after) = none := by
  by_cases h : b.length = (npRows b).length ∨ after = []
  · exact .inl (numpy_full ft b after h hr)
  · rw [not_or] at h
    exact .inr (numpy_raises ft b after hafter h.2 (by have := npRows_length_le b; omega))

/-- no row at all: no column or an exception -/
theorem numpy_cases_empty (ft : FloatTable) (b after : List Str) (hafter : AfterOK ft after) (hr : npRows b = []) :
    numpyEngineLines ft b.length (b ++ after) = some [] ∨ numpyEngineLines ft b.length (b ++ after) = none := by
  by_cases hm : b.length < 1
  · exact .inr (by rw [numpyEngineLines, if_pos hm])
  · by_cases ha : after = []
    · subst ha
      rw [numpyEngineLines_rows, npRows_append, hr]
      exact .inl (by simp [numpyRows, hm, npRows_nil])
    · exact .inr (numpy_raises ft b after hafter ha (by rw [hr]; exact Nat.not_lt.mp hm))

end Lasio.Tf

namespace Lasio.Dt

/-- `Body c body rows`: the body lines are blank lines, comment lines and data lines of `c` quiet tokens; `rows` are the token
rows of the data lines in order -/
inductive Body (c : Nat) : List Str → List (List Str) → Prop
  | nil : Body c [] []
  | skip {ln : Str} {ls : List Str} {rows : List (List Str)} : SkipLine ln → Body c ls rows → Body c (ln :: ls) rows
  | row {ln : Str} {toks : List Str} {ls : List Str} {rows : List (List Str)} :
      RowLine toks ln → toks.length = c → Body c ls rows → Body c (ln :: ls) (toks :: rows)

structure PlainData (ft : FloatTable) (body after : List Str) (c : Nat) (rows : List (List Str)) : Prop where
  body : Body c body rows
  cpos : 0 < c
  rne : rows ≠ []
  /-- end of file, or a next line whose first token is not a number (a `~` title line) -/
  next : after = [] ∨ ∃ ln rest t ts, after = ln :: rest ∧ npTokens ln = t :: ts ∧ toFloat ft t = none

/-- every token is a number for `float()` -/
def Numeric (ft : FloatTable) (rows : List (List Str)) : Prop := ∀ r ∈ rows, ∀ t ∈ r, (toFloat ft t).isSome

/-- body lines under delimiter `dlm`: skipped lines, and data lines that give the rows, of `c` items each -/
inductive LineRows (dlm : Dlm) (c : Nat) : List Str → List (List Str) → Prop
  | nil : LineRows dlm c [] []
  | skip {ln : Str} {ls : List Str} {rows : List (List Str)} : SkipLine ln → LineRows dlm c ls rows → LineRows dlm c (ln :: ls) rows
  | row {ln : Str} {toks : List Str} {ls : List Str} {rows : List (List Str)} :
      LineToks dlm toks ln → toks.length = c → LineRows dlm c ls rows → LineRows dlm c (ln :: ls) (toks :: rows)

theorem Body.lineRows {c : Nat} {body : List Str} {rows : List (List Str)} (h : Body c body rows) :
    LineRows .space c body rows := by
  induction h with
  | nil => exact .nil
  | skip hs _ ih => exact .skip hs ih
  | row hr hl _ ih => exact .row hr.lineToks hl ih

theorem lineRows_rows_len {dlm : Dlm} {c : Nat} {body : List Str} {rows : List (List Str)} (h : LineRows dlm c body rows) :
    ∀ r ∈ rows, r.length = c := by
  induction h with
  | nil => exact fun _ hr => nomatch hr
  | skip _ _ ih => exact ih
  | row _ hl _ ih => exact fun r hr => (List.mem_cons.mp hr).elim (fun e => e ▸ hl) (ih r)

theorem body_rows_len {c : Nat} {body : List Str} {rows : List (List Str)} (h : Body c body rows) :
    ∀ r ∈ rows, r.length = c :=
  lineRows_rows_len h.lineRows

theorem lineRows_normalTokens (sb : Subs) {dlm : Dlm} {c : Nat} {body : List Str} {rows : List (List Str)}
    (h : LineRows dlm c body rows) : normalTokens sb dlm body = rows.flatten := by
  induction h with
  | nil => rfl
  | skip hs _ ih =>
    simp only [normalTokens, List.flatMap_cons, lineTokens_skip sb dlm hs, List.nil_append]
    exact ih
  | row hr _ _ ih =>
    simp only [normalTokens, List.flatMap_cons, hr.items sb, List.flatten_cons]
    rw [← ih]; rfl

theorem body_normalTokens (sb : Subs) {c : Nat} {body : List Str} {rows : List (List Str)} (h : Body c body rows) :
    normalTokens sb .space body = rows.flatten :=
  lineRows_normalTokens sb h.lineRows

/-- the sniffer's sample: one entry per data line, each counting `c` items whatever substitutions are active -/
theorem lineRows_sample {dlm : Dlm} {c : Nat} {body : List Str} {rows : List (List Str)} (h : LineRows dlm c body rows) :
    (body.filterMap sampleLine).length = rows.length ∧
    ∀ l ∈ body.filterMap sampleLine, ∀ sb, (splitLine dlm (applySubs sb l)).length = c := by
  induction h with
  | nil => simp
  | skip hs _ ih => simp only [List.filterMap_cons, sampleLine_skip hs]; exact ih
  | row hr hl _ ih =>
    obtain ⟨l, h1, h2⟩ := hr.sample
    simp only [List.filterMap_cons, h1, List.length_cons, List.mem_cons]
    refine ⟨by omega, ?_⟩
    intro x hx sb
    rcases hx with rfl | hx
    · rw [h2 sb, hl]
    · exact ih.2 x hx sb

theorem consistent_const (l : List Nat) (c : Nat) (hne : l ≠ []) (h : ∀ x ∈ l, x = c) : consistent l = some c := by
  cases l with
  | nil => exact absurd rfl hne
  | cons n rest =>
    have hn : n = c := h n (by simp)
    subst hn
    have : rest.all (· == n) = true := by
      rw [List.all_eq_true]; intro x hx; simp [h x (by simp [hx])]
    simp [consistent, this]

/-! ### the sniffer on plain data -/

theorem sniffB_lineRows (sb : Subs) {dlm : Dlm} {body : List Str} {c : Nat} {rows : List (List Str)}
    (h : LineRows dlm c body rows) (hr : rows ≠ []) : (Tf.sniffB sb dlm body).count = some c := by
  obtain ⟨hlen, hcnt⟩ := lineRows_sample h
  unfold Tf.sniffB
  apply consistent_const
  · intro e
    have : ((body.filterMap sampleLine).take 21).length = 0 := by
      have := congrArg List.length e
      simpa using this
    rw [List.length_take, hlen] at this
    cases rows with
    | nil => exact hr rfl
    | cons r rs => simp at this
  · intro x hx
    simp only [List.mem_map] at hx
    obtain ⟨l, hl, rfl⟩ := hx
    exact hcnt l (List.mem_of_mem_take hl) sb

theorem sniffTwiceB_lineRows (sb : Subs) {dlm : Dlm} {body : List Str} {c : Nat} {rows : List (List Str)}
    (h : LineRows dlm c body rows) (hr : rows ≠ []) : ∃ sb', Tf.sniffTwiceB sb dlm body = (sb', some c) := by
  unfold Tf.sniffTwiceB
  simp only
  split
  · exact ⟨_, by rw [sniffB_lineRows sb.dropHyphen h hr]⟩
  · exact ⟨_, by rw [sniffB_lineRows sb h hr]⟩

/-! ### the numpy engine on plain data -/

theorem getD_mem {r : List Str} {j : Nat} (hj : j < r.length) : r.getD j [] ∈ r := by
  rw [List.getD_eq_getElem?_getD, List.getElem?_eq_getElem hj]
  exact List.getElem_mem hj

/-- a numeric r × c matrix: `genfromtxt`'s all-float conversion gives the typed columns -/
theorem allFloatCols_matrix {ft : FloatTable} {c : Nat} {rows : List (List Str)} (hrows : ∀ r ∈ rows, r.length = c)
    (hnum : Numeric ft rows) : allFloatCols ft (columnsOf c rows) = some (matrixColumns ft c rows) := by
  rw [matrixColumns_eq]
  apply allFloatCols_of_all
  intro col hcol t ht
  obtain ⟨j, hj, rfl⟩ := List.mem_map.mp hcol
  obtain ⟨r, hr, rfl⟩ := List.mem_map.mp ht
  exact hnum r hr _ (getD_mem (by rw [hrows r hr]; exact List.mem_range.mp hj))


theorem body_npRows {c : Nat} {body : List Str} {rows : List (List Str)} (h : Body c body rows) (hc : 0 < c) :
    Tf.npRows body = rows := by
  induction h with
  | nil => rfl
  | skip hs _ ih => rw [Tf.npRows_cons, npTokens_skip hs, ih]; rfl
  | @row ln toks ls rows hr hl _ ih =>
    rw [Tf.npRows_cons, npTokens_row hr, ih]
    cases toks with
    | nil => exact absurd hl.symm (Nat.ne_of_gt hc)
    | cons _ _ => rfl

/-- the numpy engine gives the matrix columns, or raises; it never gives anything else -/
theorem numpy_plain {ft : FloatTable} {body after : List Str} {c : Nat} {rows : List (List Str)} (h : PlainData ft body after c rows) :
    numpyEngineLines ft body.length (body ++ after) = some (matrixColumns ft c rows) ∨
    numpyEngineLines ft body.length (body ++ after) = none := by
  obtain rfl := body_npRows h.body h.cpos
  rcases Tf.numpy_cases ft body after h.next h.rne with e | e
  · rw [e, Tf.numpyRows_rect ft h.rne (body_rows_len h.body) (Nat.le_refl _)]
    cases hall : allFloatCols ft (columnsOf c (Tf.npRows body)) with
    | none => exact .inr rfl
    | some out => rw [allFloatCols_eq ft _ out hall, matrixColumns_eq]; exact .inl rfl
  · exact .inr e

/-- no blank/comment line in the body, or nothing after the window, and numeric tokens: genfromtxt succeeds -/
theorem numpy_plain_ok {ft : FloatTable} {body after : List Str} {c : Nat} {rows : List (List Str)} (h : PlainData ft body after c rows)
    (hnum : Numeric ft rows) (hpath : body.length = rows.length ∨ after = []) :
    numpyEngineLines ft body.length (body ++ after) = some (matrixColumns ft c rows) := by
  obtain rfl := body_npRows h.body h.cpos
  rw [Tf.numpy_full ft body after hpath h.rne, Tf.numpyRows_rect ft h.rne (body_rows_len h.body) (Nat.le_refl _)]
  exact allFloatCols_matrix (body_rows_len h.body) hnum

/-- the curves `readData` builds from the matrix -/
def plainResult (ft : FloatTable) (p : NullPolicy) (st : Steer) (d c : Nat) (rows : List (List Str)) : List (Slot × Column) :=
  assignCurves d (applyNull (p == .strict) st.nullValue (matrixColumns ft c rows))

theorem readerColumns_plain (st : Steer) (d c : Nat) (hw : st.wrapped ≠ yesTxt) : readerColumns st d (some c) = c := by
  have : (st.wrapped == yesTxt) = false := by simpa using hw
  simp [readerColumns, this]

theorem effectiveEngine_normal (p : NullPolicy) (st : Steer) : effectiveEngine ⟨.normal, p⟩ st = .normal := by
  unfold effectiveEngine; split <;> rfl

theorem effectiveEngine_numpy_strict {st : Steer} (hw : st.wrapped ≠ yesTxt) : effectiveEngine ⟨.numpy, .strict⟩ st = .numpy := by
  have : (st.wrapped == yesTxt) = false := by simpa using hw
  simp [effectiveEngine, this]

/-! ### `readData` on a window whose body both engines read as the matrix `rows`

`hl` serves the sniffer and the normal engine under the file's delimiter; `h` (where present) the numpy engine, which never
looks at the delimiter. -/

/-- the normal engine's way through `readData` on such a body (WRAP ≠ YES) -/
theorem normalRead_lineRows (o : DataOpts) (ft : FloatTable) {st : Steer} (d : Nat) {body : List Str} {c : Nat}
    {rows : List (List Str)} (hl : LineRows st.delimiter c body rows) (hc : 0 < c) (hr : rows ≠ []) (hw : st.wrapped ≠ yesTxt) :
    Tf.normalRead o st d ft body = .ok (.normal, plainResult ft o.nullPolicy st d c rows) := by
  obtain ⟨sb', hs⟩ := sniffTwiceB_lineRows (readSubs st.delimiter) hl hr
  simp only [Tf.normalRead, hs, readerColumns_plain st d c hw,
    normalEngineLines_matrix ft sb' _ body rows c hc hr (lineRows_rows_len hl) (lineRows_normalTokens sb' hl)]
  rfl

/-- what `readData` returns when the normal engine runs (WRAP ≠ YES) -/
theorem readData_plain_normal (ft : FloatTable) (e : Engine) (p : NullPolicy) (st : Steer) (d : Nat) (pre : List Str) (title : Str)
    {body : List Str} (after : List Str) {c : Nat} {rows : List (List Str)} (hl : LineRows st.delimiter c body rows)
    (hc : 0 < c) (hr : rows ≠ []) (hw : st.wrapped ≠ yesTxt) (heng : effectiveEngine ⟨e, p⟩ st = .normal) :
    readData ⟨e, p⟩ (pre ++ title :: (body ++ after)) pre.length (pre.length + body.length) st d ft =
      .ok (.normal, plainResult ft p st d c rows) := by
  rw [Tf.readData_window, Tf.readBody, heng]
  exact normalRead_lineRows _ ft d hl hc hr hw

/-- the engines agree: the numpy engine gives the matrix columns or raises, and then the normal engine gives them -/
theorem readData_plain_agree (ft : FloatTable) (p : NullPolicy) (st : Steer) (d : Nat) (pre : List Str) (title : Str)
    {body after : List Str} {c : Nat} {rows : List (List Str)} (h : PlainData ft body after c rows)
    (hl : LineRows st.delimiter c body rows) :
    (readData ⟨.numpy, p⟩ (pre ++ title :: (body ++ after)) pre.length (pre.length + body.length) st d ft).map Prod.snd =
    (readData ⟨.normal, p⟩ (pre ++ title :: (body ++ after)) pre.length (pre.length + body.length) st d ft).map Prod.snd := by
  rw [Tf.readData_window, Tf.readData_window, Tf.readBody, Tf.readBody, effectiveEngine_normal]
  cases heff : effectiveEngine ⟨.numpy, p⟩ st with
  | normal => rfl -- wrapped file or non-strict policy: the same engine runs in both cases
  | numpy =>
    have hw : st.wrapped ≠ yesTxt := by
      intro e
      have : effectiveEngine ⟨.numpy, p⟩ st = .normal := by simp [effectiveEngine, e]
      rw [heff] at this
      cases this
    simp only [normalRead_lineRows _ ft d hl h.cpos h.rne hw]
    rcases numpy_plain h with hnpy | hnpy <;> rw [hnpy] <;> rfl

/-- no silent fallback: numeric, WRAP ≠ YES, strict policy, and no blank/comment line in the body or nothing after the window -/
theorem readData_plain_numpy (ft : FloatTable) (st : Steer) (d : Nat) (pre : List Str) (title : Str)
    {body after : List Str} {c : Nat} {rows : List (List Str)} (h : PlainData ft body after c rows) (hnum : Numeric ft rows)
    (hw : st.wrapped ≠ yesTxt) (hpath : body.length = rows.length ∨ after = []) :
    readData ⟨.numpy, .strict⟩ (pre ++ title :: (body ++ after)) pre.length (pre.length + body.length) st d ft =
      .ok (.numpy, plainResult ft .strict st d c rows) := by
  rw [Tf.readData_window, Tf.readBody, effectiveEngine_numpy_strict hw]
  simp only [numpy_plain_ok h hnum hpath]
  rfl

/-- fallback: a blank/comment line inside the body and a following section -/
theorem readData_plain_fallback (ft : FloatTable) (st : Steer) (d : Nat) (pre : List Str) (title : Str)
    {body after : List Str} {c : Nat} {rows : List (List Str)} (h : PlainData ft body after c rows)
    (hl : LineRows st.delimiter c body rows) (hw : st.wrapped ≠ yesTxt)
    (hskip : rows.length < body.length) (hafter : after ≠ []) :
    numpyEngine ft (pre ++ title :: (body ++ after)) pre.length (pre.length + body.length) = none ∧
    readData ⟨.numpy, .strict⟩ (pre ++ title :: (body ++ after)) pre.length (pre.length + body.length) st d ft =
      .ok (.normal, plainResult ft .strict st d c rows) := by
  have hn := Tf.numpy_raises ft body after h.next hafter (by rw [body_npRows h.body h.cpos]; exact hskip)
  refine ⟨by rw [numpyEngine, Tf.drop_at, Nat.add_sub_cancel_left]; exact hn, ?_⟩
  rw [Tf.readData_window, Tf.readBody, effectiveEngine_numpy_strict hw]
  simp only [hn]
  exact normalRead_lineRows _ ft d hl h.cpos h.rne hw

/-! ### data sections without any data row (r = 0) -/

theorem body_of_skips (c : Nat) (body : List Str) (h : ∀ ln ∈ body, SkipLine ln) : Body c body [] := by
  induction body with
  | nil => exact Body.nil
  | cons ln ls ih => exact Body.skip (h ln (by simp)) (ih (fun l hl => h l (by simp [hl])))

theorem normal_empty (ft : FloatTable) (sb : Subs) (n : Nat) (body : List Str) (h : ∀ ln ∈ body, SkipLine ln) :
    normalEngineLines ft sb .space n body = .ok [] := by
  unfold normalEngineLines
  rw [body_normalTokens sb (body_of_skips 1 body h)]
  simp

/-! ## Part 4: rectangular results -/

def Rect (cols : List Column) : Prop := ∃ L, ∀ c ∈ cols, c.length = L

theorem normalEngineLines_rect (ft : FloatTable) (sb : Subs) (dlm : Dlm) (n : Nat) (body : List Str) (cols : List Column)
    (h : normalEngineLines ft sb dlm n body = .ok cols) : Rect cols := by
  unfold normalEngineLines at h
  generalize normalTokens sb dlm body = toks at h
  by_cases he : toks.isEmpty = true
  · simp [he] at h; subst h; exact ⟨0, by simp⟩
  · simp only [he, Bool.false_eq_true, ↓reduceIte] at h
    split at h
    · split at h
      · simp at h
      · simp only [Except.ok.injEq] at h
        subst h
        refine ⟨(reshape n toks).length, ?_⟩
        intro c hc
        simp only [List.mem_map] at hc
        obtain ⟨col, hcol, rfl⟩ := hc
        rw [typedColumn_length]
        exact mem_columnsOf_length _ _ col hcol
    · simp at h

theorem numpyEngineLines_rect (ft : FloatTable) (maxRows : Nat) (rest : List Str) (cols : List Column)
    (h : numpyEngineLines ft maxRows rest = some cols) : Rect cols := by
  unfold numpyEngineLines at h
  split at h
  · simp at h
  · split at h
    · simp only [Option.some.injEq] at h; subst h
      exact ⟨0, by simp [Column.length]⟩
    · rename_i c _
      split at h
      · simp at h
      · rename_i rows _
        have := allFloatCols_eq ft _ cols h
        subst this
        refine ⟨rows.length, ?_⟩
        intro col hc
        simp only [List.mem_map] at hc
        obtain ⟨x, hx, rfl⟩ := hc
        rw [typedColumn_length]
        exact mem_columnsOf_length _ _ x hx

theorem assignCurves_rect (d : Nat) (cols : List Column) (h : Rect cols) :
    ∀ sc ∈ assignCurves d cols, sc.2.length = curveLength cols := by
  obtain ⟨L, hL⟩ := h
  intro sc hsc
  simp only [assignCurves, List.mem_append, List.mem_map] at hsc
  rcases hsc with hsc | ⟨j, _, rfl⟩
  · have hmem : sc.2 ∈ cols := by
      have : sc.2 ∈ (assignFrom d 0 cols).map Prod.snd := List.mem_map_of_mem hsc
      rwa [assignFrom_snd] at this
    cases cols with
    | nil => simp at hmem
    | cons c cs =>
      simp only [curveLength]
      rw [hL _ hmem, hL c (by simp)]
  · simp [nanColumn, Column.length]

/-! ## helpers for concrete examples -/

theorem quiet_digit (s : String) (h : simplePlain s.toList = true) : QuietTok s.toList := quietTok_of_simple _ h

theorem allWs_dec (s : Str) (h : s.all isPySpace = true) : AllWs s := by
  intro c hc; exact List.all_eq_true.mp h c hc

/-! ## the plain decimal grammar is inside `simplePlain` -/

def pDots : PState → Nat
  | .start | .sign | .int => 1
  | _ => 0

def pPrevDigit : PState → Bool
  | .int | .frac | .expDigits => true
  | _ => false

def ndh : Bool → Str → Bool
  | _, [] => true
  | pd, c :: cs => !(pd && c == '-') && ndh (isUDigit c) cs

theorem noDigitHyphen_eq_ndh (s : Str) : noDigitHyphen s = ndh false s := by
  have : ∀ (a : Char) (s : Str), noDigitHyphen (a :: s) = ndh (isUDigit a) s := by
    intro a s
    induction s generalizing a with
    | nil => rfl
    | cons b r ih => simp only [noDigitHyphen, ndh, ih]
  cases s with
  | nil => rfl
  | cons a r => simp [ndh, this]

theorem isDigit_isUDigit (c : Char) (h : isDigit c = true) : isUDigit c = true := by
  obtain ⟨a, b⟩ := (isDigit_iff c).mp h
  unfold isUDigit
  simp only [Bool.or_eq_true, Bool.and_eq_true, decide_eq_true_eq]
  left; left; exact ⟨a, b⟩

theorem isDigit_ne (c d : Char) (h : isDigit c = true) (hd : isDigit d = false) : (c == d) = false := by
  rw [beq_eq_false_iff_ne]; intro e; subst e; simp [h] at hd

theorem charClass_facts (c : Char) (h : charClass c ≠ .other) :
    plainChar c = true ∧ (c == '.') = (charClass c == .dot) ∧ isUDigit c = (charClass c == .digit) ∧
      ((c == '-') = true → charClass c = .sg) := by
  unfold charClass at h ⊢
  by_cases h1 : isDigit c = true
  · rw [if_pos h1]
    exact ⟨by simp [plainChar, h1], isDigit_ne c '.' h1 (by decide), isDigit_isUDigit c h1,
      fun h' => by rw [isDigit_ne c '-' h1 (by decide)] at h'; cases h'⟩
  · rw [if_neg h1] at h ⊢
    by_cases h2 : (c == '.') = true
    · rw [beq_iff_eq] at h2; subst h2; decide
    · rw [if_neg h2] at h ⊢
      by_cases h3 : (c == 'e' || c == 'E') = true
      · rw [Bool.or_eq_true, beq_iff_eq, beq_iff_eq] at h3
        rcases h3 with rfl | rfl <;> decide
      · rw [if_neg h3] at h ⊢
        by_cases h4 : (c == '+' || c == '-') = true
        · rw [Bool.or_eq_true, beq_iff_eq, beq_iff_eq] at h4
          rcases h4 with rfl | rfl <;> decide
        · rw [if_neg h4] at h; exact absurd rfl h

/-- the transition table: a dot uses up the one dot allowed, the new state remembers whether a digit was read, a sign is
only read where the previous character was no digit, and no transition reads a character outside the alphabet -/
theorem pStep_facts {q q' : PState} {cl : CharClass} (h : pStep q cl = some q') :
    pDots q' + (if cl == .dot then 1 else 0) ≤ pDots q ∧ pPrevDigit q' = (cl == .digit) ∧
      (cl = .sg → pPrevDigit q = false) ∧ cl ≠ .other := by
  revert h
  cases q <;> cases cl <;> rintro ⟨⟩ <;> decide

theorem pRun_inv (q : PState) (s : Str) (h : pRun q s = true) :
    (∀ c ∈ s, plainChar c = true) ∧ s.count '.' ≤ pDots q ∧ ndh (pPrevDigit q) s = true := by
  induction s generalizing q with
  | nil => exact ⟨fun _ hc => (List.not_mem_nil hc).elim, Nat.zero_le _, rfl⟩
  | cons c cs ih =>
    rw [pRun] at h
    cases hs : pStep q (charClass c) with
    | none => rw [hs] at h; cases h
    | some q' =>
      rw [hs] at h
      obtain ⟨i1, i2, i3⟩ := ih q' h
      obtain ⟨t1, t2, t3, t4⟩ := pStep_facts hs
      obtain ⟨f1, f2, f3, f4⟩ := charClass_facts c t4
      refine ⟨fun x hx => ?_, ?_, ?_⟩
      · rcases List.mem_cons.mp hx with rfl | hx
        · exact f1
        · exact i1 x hx
      · rw [List.count_cons, f2]
        exact Nat.le_trans (Nat.add_le_add_right i2 _) t1
      · have hm : (pPrevDigit q && c == '-') = false := by
          cases hc : c == '-' with
          | false => exact Bool.and_false _
          | true => exact (Bool.and_true _).trans (t3 (f4 hc))
        rw [ndh, hm, f3, ← t2]
        exact i3

theorem simplePlain_of_grammar (t : Str) (h : isPlainDecimal t = true) : simplePlain t = true := by
  obtain ⟨h1, h2, h3⟩ := pRun_inv .start t h
  have hne : t.isEmpty = false := by
    cases t with
    | nil => simp [isPlainDecimal, pRun, pAccept] at h
    | cons _ _ => rfl
  unfold simplePlain
  simp only [hne, Bool.not_false, Bool.true_and, Bool.and_eq_true, List.all_eq_true, decide_eq_true_eq]
  exact ⟨⟨h1, h2⟩, by rw [noDigitHyphen_eq_ndh]; exact h3⟩

end Lasio.Dt
